import KG.Lemmas.Names
import KG.Gen.C10
/-!
# C10 — Tenant resolution: a host resolves to at most one cluster, and the right one

Model: `KG.Model.Names` (the manager, the controller's queue handler `syncUpstreamCluster` as it is after the
fixes dfb1dc5 / 9025070, host extraction, the TLS wrappers, the admission plug-in's conflict rule).
Predicates: `KG.Spec.Names`.

`lower` stands for `strings.ToLower`; the only fact used about it is idempotence (`hl`).
A *history* is an arbitrary list of handler invocations `(obj.Name, what the lister answers for it)`, i.e. every
interleaving of creates, updates, deletes, retries and superseded (requeued) events the queue can produce.
The theorems about the handler hold after every history (`Reachable`), those about the TLS wrappers in every state;
`c10_admissible` speaks of the histories the admission plug-in lets through.
-/
namespace KG.Props.C10
open KG KG.Model.Names KG.Spec.Names KG.Lemmas.Names

section
variable (lower : Str → Str)

/-- states the controller can be in: any sequence of handler invocations from the empty manager -/
inductive Reachable : Mgr → Prop
  | init : Reachable Mgr.init
  | step (m : Mgr) (name : Str) (latest : Option Spec) :
      Reachable m → Reachable (syncUpstreamCluster lower m name latest).1

theorem reachable_runCalls (m : Mgr) (h : Reachable lower m) (calls : List (Str × Option Spec)) :
    Reachable lower (runCalls lower m calls) := by
  induction calls generalizing m with
  | nil => exact h
  | cons c rest ih =>
    obtain ⟨n, l⟩ := c
    exact ih _ (Reachable.step m n l h)

theorem init_inv : Inv lower Mgr.init := by
  refine ⟨?_, ?_, ?_, ?_, ?_, ?_⟩ <;> intros <;> simp_all [Mgr.init, Mgr.look, alookup]

theorem inv_step (hl : ∀ s, lower (lower s) = lower s) (m : Mgr) (hI : Inv lower m) (name : Str)
    (latest : Option Spec) : Inv lower (syncUpstreamCluster lower m name latest).1 :=
  inv_of_step lower (sync_char lower hl m hI name latest).1 (hl name) hI

/-- for every history: (ii) a key that resolves to a cluster is one of its current server
    names, (iii) every current server name of a served cluster resolves to it, no dangling or stopped
    `ClusterInfo` is served. -/
theorem c10_inv (hl : ∀ s, lower (lower s) = lower s) (m : Mgr) (h : Reachable lower m) : Inv lower m := by
  induction h with
  | init => exact init_inv lower
  | step m name latest _ ih => exact inv_step lower hl m ih name latest

/-- (i) each name resolves to at most one `ClusterInfo`, and each cluster name is served by at
    most one `ClusterInfo`: two keys that resolve to `ClusterInfo`s of the same cluster resolve to the same one. -/
theorem c10_function (hl : ∀ s, lower (lower s) = lower s) (m : Mgr) (h : Reachable lower m) :
    (∀ k p q, m.look k = some p → m.look k = some q → p = q) ∧
    (∀ k k' c, clusterAt m k = some c → clusterAt m k' = some c → m.look k = m.look k') := by
  refine ⟨?_, ?_⟩
  · intro k p q hp hq
    rw [hp] at hq; cases hq; rfl
  · intro k k' c h1 h2
    exact owner_unique lower (c10_inv lower hl m h) h1 h2

/-- the obligations of every handler invocation, from every reachable state:
    `Frame` (names of other clusters are neither captured nor removed nor re-pointed, their `ClusterInfo` is
    untouched), and: a refused/failed event (requeue) changes nothing; a delete event leaves no key resolving to the
    cluster and stops its `ClusterInfo`; an applied event makes exactly the object's names resolve to a running
    `ClusterInfo` carrying the object's names and TLS material. -/
theorem c10_step (hl : ∀ s, lower (lower s) = lower s) (m : Mgr) (h : Reachable lower m) (name : Str)
    (latest : Option Spec) :
    StepOK lower (lower name) latest (syncUpstreamCluster lower m name latest).2.requeue m
      (syncUpstreamCluster lower m name latest).1 :=
  stepOK_of_step lower (sync_char lower hl m (c10_inv lower hl m h) name latest).1 (hl name)

/-- an event for cluster `C` never changes what a name held by another cluster `C' ≠ C`
    resolves to (no capture, no removal), nor that cluster's `ClusterInfo`. -/
theorem c10_frame (hl : ∀ s, lower (lower s) = lower s) (m : Mgr) (h : Reachable lower m) (name : Str)
    (latest : Option Spec) (k : Str) (p : Nat) (ci : CI)
    (hk : m.look k = some p) (hci : m.heap[p]? = some ci) (hne : ci.cluster ≠ lower name) :
    let m' := (syncUpstreamCluster lower m name latest).1
    m'.look k = some p ∧ m'.heap[p]? = some ci ∧ (p ∈ m'.stopped ↔ p ∈ m.stopped) :=
  (c10_step lower hl m h name latest).1.keep k p ci hk hci hne

/-- an event the handler refuses (name conflict) or fails on (requeue) changes nothing. -/
theorem c10_refused_unchanged (hl : ∀ s, lower (lower s) = lower s) (m : Mgr) (h : Reachable lower m) (name : Str)
    (latest : Option Spec) (hr : (syncUpstreamCluster lower m name latest).2.requeue = true) :
    (syncUpstreamCluster lower m name latest).1 = m :=
  (same_of_requeue lower (sync_char lower hl m (c10_inv lower hl m h) name latest).1 hr).1

/-- after a delete event for `C` no key resolves to `C`, whatever host is asked. -/
theorem c10_delete (hl : ∀ s, lower (lower s) = lower s) (m : Mgr) (h : Reachable lower m) (name : Str) :
    let m' := (syncUpstreamCluster lower m name none).1
    (∀ k, clusterAt m' k ≠ some (lower name)) ∧
    (∀ H p ci, resolve lower m' H = some (p, ci) → ci.cluster ≠ lower name) := by
  have hd : Deleted lower (lower name) m (syncUpstreamCluster lower m name none).1 :=
    (c10_step lower hl m h name none).2
  exact ⟨hd.gone, fun H p ci hr hcl => hd.gone _ ((served_iff lower _ _ _).1 ⟨p, ci, hr, hcl⟩)⟩

/-- a creation or update is applied (no requeue) when every name it claims is free or held by its own cluster and `Sync`
    does not fail on it; the converse (a conflict or a failing `Sync` leads to a requeue) is not proved: it is read off
    `syncUpstreamCluster` -/
theorem c10_applied_of_free (hl : ∀ s, lower (lower s) = lower s) (m : Mgr) (h : Reachable lower m) (name : Str)
    (spec : Spec) (hfree : FreeFor m (lower name) (objNames lower (lower name) spec)) (hb : spec.bad = false) :
    (syncUpstreamCluster lower m name (some spec)).2.requeue = false := by
  rw [← Bool.not_eq_true]
  intro hr
  have hs := (sync_char lower hl m (c10_inv lower hl m h) name (some spec)).1
  obtain ⟨_, spec', hlat, hwhy⟩ := same_of_requeue lower hs hr
  cases hlat
  exact hwhy.elim (fun h => h hfree) fun h => Bool.false_ne_true (hb.symm.trans h)

/-! ### during an event ("at every moment") -/

/-- for every history and every event: in EVERY state a concurrent lookup can observe while
    the handler runs (after each `AddWithKey` / `Delete` / `DeleteWithStop` it performs), a name that resolves to
    the same `ClusterInfo` before and after the event — the cluster's own name, every server name an update
    keeps, every name of every other cluster — still resolves to it, and nothing resolves to a `ClusterInfo` it
    resolved to neither before nor after. -/
theorem c10_mid_event (hl : ∀ s, lower (lower s) = lower s) (m : Mgr) (h : Reachable lower m) (name : Str)
    (latest : Option Spec) :
    ∀ s ∈ syncTrace lower m name latest, MidOK m (syncUpstreamCluster lower m name latest).1 s :=
  fun s hs => midOK_of_between ((sync_char lower hl m (c10_inv lower hl m h) name latest).2 s hs)

/-- names of other clusters are untouched at every moment of an event for `name` -/
theorem c10_mid_event_frame (hl : ∀ s, lower (lower s) = lower s) (m : Mgr) (h : Reachable lower m) (name : Str)
    (latest : Option Spec) (k : Str) (p : Nat) (ci : CI)
    (hk : m.look k = some p) (hci : m.heap[p]? = some ci) (hne : ci.cluster ≠ lower name) :
    ∀ s ∈ syncTrace lower m name latest, s.look k = some p := by
  intro s hs
  exact (c10_mid_event lower hl m h name latest s hs).kept k p hk
    (c10_frame lower hl m h name latest k p ci hk hci hne).1

/-- the Boolean mid-event judge holds of the model for every history -/
theorem c10_judge_mid (hl : ∀ s, lower (lower s) = lower s) (m : Mgr) (h : Reachable lower m) (name : Str)
    (latest : Option Spec) :
    (syncTrace lower m name latest).all (fun s => midB m (syncUpstreamCluster lower m name latest).1 s) = true := by
  rw [List.all_eq_true]
  intro s hs
  exact midB_of m _ s (c10_mid_event lower hl m h name latest s hs)

/-! ### the `iff` of the property statement -/

theorem applied_runCalls (hl : ∀ s, lower (lower s) = lower s) (c : Str) (spec : Spec)
    (calls : List (Str × Option Spec)) (m : Mgr) (hR : Reachable lower m) (ha : Applied lower c spec m)
    (hothers : ∀ call ∈ calls, lower call.1 ≠ c) : Applied lower c spec (runCalls lower m calls) := by
  induction calls generalizing m with
  | nil => exact ha
  | cons call rest ih =>
    have hR' : Reachable lower (syncUpstreamCluster lower m call.1 call.2).1 := Reachable.step m _ _ hR
    exact ih _ hR' (applied_preserved lower (c10_inv lower hl _ hR') (Ne.symm (hothers call List.mem_cons_self))
        (c10_step lower hl m hR call.1 call.2).1 ha)
      fun call' hmem => hothers call' (List.mem_cons_of_mem _ hmem)

/-- for EVERY history `calls1`, every object applied for `name` after it (the handler did not ask
    for a requeue), and every continuation `calls2` made of events for other clusters (creates, updates, deletes,
    conflicting or not, with names that overlap, collide, vary in case or move): a request addressed to `H` is
    served by that cluster iff `H` equals, case-insensitively and ignoring the port, its name or one of the
    object's server names; and the serving `ClusterInfo` carries the object's TLS material. -/
theorem c10_iff (hl : ∀ s, lower (lower s) = lower s) (calls1 calls2 : List (Str × Option Spec)) (name : Str)
    (spec : Spec)
    (happ : (syncUpstreamCluster lower (runCalls lower Mgr.init calls1) name (some spec)).2.requeue = false)
    (hothers : ∀ call ∈ calls2, lower call.1 ≠ lower name) :
    let m := runCalls lower (syncUpstreamCluster lower (runCalls lower Mgr.init calls1) name (some spec)).1 calls2
    Applied lower (lower name) spec m ∧
    ∀ H, (∃ p ci, resolve lower m H = some (p, ci) ∧ ci.cluster = lower name) ↔
      lower (hostWithoutPort lower H) ∈ objNames lower (lower name) spec := by
  have hr1 := reachable_runCalls lower _ Reachable.init calls1
  have hs := c10_step lower hl _ hr1 name (some spec)
  rw [happ] at hs
  have hr2 := Reachable.step _ name (some spec) hr1
  have ha3 := applied_runCalls lower hl (lower name) spec calls2 _ hr2 hs.2 hothers
  exact ⟨ha3, iff_of_applied lower _ (c10_inv lower hl _ (reachable_runCalls lower _ hr2 calls2)) _ spec ha3⟩

/-! ### TLS material follows the resolution -/

/-- in every state, `WrapGetConfigForClient` answers with the material of the cluster the SNI
    (or, without SNI, the local IP) resolves to and with the base configuration when there is none;
    `SNIVerifyOptions` answers with the client-CA options of the cluster the request host resolves to. -/
theorem c10_tls (m : Mgr) (base : TLS) (sni localAddr host : Str) :
    wrapGetConfigForClient lower m base sni localAddr =
      (match (if sni.isEmpty then splitHostPort localAddr else some sni) with
       | none => base
       | some hostname => tlsSpec lower m base hostname) ∧
    sniVerifyOptions lower m host = verifySpec lower m host := by
  refine ⟨?_, ?_⟩
  · unfold wrapGetConfigForClient tlsSpec
    simp only
    cases (if sni.isEmpty then splitHostPort localAddr else some sni) with
    | none => rfl
    | some hostname =>
      simp only
      cases m.get lower hostname with
      | none => rfl
      | some pi =>
        obtain ⟨p, _, _, cert, ca⟩ := pi
        cases cert <;> cases ca <;> rfl
  · unfold sniVerifyOptions verifySpec resolve loadVerifyOptions
    cases m.get lower (hostWithoutPort lower host) with
    | none => rfl
    | some pi => rfl

/-- for a cluster applied with object `spec` (in particular after every history of the form
    of `c10_iff`): a handshake whose SNI is one of its names gets the object's serving certificate and client-CA
    pool (the base ones where the object sets none). -/
theorem c10_tls_applied (m : Mgr) (c : Str) (spec : Spec) (ha : Applied lower c spec m) (base : TLS)
    (sni localAddr : Str) (hne : sni.isEmpty = false) (hs : lower sni ∈ objNames lower c spec) :
    wrapGetConfigForClient lower m base sni localAddr =
      (if spec.cert = none ∧ spec.ca = none then base
       else { cert := if spec.cert = none then base.cert else spec.cert,
              ca := if spec.ca = none then base.ca else spec.ca,
              requestClientCert := if spec.ca = none then base.requestClientCert else true }) := by
  obtain ⟨p, ci, _, hcert, hca, hget⟩ := get_of_applied lower ha
  rw [(c10_tls lower m base sni localAddr sni).1, hne]
  simp only [Bool.false_eq_true, if_false]
  unfold tlsSpec
  rw [hget sni hs]
  simp only
  rw [hcert, hca]

/-- … and the verify options for a request host that is one of its names are the object's client CA -/
theorem c10_verify_applied (m : Mgr) (c : Str) (spec : Spec) (ha : Applied lower c spec m)
    (host : Str) (hs : lower (hostWithoutPort lower host) ∈ objNames lower c spec) :
    sniVerifyOptions lower m host = spec.ca := by
  obtain ⟨p, ci, _, _, hca, hget⟩ := get_of_applied lower ha
  unfold sniVerifyOptions
  rw [hget _ hs]
  exact hca

/-- through the wiring the proxy ships (`sniInstalled = true`), with or without a
    control-plane client CA (`cp`, `base.requestClientCert` arbitrary): on a connection whose SNI and request host
    are names of a cluster applied with an object that sets client CA `a`, a client certificate signed by `a` is
    authenticated as its subject, and one signed by any other CA (another cluster's, the control plane's) is
    rejected — never served as anonymous. -/
theorem c10_auth_applied (m : Mgr) (hI : Inv lower m) (c : Str) (spec : Spec) (ha : Applied lower c spec m)
    (a : Nat) (hca : spec.ca = some a) (base : TLS) (cp : Option Nat) (sni localAddr host : Str)
    (hne : sni.isEmpty = false) (hs : lower sni ∈ objNames lower c spec)
    (hh : lower (hostWithoutPort lower host) ∈ objNames lower c spec) (x : Nat) :
    (wiredExchange lower m base cp true sni localAddr host (some x)).2 =
      if x = a then AuthOutcome.user else AuthOutcome.rejected := by
  unfold wiredExchange
  simp only
  rw [c10_tls_applied lower m c spec ha base sni localAddr hne hs]
  have hv := c10_verify_applied lower m c spec ha host hh
  simp only [hca, reduceCtorEq, and_false, if_false, if_true]
  unfold proxyAuthenticate
  simp only [Bool.not_true, Bool.and_false, Bool.false_eq_true, if_false, if_true, hv, hca, x509Authenticate]
  by_cases hx : x = a <;> simp [hx]

/-- a handshake whose (non-empty) SNI resolves to no cluster gets the base configuration -/
theorem c10_tls_unserved (m : Mgr) (base : TLS) (sni localAddr : Str) (hne : sni.isEmpty = false)
    (hg : m.get lower sni = none) : wrapGetConfigForClient lower m base sni localAddr = base := by
  rw [(c10_tls lower m base sni localAddr sni).1, hne]
  simp only [Bool.false_eq_true, if_false]
  unfold tlsSpec
  rw [hg]

/-! ### admissible histories: the manager serves exactly what the current objects say

An *admissible* history is one in which every object written passes the admission plug-in's own rule
(`pluginAdmits`: valid name, parseable secure-serving data, no name shared with another current object) against
the objects existing at that moment, and is handed to the handler before the next write (plus arbitrary
re-deliveries). On such histories no event is ever refused and the served names are exactly the claimed ones.
On other histories (an object created while another cluster still holds one of its names, delayed events, …) what
holds is `c10_inv`, `c10_step`, `c10_iff` above: the refused cluster is not served. -/

inductive AEv
  | apply (name : Str) (spec : Spec)   -- create or update, synced at once
  | delete (name : Str)                -- delete, synced at once
  | resync (name : Str)                -- the queue re-delivers an event for `name`

def applyEv (w : World) : AEv → World
  | .apply n s => ((w.step lower (.set n s)).1.step lower (.sync n)).1
  | .delete n => ((w.step lower (.unset n)).1.step lower (.sync n)).1
  | .resync n => (w.step lower (.sync n)).1

/-- the outcome of the handler invocation the event ends with -/
def evOutcome (w : World) : AEv → Option Outcome
  | .apply n s => ((w.step lower (.set n s)).1.step lower (.sync n)).2
  | .delete n => ((w.step lower (.unset n)).1.step lower (.sync n)).2
  | .resync n => (w.step lower (.sync n)).2

/-- a deletion or re-delivery carries no object for the plug-in to validate, so the lower-cased name is asked of the event itself: an
    event for `N ≠ lower N` would act on the cluster `lower N`, which may be another object's (`hn` of `mirror_step`) -/
def evOK (w : World) : AEv → Prop
  | .apply n s => pluginAdmits lower w.lister n s = true
  | .delete n => lower n = n
  | .resync n => lower n = n

def Admissible (w : World) : List AEv → Prop
  | [] => True
  | e :: rest => evOK lower w e ∧ Admissible (applyEv lower w e) rest

def runEvs (w : World) : List AEv → World
  | [] => w
  | e :: rest => runEvs (applyEv lower w e) rest

structure WInv (w : World) : Prop where
  reach : Reachable lower w.mgr
  mirror : Mirror lower w.lister w.mgr
  valid : ∀ n s, w.lister.get n = some s → lower n = n ∧ s.bad = false

/-- what the three kinds of admissible event share: after the lister changed at a lower-cased `n` only, to a valid object whose names
    are free (or to none), the handler invocation for `n` does not requeue and keeps `WInv` -/
theorem mirror_sync (hl : ∀ s, lower (lower s) = lower s) (w : World) (hW : WInv lower w) (lister' : Lister)
    (n : Str) (hn : lower n = n) (hsame : ∀ n', n' ≠ n → lister'.get n' = w.lister.get n')
    (hobj : ∀ s, lister'.get n = some s → s.bad = false ∧ FreeFor w.mgr (lower n) (objNames lower (lower n) s)) :
    WInv lower ⟨lister', (syncUpstreamCluster lower w.mgr n (lister'.get n)).1⟩ ∧
    (syncUpstreamCluster lower w.mgr n (lister'.get n)).2.requeue = false := by
  have hR' : Reachable lower (syncUpstreamCluster lower w.mgr n (lister'.get n)).1 := Reachable.step _ n _ hW.reach
  have hreq : (syncUpstreamCluster lower w.mgr n (lister'.get n)).2.requeue = false := by
    cases hg : lister'.get n with
    | none => rfl
    | some s => exact c10_applied_of_free lower hl w.mgr hW.reach n s (hobj s hg).2 (hobj s hg).1
  have hstep := c10_step lower hl w.mgr hW.reach n (lister'.get n)
  rw [hreq] at hstep
  refine ⟨⟨hR', mirror_step lower hW.mirror (c10_inv lower hl _ hR') (fun n' s' hg => (hW.valid n' s' hg).1) hn hsame hstep,
    fun n' s' hg => ?_⟩, hreq⟩
  by_cases hne : n' = n
  · subst hne
    exact ⟨hn, (hobj s' hg).1⟩
  · rw [hsame n' hne] at hg
    exact hW.valid n' s' hg

theorem free_of_admitted (hl : ∀ s, lower (lower s) = lower s) (w : World) (hW : WInv lower w) (n : Str) (s : Spec)
    (hconf : pluginConflict lower w.lister n s = false) : FreeFor w.mgr (lower n) (objNames lower (lower n) s) := by
  intro k hk
  cases hcl : clusterAt w.mgr k with
  | none => exact Or.inl rfl
  | some c' =>
    right
    by_cases hcc : c' = lower n
    · rw [hcc]
    · -- `k` is claimed by a current object of another cluster
      obtain ⟨n', s', h1, rfl, hmem⟩ := (mirror_keys lower (c10_inv lower hl _ hW.reach) hW.mirror k c').1 hcl
      exact absurd hk (disjoint_of_noconflict lower hl hconf (lister_mem_of_get _ _ _ h1) hcc hmem)

theorem admissible_step (hl : ∀ s, lower (lower s) = lower s) (w : World) (hW : WInv lower w) (e : AEv)
    (hok : evOK lower w e) :
    WInv lower (applyEv lower w e) ∧ ∀ o, evOutcome lower w e = some o → o.requeue = false := by
  have out : ∀ {x : Outcome}, x.requeue = false → ∀ o, some x = some o → o.requeue = false :=
    fun h o ho => Option.some.inj ho ▸ h
  cases e with
  | apply n s =>
    unfold evOK pluginAdmits at hok
    simp only [Bool.and_eq_true, decide_eq_true_eq, Bool.not_eq_true'] at hok
    obtain ⟨⟨hn, hbad⟩, hconf⟩ := hok
    refine (mirror_sync lower hl w hW (w.lister.set n s) n hn (fun n' hne => ?_) (fun s0 hg0 => ?_)).imp_right out
    · rw [lister_get_set, if_neg (Ne.symm hne)]
    · rw [lister_get_set, if_pos rfl] at hg0
      cases hg0
      exact ⟨hbad, free_of_admitted lower hl w hW n s hconf⟩
  | delete n =>
    refine (mirror_sync lower hl w hW (w.lister.unset n) n hok (fun n' hne => ?_) (fun s0 hg0 => ?_)).imp_right out
    · rw [lister_get_unset, if_neg (Ne.symm hne)]
    · rw [lister_get_unset, if_pos rfl] at hg0
      cases hg0
  | resync n =>
    refine (mirror_sync lower hl w hW w.lister n hok (fun _ _ => rfl)
      (fun s0 hg0 => ⟨(hW.valid n s0 hg0).2, fun k hk =>
        Or.inr ((keys_of_applied lower (c10_inv lower hl _ hW.reach) (hW.mirror.objs n s0 hg0) k).2 hk)⟩)).imp_right out

theorem init_winv : WInv lower World.init := by
  refine ⟨Reachable.init, ⟨?_, ?_⟩, ?_⟩
  · intro n s h; simp [World.init, Lister.get] at h
  · intro k c h; simp [World.init, Mgr.init, clusterAt, Mgr.look, alookup] at h
  · intro n s h; simp [World.init, Lister.get] at h

theorem winv_runEvs (hl : ∀ s, lower (lower s) = lower s) (w : World) (hW : WInv lower w) (evs : List AEv)
    (hadm : Admissible lower w evs) : WInv lower (runEvs lower w evs) := by
  induction evs generalizing w with
  | nil => exact hW
  | cons e rest ih =>
    exact ih _ (admissible_step lower hl w hW e hadm.1).1 hadm.2

/-- for every admissible history: the manager mirrors the lister (every current object is
    applied: served under exactly its names with its TLS material; every served key belongs to a current object),
    hence a request addressed to `H` is served by cluster `c` iff a current object named `c` claims
    `lower (hostWithoutPort lower H)`; and the next admissible event is never refused. -/
theorem c10_admissible (hl : ∀ s, lower (lower s) = lower s) (evs : List AEv)
    (hadm : Admissible lower World.init evs) :
    let w := runEvs lower World.init evs
    Mirror lower w.lister w.mgr ∧
    (∀ H c, (∃ p ci, resolve lower w.mgr H = some (p, ci) ∧ ci.cluster = c) ↔
       ∃ n s, w.lister.get n = some s ∧ lower n = c ∧ lower (hostWithoutPort lower H) ∈ objNames lower c s) ∧
    (∀ e, evOK lower w e → ∀ o, evOutcome lower w e = some o → o.requeue = false) := by
  have hW := winv_runEvs lower hl _ (init_winv lower) evs hadm
  have hI := c10_inv lower hl _ hW.reach
  exact ⟨hW.mirror, fun H c => (served_iff lower _ _ c).trans (mirror_keys lower hI hW.mirror _ c),
    fun e he => (admissible_step lower hl _ hW e he).2⟩

/-! ### the judge the harness evaluates on the real controller's states is implied by the Prop-level statements

(each Boolean twin follows from its predicate: `invB_of`, `stepB_of`, `midB_of`, `mirrorB_of` in `KG.Lemmas.Names`) -/

/-- the Boolean judge (`invB`, `stepB`: what `C10.judge` evaluates on the states observed on the
    real controller) holds of the model for every history and every event. -/
theorem c10_judge (hl : ∀ s, lower (lower s) = lower s) (m : Mgr) (h : Reachable lower m) (name : Str)
    (latest : Option Spec) :
    invB lower (syncUpstreamCluster lower m name latest).1 = true ∧
    stepB lower (lower name) latest (syncUpstreamCluster lower m name latest).2.requeue m
      (syncUpstreamCluster lower m name latest).1 = true :=
  ⟨invB_of lower _ (c10_inv lower hl _ (Reachable.step m name latest h)),
   stepB_of lower _ _ _ _ _ (c10_step lower hl m h name latest)⟩

/-- the judge of admissible histories (`mirrorB`) holds of the model on every admissible history -/
theorem c10_judge_admissible (hl : ∀ s, lower (lower s) = lower s) (evs : List AEv)
    (hadm : Admissible lower World.init evs) :
    mirrorB lower (runEvs lower World.init evs).lister (runEvs lower World.init evs).mgr = true :=
  mirrorB_of lower _ _ (c10_admissible lower hl evs hadm).1

end

/-! ### host and port (ASCII instance of `strings.ToLower`) -/

/-- `asciiLower` satisfies the only hypothesis the theorems make about `strings.ToLower` -/
theorem c10_lower_idem : ∀ s, asciiLower (asciiLower s) = asciiLower s := asciiLower_idem

/-- what `HostWithoutPort` answers only depends on the lower-cased host (case-insensitivity) -/
theorem c10_hostport_case (lower : Str → Str) (H H' : Str) (h : lower H = lower H') :
    hostWithoutPort lower H = hostWithoutPort lower H' := by
  unfold hostWithoutPort; rw [h]

/-- no colon: the whole (lower-cased) string is the host -/
theorem c10_hostport_noport (lower : Str → Str) (H : Str) (h : colon ∉ lower H) :
    hostWithoutPort lower H = lower H := by
  rw [hostWithoutPort_eq, splitHostPort_noport _ h]

/-- `host:port` (no colon or bracket in either part, the port is not inspected): the port is dropped -/
theorem c10_hostport (h p : Str) (h1 : colon ∉ h) (h2 : lbr ∉ h) (h3 : rbr ∉ h)
    (p1 : colon ∉ p) (p2 : lbr ∉ p) (p3 : rbr ∉ p) :
    hostWithoutPort asciiLower (h ++ colon :: p) = asciiLower h := by
  rw [hostWithoutPort_eq]
  have e : asciiLower (h ++ colon :: p) = asciiLower h ++ colon :: asciiLower p := by
    simp [asciiLower, lowerByte, colon]
  rw [e, splitHostPort_plain]
  · exact not_mem_asciiLower (Or.inl rfl) h1
  · exact not_mem_asciiLower (Or.inr (Or.inl rfl)) h2
  · exact not_mem_asciiLower (Or.inr (Or.inr rfl)) h3
  · exact not_mem_asciiLower (Or.inl rfl) p1
  · exact not_mem_asciiLower (Or.inr (Or.inl rfl)) p2
  · exact not_mem_asciiLower (Or.inr (Or.inr rfl)) p3

/-- `[host]:port` (the host may contain colons): brackets and port are dropped -/
theorem c10_hostport_bracket (h p : Str) (h2 : lbr ∉ h) (h3 : rbr ∉ h)
    (p1 : colon ∉ p) (p2 : lbr ∉ p) (p3 : rbr ∉ p) :
    hostWithoutPort asciiLower (lbr :: h ++ rbr :: colon :: p) = asciiLower h := by
  rw [hostWithoutPort_eq]
  have e : asciiLower (lbr :: h ++ rbr :: colon :: p) = lbr :: asciiLower h ++ rbr :: colon :: asciiLower p := by
    simp [asciiLower, lowerByte, colon, lbr, rbr]
  rw [e, splitHostPort_bracket]
  · exact not_mem_asciiLower (Or.inr (Or.inl rfl)) h2
  · exact not_mem_asciiLower (Or.inr (Or.inr rfl)) h3
  · exact not_mem_asciiLower (Or.inl rfl) p1
  · exact not_mem_asciiLower (Or.inr (Or.inl rfl)) p2
  · exact not_mem_asciiLower (Or.inr (Or.inr rfl)) p3

/-- for an applied cluster: `h:port` and `h` alone are each served by it exactly when `asciiLower h` is one of the
    names its object claims, so every case variant of `h` fares alike. -/
theorem c10_iff_port (m : Mgr) (hI : Inv asciiLower m) (c : Str) (spec : Spec) (ha : Applied asciiLower c spec m)
    (h p : Str) (h1 : colon ∉ h) (h2 : lbr ∉ h) (h3 : rbr ∉ h) (p1 : colon ∉ p) (p2 : lbr ∉ p) (p3 : rbr ∉ p) :
    ((∃ q ci, resolve asciiLower m (h ++ colon :: p) = some (q, ci) ∧ ci.cluster = c) ↔
      asciiLower h ∈ objNames asciiLower c spec) ∧
    ((∃ q ci, resolve asciiLower m h = some (q, ci) ∧ ci.cluster = c) ↔
      asciiLower h ∈ objNames asciiLower c spec) := by
  refine ⟨?_, ?_⟩
  · rw [iff_of_applied asciiLower m hI c spec ha, c10_hostport h p h1 h2 h3 p1 p2 p3, asciiLower_idem]
  · rw [iff_of_applied asciiLower m hI c spec ha,
      c10_hostport_noport asciiLower h (not_mem_asciiLower (Or.inl rfl) h1),
      asciiLower_idem]

/-! ### what the sequential model relies on implicitly (facts regenerated from /repo on every run) -/

/-- semantic, three-valued facts (`none` = the extractor does not understand the code; then
    the behavioural streams of the harness are the tie: race cases count handler invocations in flight and judge the
    invariants, auth cases run the shipped wiring with and without --client-ca-file).
    (1) the worker count the controller passes to its queue, executed through `SyncQueue.Run`, starts exactly ONE
    worker: the handler invocations of a gateway form a sequence, which is what `Reachable` quantifies
    over (two concurrent invocations for colliding names can both pass the conflict checks);
    (2) `ToAuthenticationConfig` does not make the SNI verify-options provider conditional on the control plane's
    client-cert configuration, so `proxyAuthenticate … (sniInstalled := true)` is what the shipped proxy builds with
    AND without a control-plane client CA (`c10_auth_applied`);
    (3) a handler result that asks for a requeue (a refused name conflict) is re-delivered for ever — nothing feeds
    the counter `MaxRequeueTimes` is compared with: a refused cluster is looked at again after the conflict ends
    (then `c10_applied_of_free` applies it); nothing else would ever trigger it. -/
theorem c10_wiring_facts :
    (KG.Gen.C10.workersStarted = some 1 ∨ KG.Gen.C10.workersStarted = none) ∧
    KG.Gen.C10.sniProviderWithoutControlPlaneCA ≠ some false ∧
    KG.Gen.C10.requeueAfterCounted ≠ some true := by decide

/-! ### non-vacuity: the hypotheses of the theorems are satisfied by concrete, non-trivial histories -/

section NonVacuous
def sA : Str := [97, 46, 101]      -- "a.e"
def sB : Str := [98, 46, 101]      -- "b.e"
def sX : Str := [88, 46, 69]       -- "X.E"
def sx : Str := [120, 46, 101]     -- "x.e"
def sXport : Str := [88, 46, 69, 58, 52, 52, 51]   -- "X.E:443"

/-- A{X.E} created, B{x.e} refused (conflict up to case), A drops X.E, B retried and applied, A deleted -/
def demoCalls : List (Str × Option Spec) :=
  [ (sA, some { aliases := [sX], cert := some 1, ca := some 1, bad := false }),
    (sB, some { aliases := [sx], cert := some 2, ca := none, bad := false }),
    (sA, some { aliases := [], cert := some 1, ca := some 1, bad := false }),
    (sB, some { aliases := [sx], cert := some 2, ca := none, bad := false }),
    (sA, none) ]

-- the second event is refused, the fourth (same object) is applied: `happ` of `c10_iff` is satisfiable after a
-- non-trivial prefix, and the continuation (an event for another cluster) satisfies `hothers`
example : (syncUpstreamCluster asciiLower (runCalls asciiLower Mgr.init (demoCalls.take 1)) sB
    (some { aliases := [sx], cert := some 2, ca := none, bad := false })).2 = .refused := by decide +kernel
example : (syncUpstreamCluster asciiLower (runCalls asciiLower Mgr.init (demoCalls.take 3)) sB
    (some { aliases := [sx], cert := some 2, ca := none, bad := false })).2.requeue = false := by decide +kernel
example : ∀ call ∈ demoCalls.drop 4, asciiLower call.1 ≠ asciiLower sB := by decide +kernel
-- in the final state X.E:443 is served by b.e with B's certificate
example : (resolve asciiLower (runCalls asciiLower Mgr.init demoCalls) sXport).map (·.2.cluster)
    = some sB := by decide +kernel
example : (wrapGetConfigForClient asciiLower (runCalls asciiLower Mgr.init demoCalls)
    { cert := some 100, ca := some 200, requestClientCert := false } sX []).cert = some 2 := by decide +kernel
-- the Boolean judge is not trivially true: it rejects a state in which a key resolves to a cluster that does not list it
def strayKey : Mgr :=
  { heap := [({ cluster := sA, aliases := [], cert := none, ca := none } : CI)], stopped := [],
    map := [(sA, 0), (sx, 0)] }
example : invB asciiLower strayKey = false := by decide +kernel
-- an update that drops a server name performs exactly one manager write (the Delete of that name) …
example : (syncTrace asciiLower (runCalls asciiLower Mgr.init (demoCalls.take 1)) sA
    (some { aliases := [], cert := some 1, ca := some 1, bad := false })).length = 1 := by decide +kernel
-- … and the mid-event judge rejects an intermediate state in which the kept cluster name is missing
example : midB (runCalls asciiLower Mgr.init (demoCalls.take 1))
    (syncUpstreamCluster asciiLower (runCalls asciiLower Mgr.init (demoCalls.take 1)) sA
      (some { aliases := [], cert := some 1, ca := some 1, bad := false })).1
    { (runCalls asciiLower Mgr.init (demoCalls.take 1)) with map := [] } = false := by decide +kernel
-- an admissible history: A{X.E}, B{}, A drops X.E, B takes x.e, A deleted, B delivered again
example : Admissible asciiLower World.init
    [ .apply sA { aliases := [sX], cert := some 1, ca := none, bad := false },
      .apply sB { aliases := [], cert := none, ca := none, bad := false },
      .apply sA { aliases := [], cert := some 1, ca := none, bad := false },
      .apply sB { aliases := [sx], cert := none, ca := some 2, bad := false },
      .delete sA, .resync sB ] := by
  simp only [Admissible, evOK]
  decide +kernel
-- and an inadmissible write is recognised: B claiming x.e while A holds X.E
example : pluginAdmits asciiLower [(sA, { aliases := [sX], cert := none, ca := none, bad := false })] sB
    { aliases := [sx], cert := none, ca := none, bad := false } = false := by decide +kernel
end NonVacuous

end KG.Props.C10
