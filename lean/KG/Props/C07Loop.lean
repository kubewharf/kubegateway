import KG.Lemmas.LimiterLoop
import KG.Props.C09
import KG.Props.C18
/-!
# C07 in the closed loop "N gateway instances ⇄ sharded limiter server" (`KG.Model.LimiterLoop`)

The theorems about reachable states are about EVERY op history from the initial state (`reach`): reports with arbitrary
strategy outputs, heartbeats, the two clean-up passes at arbitrary times, crashes and returns (old or new identity),
partitions, global limit changes delivered to the server and to each gateway at different times, leadership flaps with
the store discarded / reloaded from the API, for every shard function, store type, number of shards and gateways. The
only hypothesis on histories is `OpOK` (decidable): configured global limits are ≥ 1 and gateways sync schemas that
validation accepts (`0 ≤ local ≤ global ≤ 2^31−1`); section 6 adds `NoLower`. The theorems about one report, one pass or
one step (sections 3 and 4, `loop_over_report`, `loop_fallback`) hold of ANY state.
-/
namespace KG.Props.C07.Loop
open KG KG.Model KG.Model.LimiterLoop KG.Spec.LimiterLoop KG.Lemmas.LimiterLoop
open KG.Model.Alloc (sumQ onesQ lookupD setQuota)
open RemoteLimiter (bound maxInt32)

/-- the state after an op history from the initial state -/
def reach (shardOf : Nat → Nat) (nShards nGw nUp : Nat) (k8s : Bool) (ops : List Op) : State :=
  run shardOf (init nShards nGw nUp k8s) ops

theorem loop_inv (shardOf : Nat → Nat) (nShards nGw nUp : Nat) (k8s : Bool) (ops : List Op) (hops : ∀ op ∈ ops, OpOK op) :
    LInv (reach shardOf nShards nGw nUp k8s ops) :=
  linv_run shardOf ops _ (linv_init nShards nGw nUp k8s) hops

/-! ## 0. the judge applied to the real gateways and the real limiter server accepts every reachable model state -/

/-- after every history, for every upstream, no clause of the system-level judge is broken -/
theorem loop_judge (shardOf : Nat → Nat) (nShards nGw nUp : Nat) (k8s : Bool) (ops : List Op)
    (hops : ∀ op ∈ ops, OpOK op) (u : Nat) :
    judgeU (obsU (reach shardOf nShards nGw nUp k8s ops) u) = [] :=
  judgeU_of_linv (loop_inv shardOf nShards nGw nUp k8s ops hops) u

/-! ## 1. system-level no over-commit -/

/-- the live gateways that run the reconcile loop for `u`, as the judge sees them -/
def liveObs (s : State) (u : Nat) : List GObs := (obsU s u).gws

/-- **no over-commit (general form)**: in every reachable state, the live gateways that use the remote limiter for
    `u`, have distinct identities and hold exactly what the server has on record for them ("the gateway applied the
    last answer, and the record is still there") together enforce at most `hi + #(recorded quotas equal to 1)`,
    `hi` being the largest global limit the server had in force since the record began. Gateways in local fallback
    are not in the sum: they enforce their local limit (`loop_instance`). -/
theorem loop_no_overcommit (shardOf : Nat → Nat) (nShards nGw nUp : Nat) (k8s : Bool) (ops : List Op)
    (hops : ∀ op ∈ ops, OpOK op) (u : Nat) (e : UpStore)
    (he : aget (reach shardOf nShards nGw nUp k8s ops).srv.ups u = some e)
    (hdist : (((liveObs (reach shardOf nShards nGw nUp k8s ops) u).filter (·.remote)).map (·.id)).Nodup)
    (hsync : ∀ g ∈ liveObs (reach shardOf nShards nGw nUp k8s ops) u, g.remote = true → holdsRecord e.srv.quotas g = true) :
    sumRemote (liveObs (reach shardOf nShards nGw nUp k8s ops) u) ≤ e.hi + onesQ e.srv.quotas := by
  have hinv := loop_inv shardOf nShards nGw nUp k8s ops hops
  have hsinv : SInv e := hinv.srv.ups (u, e) (aget_mem he)
  exact remote_sum_le e.srv.quotas e.hi _ (judgeG_of_linv hinv u) hsinv.ge_one hsinv.slack hdist hsync

/-- **no over-commit (the form of the property)**: whenever the server and the live gateways agree on the global limit
    `T` of `u` (the server's limit was never lowered below what it is now: `hi = T`; every live gateway's view is `T`),
    no live gateway is in local fallback, identities are distinct and every gateway holds what is on record for it, the
    sum over the live instances of the capacity each one actually enforces is at most `T` plus the number of instances
    held at the minimum quota 1. -/
theorem loop_no_overcommit_agreed (shardOf : Nat → Nat) (nShards nGw nUp : Nat) (k8s : Bool) (ops : List Op)
    (hops : ∀ op ∈ ops, OpOK op) (u : Nat) (e : UpStore) (T : Int)
    (he : aget (reach shardOf nShards nGw nUp k8s ops).srv.ups u = some e)
    (hT : e.srv.total = T) (hhi : e.hi = T)
    (hview : ∀ g ∈ liveObs (reach shardOf nShards nGw nUp k8s ops) u, g.view = T)
    (hnofb : ∀ g ∈ liveObs (reach shardOf nShards nGw nUp k8s ops) u, g.remote = true)
    (hdist : ((liveObs (reach shardOf nShards nGw nUp k8s ops) u).map (·.id)).Nodup)
    (hsync : ∀ g ∈ liveObs (reach shardOf nShards nGw nUp k8s ops) u, holdsRecord e.srv.quotas g = true) :
    ((liveObs (reach shardOf nShards nGw nUp k8s ops) u).map (·.enforced)).sum ≤ T + onesQ e.srv.quotas ∧
    ∀ g ∈ liveObs (reach shardOf nShards nGw nUp k8s ops) u, 0 ≤ g.enforced ∧ g.enforced ≤ T := by
  have hfil : (liveObs (reach shardOf nShards nGw nUp k8s ops) u).filter (·.remote)
      = liveObs (reach shardOf nShards nGw nUp k8s ops) u := by
    rw [List.filter_eq_self]; exact hnofb
  have h := loop_no_overcommit shardOf nShards nGw nUp k8s ops hops u e he (by rw [hfil]; exact hdist)
    (fun g hg _ => hsync g hg)
  constructor
  · have : sumRemote (liveObs (reach shardOf nShards nGw nUp k8s ops) u)
        = ((liveObs (reach shardOf nShards nGw nUp k8s ops) u).map (·.enforced)).sum := by
      unfold sumRemote; rw [hfil]
    rw [this, hhi] at h; exact h
  · -- each one's limiter is within `[0, its recorded quota]`, and a recorded quota above 1 is within the slack
    intro g hg
    have hinv := loop_inv shardOf nShards nGw nUp k8s ops hops
    have hsinv : SInv e := hinv.srv.ups (u, e) (aget_mem he)
    have := enforced_le_record (judgeG_of_linv hinv u g hg) (hnofb g hg) hsinv.ge_one (hsync g hg)
    have := KG.Props.C07.excess_lookupD_le e.srv.quotas g.id hsinv.ge_one
    have := hsinv.slack
    have := hsinv.limit
    have := KG.Props.C07.isOne_spec (lookupD e.srv.quotas g.id)
    unfold KG.Props.C07.excess at *
    omega

/-- **every served report re-establishes the hypothesis of `loop_no_overcommit`**: right after a report of a live,
    connected gateway with a schema for `u` was served, the gateway holds exactly what the server has on record for it
    and the monitor `fresh` holds of it (so, by `loop_instance`, its remote limiter is that quota bounded by its current
    view). So after a hand-over that discarded the records, or a partition during which a record was reclaimed, one round
    of served reports restores the system-level bound. -/
theorem loop_report_establishes_record (shardOf : Nat → Nat) (nShards nGw nUp : Nat) (k8s : Bool) (ops : List Op)
    (hops : ∀ op ∈ ops, OpOK op) (g u : Nat) (x m : Rat) (used lvl : Int) (gw : Gw) (e : UpStore)
    (hgw : (reach shardOf nShards nGw nUp k8s ops).gw g = some gw)
    (hrep : reports (reach shardOf nShards nGw nUp k8s ops).nShards gw u = true) (hnet : gw.net = true)
    (hserv : (reach shardOf nShards nGw nUp k8s ops).srv.serving shardOf u = some e) :
    ∃ gw' e' n, (step shardOf (reach shardOf nShards nGw nUp k8s ops) (.report g u x m used lvl)).gw g = some gw' ∧
      aget (step shardOf (reach shardOf nShards nGw nUp k8s ops) (.report g u x m used lvl)).srv.ups u = some e' ∧
      gw'.id = gw.id ∧ e'.srv.quotas.lookup gw.id = some n ∧
      raw (gw'.st (reach shardOf nShards nGw nUp k8s ops).nShards u) = some n ∧
      gw'.fresh.contains u = true := by
  have hinv := loop_inv shardOf nShards nGw nUp k8s ops hops
  generalize reach shardOf nShards nGw nUp k8s ops = s at *
  rw [step_report_served shardOf s g u x m used lvl hgw hrep hnet hserv]
  refine ⟨{ gw.apply s.nShards u (.answer true (mkItem (Alloc.answer e.srv gw.id x m))) with
      fresh := if gw.fresh.contains u then gw.fresh else u :: gw.fresh },
    e.report gw.id x m used lvl, Alloc.answer e.srv gw.id x m, ?_, ?_, ?_, ?_, ?_, ?_⟩
  · exact List.getElem?_set_self (List.getElem?_eq_some_iff.1 hgw).1
  · show aget (Server.persist _).ups u = _
    rw [persist_ups, aget_aset, if_pos rfl]
  · simp only [Gw.apply]
    split <;> rfl
  · rw [lookup_report, if_pos rfl]
  · exact raw_answer (hinv.gws gw (gw_mem hgw)) u _ _ (reports_cache hrep)
  · simp only
    split
    · assumption
    · simp

/-! ## 1b. what each live instance enforces -/

/-- **per instance**: in every reachable state a gateway with a schema for `u` hands out either
    * its remote limiter — only while its client set is ready; the limiter is its applied quota `b`, `0 ≤ b`, at most
      the quota `q` it holds and reports, and — if it applied an answer since its view `t` of the global limit last
      changed — exactly `q` bounded to `[0, t]`, hence at most its own view (C09); or
    * its local limiter, which enforces exactly its local limit (fallback, C09). -/
theorem loop_instance (shardOf : Nat → Nat) (nShards nGw nUp : Nat) (k8s : Bool) (ops : List Op)
    (hops : ∀ op ∈ ops, OpOK op) (gw : Gw) (hgw : gw ∈ (reach shardOf nShards nGw nUp k8s ops).gws) (u : Nat)
    (hs : ((gw.st (reach shardOf nShards nGw nUp k8s ops).nShards u).cache).isSome = true) :
    (usesRemote (gw.st (reach shardOf nShards nGw nUp k8s ops).nShards u) = true →
      RemoteLimiter.isReady (gw.st (reach shardOf nShards nGw nUp k8s ops).nShards u) = true ∧
      ∃ q b, raw (gw.st (reach shardOf nShards nGw nUp k8s ops).nShards u) = some q ∧
        applied (gw.st (reach shardOf nShards nGw nUp k8s ops).nShards u) = some b ∧
        enforced (gw.st (reach shardOf nShards nGw nUp k8s ops).nShards u) = some b ∧ 0 ≤ b ∧ (0 ≤ q → b ≤ q) ∧
        (gw.fresh.contains u = true →
          ∃ t, view (gw.st (reach shardOf nShards nGw nUp k8s ops).nShards u) = some t ∧ b = bound q t ∧ b ≤ t)) ∧
    (usesRemote (gw.st (reach shardOf nShards nGw nUp k8s ops).nShards u) = false →
      ∃ l, localLimit (gw.st (reach shardOf nShards nGw nUp k8s ops).nShards u) = some l ∧
        enforced (gw.st (reach shardOf nShards nGw nUp k8s ops).nShards u) = some l ∧ 0 ≤ l) :=
  limOK_hands_out (((loop_inv shardOf nShards nGw nUp k8s ops hops).gws gw hgw).limOK _ u) hs

/-! ## 2. the recorded sum obeys C07's invariant through clean-ups, returns, leadership and limit changes -/

/-- **lift of `c07_history`**: in every reachable state, every record the server holds — in the store of a shard it
    leads or led, and every copy in the API that the next holder of the shard will load — satisfies C07's history
    invariant relative to the largest limit in force since the record began: every quota ≥ 1, sum ≤ recorded sum,
    `sum ≤ hi + #(quotas equal to 1)`, `1 ≤ limit ≤ hi`. -/
theorem loop_recorded (shardOf : Nat → Nat) (nShards nGw nUp : Nat) (k8s : Bool) (ops : List Op)
    (hops : ∀ op ∈ ops, OpOK op) :
    (∀ p ∈ (reach shardOf nShards nGw nUp k8s ops).srv.ups, SInv p.2) ∧
    (∀ p ∈ (reach shardOf nShards nGw nUp k8s ops).srv.api, SInv p.2) :=
  ⟨(loop_inv shardOf nShards nGw nUp k8s ops hops).srv.ups, (loop_inv shardOf nShards nGw nUp k8s ops hops).srv.api⟩

/-- … which is exactly `KG.Props.C07.Inv` (sum ≤ limit + #ones) for every record whose limit was never lowered -/
theorem loop_c07_inv (shardOf : Nat → Nat) (nShards nGw nUp : Nat) (k8s : Bool) (ops : List Op)
    (hops : ∀ op ∈ ops, OpOK op) (p : Nat × UpStore)
    (hp : p ∈ (reach shardOf nShards nGw nUp k8s ops).srv.ups ∨ p ∈ (reach shardOf nShards nGw nUp k8s ops).srv.api)
    (hnl : p.2.hi = p.2.srv.total) : KG.Props.C07.Inv p.2.srv := by
  obtain ⟨h1, h2⟩ := loop_recorded shardOf nShards nGw nUp k8s ops hops
  rcases hp with hp | hp
  · exact sinv_c07 (h1 p hp) hnl
  · exact sinv_c07 (h2 p hp) hnl

/-- the answer of a served report, apart from the server it leaves (`report_served`) -/
theorem report_answer (shardOf : Nat → Nat) (s : Server) (u i : Nat) (x m : Rat) (used lvl : Int) (e : UpStore)
    (he : s.serving shardOf u = some e) :
    (s.report shardOf u i x m used lvl).2 = some (Alloc.answer e.srv i x m) := by
  rw [report_served shardOf he]

/-- **lift of `c07_over_report`** (limit lowered: the record is over-committed): in ANY state a served report never
    makes the reporter's quota grow while the recorded sum exceeds the limit — unless it is set to the minimum 1 -/
theorem loop_over_report (shardOf : Nat → Nat) (s : Server) (u i : Nat) (x m : Rat) (used lvl : Int) (e : UpStore)
    (he : s.serving shardOf u = some e) (hover : e.srv.total < e.srv.recSum) :
    ∃ n, (s.report shardOf u i x m used lvl).2 = some n ∧ (n = 1 ∨ n < e.quotaOf i) :=
  ⟨_, report_answer shardOf s u i x m used lvl e he, KG.Props.C07.c07_over_report e.srv i x m hover⟩

/-- every quota ever answered is within `[1, limit]` of the record it is answered from -/
theorem loop_answer_range (shardOf : Nat → Nat) (nShards nGw nUp : Nat) (k8s : Bool) (ops : List Op)
    (hops : ∀ op ∈ ops, OpOK op) (u i : Nat) (x m : Rat) (used lvl : Int) (e : UpStore)
    (he : (reach shardOf nShards nGw nUp k8s ops).srv.serving shardOf u = some e) :
    ∃ n, ((reach shardOf nShards nGw nUp k8s ops).srv.report shardOf u i x m used lvl).2 = some n ∧
      1 ≤ n ∧ n ≤ e.srv.total := by
  have hinv := loop_inv shardOf nShards nGw nUp k8s ops hops
  refine ⟨_, report_answer shardOf _ u i x m used lvl e he, ?_⟩
  rw [KG.Props.C07.answer_eq]
  exact KG.Props.C07.c07_range x m _ _ _ (hinv.srv.ups _ (serving_mem shardOf he)).limit

/-! ## 3. reclaimed capacity (composition with C18) -/

/-- **the time-out pass reclaims** (C18 `c18_timeout_pass_reclaims`, in the loop): an instance all of whose heartbeats
    are older than the time-out leaves the heartbeat table, and in every shard this server leads its LABELLED record
    (reported at least twice) is gone, while the record of every instance that is not declared dead is untouched
    (C18 `c18_live_safe_timeout_pass`), as are the configured limit and the recorded sum (recomputed by the next report) -/
theorem loop_timeout_pass_reclaims (shardOf : Nat → Nat) (s : Server) (now d : Nat)
    (hd : ∀ p ∈ s.hb, p.1 = d → timedOut now p = true) (hin : s.hbHas d = true) :
    (s.cleanupTimeout shardOf now).hbHas d = false ∧
    ∀ u e, aget s.ups u = some e → s.isLeader (shardOf u) = true →
      ∃ e', aget (s.cleanupTimeout shardOf now).ups u = some e' ∧
        (e.labelled.contains d = true → e'.has d = false ∧ e'.quotaOf d = 0) ∧
        (∀ j, (s.dead now).contains j = false → e'.quotaOf j = e.quotaOf j ∧ e'.has j = e.has j) ∧
        e'.srv.total = e.srv.total ∧ e'.srv.recSum = e.srv.recSum := by
  have hdead : (s.dead now).contains d = true := by
    simp only [Server.hbHas, List.any_eq_true, beq_iff_eq] at hin
    obtain ⟨p, hp, hpd⟩ := hin
    simp only [Server.dead, List.contains_eq_mem, List.mem_map, List.mem_filter, decide_eq_true_eq]
    exact ⟨p, ⟨hp, hd p hp hpd⟩, hpd⟩
  constructor
  · unfold Server.cleanupTimeout
    simp only [Server.hbHas, persist_hb]
    rw [List.any_eq_false]
    intro p hp
    have hp' := List.mem_filter.1 hp
    simp only [beq_iff_eq]
    intro e
    have := hd p hp'.1 e
    rw [this] at hp'
    simp at hp'
  · intro u e he hl
    obtain ⟨h1, h2, h3⟩ := drop_spec e (fun i => (s.dead now).contains i && e.labelled.contains i)
    exact ⟨_, by rw [cleanupTimeout_ups, he, Option.map_some, if_pos hl], fun hlab => h1 d (by rw [hdead, hlab]; rfl),
      fun j hj => h2 j (by rw [hj]; rfl), h3⟩

/-- **the unknown pass reclaims** (C18 `c18_unknown_pass_reclaims`, in the loop): in every shard this server leads no
    record is left of an instance that is not in the heartbeat table (labelled or not), and the record of every instance
    that is in the table is untouched (C18 `c18_live_safe_unknown_pass`) -/
theorem loop_unknown_pass_reclaims (shardOf : Nat → Nat) (s : Server) (u : Nat) (e : UpStore)
    (he : aget s.ups u = some e) (hl : s.isLeader (shardOf u) = true) :
    ∃ e', aget (s.cleanupUnknown shardOf).ups u = some e' ∧
      (∀ d, s.hbHas d = false → e'.has d = false ∧ e'.quotaOf d = 0) ∧
      (∀ j, s.hbHas j = true → e'.quotaOf j = e.quotaOf j ∧ e'.has j = e.has j) ∧
      e'.srv.total = e.srv.total ∧ e'.srv.recSum = e.srv.recSum := by
  obtain ⟨h1, h2, h3⟩ := drop_spec e (fun i => !s.hbHas i)
  exact ⟨_, by rw [cleanupUnknown_ups, he, Option.map_some, if_pos hl], fun d hd => h1 d (by rw [hd]; rfl),
    fun j hj => h2 j (by rw [hj]; rfl), h3⟩

/-- the passes respect leadership (C13 / C18 `c18_passes_respect_leadership`): nothing changes for an upstream whose
    shard this server does not lead -/
theorem loop_passes_respect_leadership (shardOf : Nat → Nat) (s : Server) (now u : Nat)
    (hl : s.isLeader (shardOf u) = false) :
    aget (s.cleanupTimeout shardOf now).ups u = aget s.ups u ∧ aget (s.cleanupUnknown shardOf).ups u = aget s.ups u := by
  rw [cleanupTimeout_ups, cleanupUnknown_ups]
  cases aget s.ups u <;> simp [hl]

/-- a pass takes at least the dropped instance's quota off the sum of the recorded quotas -/
theorem drop_gives_back (e : UpStore) (he : SInv e) (p : Nat → Bool) (d : Nat) (hd : p d = true) :
    sumQ (e.drop p).srv.quotas + e.quotaOf d ≤ sumQ e.srv.quotas := by
  have := KG.Props.C07.sumQ_split e.srv.quotas d (fun q => !p q.1) (fun q hq => by rw [hq, hd]; rfl) he.ge_one
  simp only [UpStore.quotaOf, UpStore.drop]
  omega

/-- **the survivors' next reports grow into the freed capacity, never beyond the limit.** After records have been
    reclaimed (`e.drop p`, by either pass), the next answered report of a survivor `j` (any strategy outputs)
    recomputes the recorded sum, which no longer contains the reclaimed quotas; from then on a report of any instance
    `j'` that asks for at least what is left (`x ≥ quota + limit − sum`, e.g. a busy instance: `x` = twice its quota)
    is answered EXACTLY `quota + (limit − sum)` — everything that is left, the freed capacity included — whenever that is
    within `[1, limit]`; and whatever is asked, the record keeps C07's invariant (`SInv`: sum ≤ hi + #ones). -/
theorem loop_reclaimed_capacity (e : UpStore) (he : SInv e) (p : Nat → Bool) (d : Nat) (hd : p d = true)
    (j : Nat) (x m : Rat) (used lvl : Int) (hj : j ≠ d) :
    let e2 := (e.drop p).report j x m used lvl
    e2.quotaOf d = 0 ∧ e2.srv.recSum = sumQ e2.srv.quotas ∧ SInv e2 ∧
    (∀ j' x' m' used' lvl', SInv (e2.report j' x' m' used' lvl')) ∧
    (∀ j' (x' m' : Rat), m' ≤ x' → ((e2.quotaOf j' + (e2.srv.total - sumQ e2.srv.quotas) : Int) : Rat) ≤ x' →
      1 ≤ e2.quotaOf j' + (e2.srv.total - sumQ e2.srv.quotas) →
      e2.quotaOf j' + (e2.srv.total - sumQ e2.srv.quotas) ≤ e2.srv.total →
      Alloc.answer e2.srv j' x' m' = e2.quotaOf j' + (e2.srv.total - sumQ e2.srv.quotas)) := by
  intro e2
  have h2 : SInv e2 := sinv_report (sinv_drop he p) j x m used lvl
  have hrs : e2.srv.recSum = sumQ e2.srv.quotas := rfl
  refine ⟨?_, hrs, h2, fun j' x' m' used' lvl' => sinv_report h2 j' x' m' used' lvl', ?_⟩
  · rw [quotaOf_report, if_neg hj, ((drop_spec e p).1 d hd).2]
  · intro j' x' m' hm hx h1 h2'
    have := answer_takes_all e2.srv j' x' m' hm (by rw [hrs]; exact hx) (by rw [hrs]; exact h1) (by rw [hrs]; exact h2')
    rw [hrs] at this
    exact this

/-! ## 3b. the passes of the loop ARE the passes of C18's model (commuting lemmas): C18's theorems lifted

`toReclaim N shardOf` maps the loop's limiter server onto a state of `KG.Model.Reclaim` (names given by `N`; a record
becomes the instance's condition, labelled or not; the `.state` condition carries limit and recorded sum).
`toReclaim_heartbeat`, `toReclaim_cleanupTimeout`, `toReclaim_cleanupUnknown` (in `KG.Lemmas.LimiterLoop`) say the
loop's ops commute with C18's. -/

/-- in every reachable state every recorded upstream is in the lister (what the unknown pass needs to leave upstreams alone) -/
theorem loop_listed (shardOf : Nat → Nat) (nShards nGw nUp : Nat) (k8s : Bool) (ops : List Op) :
    ∀ p ∈ (reach shardOf nShards nGw nUp k8s ops).srv.ups, ∃ t, aget (reach shardOf nShards nGw nUp k8s ops).srv.listed p.1 = some t := by
  obtain ⟨L, h⟩ := listerKnows_run shardOf ops (init nShards nGw nUp k8s) ⟨_, recs_init ..⟩
  rw [show (reach shardOf nShards nGw nUp k8s ops).srv.listed = L from h.listed]
  exact h.ups

/-- C18's `c18_timeout_pass_reclaims` and `c18_live_safe_timeout_pass` hold of the loop's time-out pass, in ANY state -/
theorem loop_c18_timeout_pass (N : Naming) (shardOf : Nat → Nat) (hsh : ∀ u, N.shardOf' (N.un u) = shardOf u)
    (s : Server) (now : Nat) :
    KG.Spec.Reclaim.ReclaimTimeout N.shardOf' now (toReclaim N shardOf s)
      (toReclaim N shardOf (s.cleanupTimeout shardOf now)) ∧
    KG.Spec.Reclaim.LiveSafeTimeout now (toReclaim N shardOf s) (toReclaim N shardOf (s.cleanupTimeout shardOf now)) := by
  rw [toReclaim_cleanupTimeout N shardOf hsh]
  exact ⟨KG.Props.C18.c18_timeout_pass_reclaims N.shardOf' _ now, KG.Props.C18.c18_live_safe_timeout_pass N.shardOf' _ now⟩

/-- C18's `c18_unknown_pass_reclaims` and `c18_live_safe_unknown_pass` hold of the loop's unknown pass in every
    reachable state -/
theorem loop_c18_unknown_pass (N : Naming) (shardOf : Nat → Nat) (hsh : ∀ u, N.shardOf' (N.un u) = shardOf u)
    (nShards nGw nUp : Nat) (k8s : Bool) (ops : List Op) :
    KG.Spec.Reclaim.ReclaimUnknown N.shardOf' (toReclaim N shardOf (reach shardOf nShards nGw nUp k8s ops).srv)
      (toReclaim N shardOf ((reach shardOf nShards nGw nUp k8s ops).srv.cleanupUnknown shardOf)) ∧
    KG.Spec.Reclaim.LiveSafeUnknown (toReclaim N shardOf (reach shardOf nShards nGw nUp k8s ops).srv)
      (toReclaim N shardOf ((reach shardOf nShards nGw nUp k8s ops).srv.cleanupUnknown shardOf)) := by
  rw [toReclaim_cleanupUnknown N shardOf hsh _ (loop_listed shardOf nShards nGw nUp k8s ops)]
  exact ⟨KG.Props.C18.c18_unknown_pass_reclaims N.shardOf' _, KG.Props.C18.c18_live_safe_unknown_pass N.shardOf' _⟩

/-- C18's `c18_heartbeat_recorded` holds of the loop's heartbeat -/
theorem loop_c18_heartbeat (N : Naming) (shardOf : Nat → Nat) (s : Server) (i t : Nat) :
    KG.Spec.Reclaim.HeartbeatRecorded (N.iname i) t (toReclaim N shardOf s) (toReclaim N shardOf (s.heartbeat i t)) := by
  rw [toReclaim_heartbeat]
  exact KG.Props.C18.c18_heartbeat_recorded _ _ _

/-! ## 4. frame lemmas between the areas -/

/-- ops of the gateway area (schema sync, partition, crash, return) leave the limiter server untouched -/
theorem frame_gateway_ops (shardOf : Nat → Nat) (s : State) (op : Op)
    (h : match op with | .gwSchema .. | .net .. | .crash .. | .ret .. => True | _ => False) :
    (step shardOf s op).srv = s.srv := by
  cases op with
  | gwSchema g u l t => rcases step_of_gwSchema shardOf s g u l t with e | ⟨_, _, e⟩ <;> rw [e] <;> rfl
  | net g b => rcases step_of_net shardOf s g b with e | ⟨_, _, e⟩ <;> rw [e] <;> rfl
  | crash g => rcases step_of_crash shardOf s g with e | ⟨_, _, e⟩ <;> rw [e] <;> rfl
  | ret g id => rcases step_of_ret shardOf s g id with e | ⟨_, _, e⟩ <;> rw [e] <;> rfl
  | _ => exact h.elim

/-- ops of the server area (lister, upstream events, both passes, leadership) leave every gateway untouched -/
theorem frame_server_ops (shardOf : Nat → Nat) (s : State) (op : Op)
    (h : match op with
      | .list .. | .handle .. | .tick .. | .unknownPass | .elect .. | .gain .. | .lose .. => True
      | _ => False) :
    (step shardOf s op).gws = s.gws := by
  cases op <;> simp only at h <;> rfl

/-- a heartbeat round moves the heartbeat table and the sender's readiness only: records, API objects, leadership,
    stores and the lister are untouched, and so is every other gateway -/
theorem frame_heartbeat (shardOf : Nat → Nat) (s : State) (g now : Nat) :
    (step shardOf s (.hb g now)).srv.ups = s.srv.ups ∧ (step shardOf s (.hb g now)).srv.api = s.srv.api ∧
    (step shardOf s (.hb g now)).srv.leaders = s.srv.leaders ∧ (step shardOf s (.hb g now)).srv.stores = s.srv.stores ∧
    (step shardOf s (.hb g now)).srv.listed = s.srv.listed ∧
    ∀ g', g' ≠ g → (step shardOf s (.hb g now)).gw g' = s.gw g' := by
  rcases step_of_hb shardOf s g now with e | ⟨x, _, e | e⟩ <;> rw [e]
  · exact ⟨rfl, rfl, rfl, rfl, rfl, fun _ _ => rfl⟩
  · exact ⟨rfl, rfl, rfl, rfl, rfl, fun g' hg' => List.getElem?_set_ne (fun e => hg' e.symm)⟩
  · exact ⟨rfl, rfl, rfl, rfl, rfl, fun g' hg' => List.getElem?_set_ne (fun e => hg' e.symm)⟩

/-- **leadership guard (C13) in the loop**: a report for an upstream whose shard this server does not lead, or has no
    store for, or whose `.state` condition does not exist, changes NOTHING — neither the server nor the gateway (the
    gateway keeps enforcing what it had) -/
theorem frame_report_refused (shardOf : Nat → Nat) (s : State) (g u : Nat) (x m : Rat) (used lvl : Int)
    (h : s.srv.serving shardOf u = none) : step shardOf s (.report g u x m used lvl) = s := by
  rcases step_of_report shardOf s g u x m used lvl with e | ⟨_, _, _, _, _, hsr, _⟩
  · exact e
  · rw [report_refused shardOf h] at hsr
    cases hsr

theorem serving_none_of_not_leader (shardOf : Nat → Nat) (s : Server) (u : Nat)
    (h : s.isLeader (shardOf u) = false ∨ s.hasStore (shardOf u) = false) : s.serving shardOf u = none := by
  unfold Server.serving
  rcases h with h | h <;> simp [h]

/-- a report of a dead or partitioned gateway, or of one without a schema, changes nothing -/
theorem frame_report_silent (shardOf : Nat → Nat) (s : State) (g u : Nat) (x m : Rat) (used lvl : Int) (gw : Gw)
    (hg : s.gw g = some gw) (h : gw.alive = false ∨ gw.net = false ∨ (gw.st s.nShards u).cache = none) :
    step shardOf s (.report g u x m used lvl) = s := by
  rcases step_of_report shardOf s g u x m used lvl with e | ⟨gw', _, _, hg', hrep, _, _⟩
  · exact e
  · rw [hg] at hg'
    cases hg'
    rcases h with h | h | h <;> simp [reports, h] at hrep

/-- a served report touches the record of its own upstream only, the heartbeat table / leadership / stores / lister not
    at all, and no other gateway -/
theorem frame_report (shardOf : Nat → Nat) (s : State) (g u : Nat) (x m : Rat) (used lvl : Int) :
    (∀ v, v ≠ u → aget (step shardOf s (.report g u x m used lvl)).srv.ups v = aget s.srv.ups v) ∧
    (step shardOf s (.report g u x m used lvl)).srv.hb = s.srv.hb ∧
    (step shardOf s (.report g u x m used lvl)).srv.leaders = s.srv.leaders ∧
    (step shardOf s (.report g u x m used lvl)).srv.stores = s.srv.stores ∧
    (step shardOf s (.report g u x m used lvl)).srv.listed = s.srv.listed ∧
    ∀ g', g' ≠ g → (step shardOf s (.report g u x m used lvl)).gw g' = s.gw g' := by
  rcases step_of_report shardOf s g u x m used lvl with e | ⟨gw, srv', n, _, _, hsr, e⟩ <;> rw [e]
  · exact ⟨fun _ _ => rfl, rfl, rfl, rfl, rfl, fun _ _ => rfl⟩
  · cases he : s.srv.serving shardOf u with
    | none => rw [report_refused shardOf he] at hsr; cases hsr
    | some e' =>
      obtain ⟨api, ea, -⟩ := persist_api { s.srv with ups := aset s.srv.ups u (e'.report gw.id x m used lvl) }
      rw [report_served shardOf he, ea] at hsr
      cases hsr
      exact ⟨fun v hv => (aget_aset ..).trans (if_neg hv), rfl, rfl, rfl, rfl,
        fun g' hg' => List.getElem?_set_ne (fun e => hg' e.symm)⟩

/-! ## 5. projection onto C09: every `upstreamLimiter` of the loop is in a state C09's model reaches

so every theorem of `KG.Props.C09` about reachable states / runs applies to every gateway of every reachable loop state -/

/-- after every history, the state of every `upstreamLimiter` of every gateway is a state that C09's model reaches
    (`exec {} log`) by an operation list inside C09's quantifier (`KG.Props.C09.Allowed .mi`) -/
theorem loop_gateway_projection (shardOf : Nat → Nat) (nShards nGw nUp : Nat) (k8s : Bool) (ops : List Op)
    (hops : ∀ op ∈ ops, OpOK op) (gw : Gw) (hgw : gw ∈ (reach shardOf nShards nGw nUp k8s ops).gws) (u : Nat) :
    GwReach (gw.st (reach shardOf nShards nGw nUp k8s ops).nShards u) :=
  (((loop_inv shardOf nShards nGw nUp k8s ops hops).gws gw hgw).limOK _ u).reach

/-- C09's `c09_fallback_choice`, in the loop (for ANY limiter state): the remote limiter is handed out only while the
    client set is ready and a remote limiter was synced. When readiness is lost (heartbeats failing for longer than the
    server heartbeat time-out) is C09's `.hb` step, not said here. -/
theorem loop_fallback (st : RemoteLimiter.State) (h : usesRemote st = true) :
    RemoteLimiter.isReady st = true ∧ ∃ c, st.cache = some c ∧ c.remote.isSome = true := by
  obtain ⟨c, hc, _, _, _, _, hr, hs⟩ := KG.Props.C09.c09_fallback_choice gwCfg st (by simpa [usesRemote] using h)
  exact ⟨hr, c, hc, hs⟩

/-- C09's `c09_local_limit`, lifted: in every reachable loop state the local limiter of every gateway enforces exactly
    the local limit of the schema in force (what the gateway falls back to when the limiter server is unreachable) -/
theorem loop_c09_local_limit (shardOf : Nat → Nat) (nShards nGw nUp : Nat) (k8s : Bool) (ops : List Op)
    (hops : ∀ op ∈ ops, OpOK op) (gw : Gw) (hgw : gw ∈ (reach shardOf nShards nGw nUp k8s ops).gws) (u : Nat)
    (c : RemoteLimiter.Cache) (hc : (gw.st (reach shardOf nShards nGw nUp k8s ops).nShards u).cache = some c) :
    KG.Spec.RemoteLimiter.validSchema c.loc.config = true ∧ c.loc.fc = some (KG.Spec.RemoteLimiter.limOf c.loc.config) := by
  obtain ⟨log, h1, h2⟩ := loop_gateway_projection shardOf nShards nGw nUp k8s ops hops gw hgw u
  exact KG.Props.C09.c09_local_limit .mi gwCfg log h1 _ h2 c hc

/-! ## 6. histories that never lower a configured limit: the lift of `c07_history` with its `Legal` hypothesis -/

/-- **the history theorem of C07, in the loop** (lift of `c07_history` with its hypothesis `Legal`): along every
    history that never lowers a configured limit — through reports with arbitrary strategy outputs, both clean-up
    passes, crashes and returns, partitions, leadership flaps with the store discarded or reloaded from the API, limit
    raises delivered at any time — every record of the server (and every API copy) satisfies `KG.Props.C07.Inv`:
    every quota ≥ 1, `sum ≤ limit + #(quotas equal to 1)`, `sum ≤ recorded sum`. -/
theorem loop_c07_history (shardOf : Nat → Nat) (nShards nGw nUp : Nat) (k8s : Bool) (ops : List Op)
    (hops : ∀ op ∈ ops, OpOK op) (hnl : NoLower [] ops) (p : Nat × UpStore)
    (hp : p ∈ (reach shardOf nShards nGw nUp k8s ops).srv.ups ∨ p ∈ (reach shardOf nShards nGw nUp k8s ops).srv.api) :
    KG.Props.C07.Inv p.2.srv := by
  obtain ⟨L, hn⟩ := notLowered_run shardOf ops (init nShards nGw nUp k8s) _ (recs_init ..) hnl
  apply loop_c07_inv shardOf nShards nGw nUp k8s ops hops p hp
  rcases hp with hp | hp
  · exact (hn.ups p hp).1
  · exact (hn.api p hp).1

/-! ## 7. non-vacuity: concrete histories that meet the hypotheses, and observations the judge rejects -/

def exShard : Nat → Nat := fun _ => 0

/-- limit 64 listed, shard gained, two gateways sync their schemas, heartbeat, and report while busy: 40, then 24 (what
    is left), then 40 again (nothing left to grow into) -/
def exOps : List Op :=
  [ .list 0 64, .gain 0, .gwSchema 0 0 4 64, .gwSchema 1 0 4 64, .hb 0 0, .hb 1 0,
    .report 0 0 40 1 30 46, .report 1 0 40 1 20 78, .report 0 0 40 1 40 93 ]

def exS : State := reach exShard 1 2 1 false exOps

def exE : UpStore := ⟨⟨64, 64, [(0, 40), (1, 24)]⟩, 64, 93, [0], [(0, 40), (1, 20)]⟩

example : ∀ op ∈ exOps, OpOK op := by decide
example : NoLower [] exOps := by simp [exOps, NoLower, aget]
/-- the hypotheses of `loop_no_overcommit_agreed` hold in `exS` with `T = 64`, and the bound is tight: 40 + 24 = 64 -/
example : (aget exS.srv.ups 0).map obsS = some (obsS exE) := by decide +kernel
example : (liveObs exS 0).map (fun g => (g.id, g.remote, g.enforced, g.view, g.fresh)) =
    [(0, true, 40, 64, true), (1, true, 24, 64, true)] := by decide +kernel
example : (liveObs exS 0).all (holdsRecord exE.srv.quotas) = true := by decide +kernel
example : sumRemote (liveObs exS 0) = 64 := by decide +kernel

/-- gateway 1 reports a second time (which labels its record: the time-out pass does not select a once-reported record), is
    partitioned and stops heartbeating; gateway 0 keeps heartbeating; the pass at 3.6 s reclaims gateway 1's record -/
def exOps2 : List Op :=
  exOps ++ [ .report 1 0 24 1 24 100, .net 1 false, .hb 0 3500, .hb 1 3500, .tick 3600, .report 0 0 64 1 40 62,
             .report 0 0 64 1 40 62, .hb 1 9000 ]

def exS2 : State := reach exShard 1 2 1 false exOps2

/-- the time-out pass reclaimed gateway 1's (labelled) record; gateway 0's next report recomputed the sum (40), the one
    after grew into ALL of the freed capacity (64), never beyond the limit; gateway 1, unreachable for more than the
    server heartbeat time-out, fell back to its local limit 4 -/
example : (aget exS2.srv.ups 0).map (fun e => (e.srv.total, e.srv.recSum, e.srv.quotas)) = some (64, 64, [(0, 64)]) := by
  decide +kernel
example : exS2.srv.hb = [(0, 3500)] := by decide +kernel
example : (liveObs exS2 0).map (fun g => (g.id, g.remote, g.enforced, g.ready)) =
    [(0, true, 64, true), (1, false, 4, false)] := by decide +kernel
example : judgeU (obsU exS2 0) = [] := by decide +kernel
/-- here the hypothesis "holds what is on record" FAILS for gateway 1 (it still holds 24, its record is gone): had it not
    fallen back it would over-commit — the hypothesis is needed, and the fallback is what saves the sum -/
example : (liveObs exS2 0).map (holdsRecord [(0, 64)]) = [true, false] := by decide +kernel

/-- the heartbeat table before the tick at 3.6 s of `exOps2`: gateway 1's only entry is timed out (the hypotheses `hd`, `hin` of
    `loop_timeout_pass_reclaims`), gateway 0's is not -/
example : (reach exShard 1 2 1 false (exOps ++ [.report 1 0 24 1 24 100, .net 1 false, .hb 0 3500, .hb 1 3500])).srv.hb
    = [(1, 0), (0, 3500)] := by decide +kernel
example : timedOut 3600 (1, 0) = true ∧ timedOut 3600 (0, 3500) = false := by decide

/-- a naming exists for every shard function (upstream `u` = `u+1` letters `u`, instance `i` = `i+1` letters `g`): the
    hypotheses of the lifted C18 theorems are satisfiable -/
def exNaming (shardOf : Nat → Nat) : Naming where
  un u := List.replicate (u + 1) 117
  iname i := List.replicate (i + 1) 103
  sname := [115]
  shardOf' n := shardOf (n.length - 1)
  iname_inj a b h := by
    have := congrArg List.length h
    simp at this; exact this
  iname_ne a := by simp

example (shardOf : Nat → Nat) : ∀ u, (exNaming shardOf).shardOf' ((exNaming shardOf).un u) = shardOf u := by
  intro u; simp [exNaming]

/-! the judge is not trivially true: it rejects an over-committed record, gateways that together exceed the limit, a
    remote limiter handed out while unreachable, a limiter above the answered quota or above the gateway's own view, a
    fallback that is not the local limit -/
def okG (id : Nat) (q : Int) : GObs :=
  { id := id, remote := true, enforced := q, raw := some q, applied := some q, view := 64, loc := 4, ready := true, fresh := true }

example : judgeU { srv := some ⟨64, 64, 64, [(0, 40), (1, 24)]⟩, gws := [okG 0 40, okG 1 24] } = [] := by decide
example : judgeU { srv := some ⟨64, 64, 70, [(0, 40), (1, 30)]⟩, gws := [okG 0 40, okG 1 30] }
    = ["c07.loop-recorded-invariant", "c07.loop-system-overcommit"] := by decide
example : judgeU { srv := some ⟨64, 64, 64, [(0, 40), (1, 24)]⟩, gws := [{ okG 1 24 with ready := false }] }
    = ["c07.loop-remote-while-unreachable"] := by decide
example : judgeU { srv := none, gws := [{ okG 1 24 with enforced := 30, applied := some 30 }] }
    = ["c07.loop-exceeds-answer", "c07.loop-exceeds-own-limit"] := by decide
example : judgeU { srv := none, gws := [{ okG 1 100 with view := 64 }] } = ["c07.loop-exceeds-own-limit"] := by decide
example : judgeU { srv := none, gws := [{ okG 1 24 with remote := false, enforced := 24 }] }
    = ["c07.loop-fallback-local"] := by decide

end KG.Props.C07.Loop
