import KG.Props.C01
/-!
# C17 — Admission normalisation of rules does not change what they match

`normalizeRule` mirrors `normalizeRules` / `filterRules` of plugin/admission/upstreamcluster/admission.go;
`ruleMatches` is the model of the *current* matcher (pkg/clusters/matcher.go), as in C01. The normaliser keeps the
`reading` of an entry list (`reading_normField`), through which every field's meaning is defined.
-/
namespace KG.Props.C17
open KG KG.Model.Match KG.Spec.Match KG.Lemmas.Match KG.Props.C01

theorem normLoop_star (E f r : List Str) (h : star ∈ E) : (normLoop E f r).2.2 = true := by
  induction E generalizing f r with
  | nil => cases h
  | cons x xs ih =>
    unfold normLoop
    by_cases hx : x = star
    · rw [if_pos hx]
    · rw [if_neg hx]
      have hm : star ∈ xs := (List.mem_cons.1 h).resolve_left (Ne.symm hx)
      split <;> exact ih _ _ hm

theorem normLoop_nostar (E f r : List Str) (h : star ∉ E) :
    normLoop E f r = (f ++ positives E, r ++ E.filter inverted, false) := by
  induction E generalizing f r with
  | nil => simp [normLoop, positives]
  | cons x xs ih =>
    have hx : x ≠ star := fun e => h (e ▸ List.mem_cons_self)
    have hxs : star ∉ xs := fun e => h (List.mem_cons_of_mem _ e)
    rw [normLoop, if_neg hx, positives_cons]
    cases hi : inverted x <;> simp [ih _ _ hxs, hi]

theorem normField_reading (E : List Str) :
    normField E = match reading E with
      | .all => [star]
      | .pos P => P
      | .neg R => R := by
  unfold normField
  obtain hs | hs := star_mem_or_not E
  · have := normLoop_star E [] [] hs
    rw [reading_star hs]
    split
    next f r all heq =>
      rw [heq] at this
      subst this
      rfl
  · rw [reading_nostar hs, normLoop_nostar E [] [] hs]
    cases positives E <;> rfl

/-- The normaliser keeps the reading: the positives of a list read as themselves, and so do its `-` entries when
    there is no positive one. -/
theorem reading_normField (E : List Str) : reading (normField E) = reading E := by
  rw [normField_reading]
  obtain hs | hs := star_mem_or_not E
  · rw [reading_star hs]; rfl
  · rw [reading_nostar hs]
    cases hP : positives E with
    | nil =>
      have : star ∉ E.filter inverted := fun h => hs (List.mem_filter.1 h).1
      have hp : positives (E.filter inverted) = [] := by
        simp only [positives, List.filter_filter, List.filter_eq_nil_iff]
        intro x _; cases inverted x <;> simp
      rw [List.isEmpty_nil, if_pos rfl, reading_nostar this, hp, List.filter_filter]
      simp only [Bool.and_self, List.isEmpty_nil, if_true]
    | cons p ps =>
      have : star ∉ p :: ps := hP ▸ star_not_mem_positives hs
      rw [List.isEmpty_cons, if_neg Bool.false_ne_true, reading_nostar this, ← hP, positives_idem, hP]
      rfl

/-- Field level: the normalised list has the same documented meaning as the submitted one. -/
theorem c17_field (opt : Bool) (pos : Str → Bool) (E : List Str) :
    fieldSpec opt pos (normField E) = fieldSpec opt pos E := by
  rw [fieldSpec_reading, fieldSpec_reading, reading_normField]

theorem c17_url (E : List Str) (q : Str) : urlSpec (normField E) q = urlSpec E q := by
  rw [urlSpec_reading, urlSpec_reading, reading_normField]

/-- `userSpec` tests `users.isEmpty` itself instead of going through `fieldSpec true`, so `c17_field` does not cover it. -/
theorem normField_isEmpty (E : List Str) : (normField E).isEmpty = E.isEmpty := by
  rw [isEmpty_reading, isEmpty_reading E, reading_normField]

/-- **C17 (equivalence)**: for every rule and every request, the stored (normalised) rule matches iff the
    submitted rule does. -/
theorem c17_equiv (a : Attrs) (r : Rule) : ruleMatches a (normalizeRule r) = ruleMatches a r := by
  rw [c01_rule_refines, c01_rule_refines]
  unfold ruleSpec normalizeRule userSpec
  simp only [c17_field, c17_url, normField_isEmpty]

theorem normField_idem (E : List Str) : normField (normField E) = normField E := by
  rw [normField_reading, reading_normField, ← normField_reading]

/-- **C17 (idempotence)**: normalising an already normalised rule changes nothing. -/
theorem c17_idem (r : Rule) : normalizeRule (normalizeRule r) = normalizeRule r := by
  simp [normalizeRule, normField_idem]

/-- the whole policy list routes identically before and after normalisation -/
theorem c17_routing (a : Attrs) (ps : List Policy) :
    matchPolicies a (ps.map (·.map normalizeRule)) = matchPolicies a ps := by
  induction ps with
  | nil => rfl
  | cons p ps ih =>
    simp only [List.map_cons, matchPolicies, ih]
    have : policyMatches a (p.map normalizeRule) = policyMatches a p := by
      simp [policyMatches, List.any_map, Function.comp_def, c17_equiv]
    rw [this]

end KG.Props.C17
