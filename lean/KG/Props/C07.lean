import KG.Model.Alloc
import KG.Lemmas.Lists
/-!
# C07 — Global allocation: quotas never exceed the global limit and are never < 1

All theorems are about `KG.Model.Alloc` in exact (`Rat`) arithmetic. The quota answered to a report is
`next = ⌈tailPre x m c r T⌉` where `c` is the quota on record for the reporter, `r = T − A` the remaining capacity
(`A` the recorded sum, `T` the global limit) and `x`, `m` are ARBITRARY rationals standing for whatever the
strategy arithmetic and the percent floor computed — so every statement holds independently of that arithmetic
(and of its float rounding; the tail itself only compares, adds two integers and takes a ceiling).
-/
namespace KG.Props.C07
open KG.Model.Alloc

private theorem floor_le (a b : Rat) : b ≤ (if a < b then b else a) := by
  split
  · exact Rat.le_refl
  · exact Rat.not_lt.1 ‹_›

private theorem cut_le (a b : Rat) : (if b < a then b else a) ≤ b ∧ (if b < a then b else a) ≤ a := by
  split
  · exact ⟨Rat.le_refl, Rat.le_of_lt ‹_›⟩
  · exact ⟨Rat.not_lt.1 ‹_›, Rat.le_refl⟩

private theorem cutAdd_le (a c r : Rat) : (if r < a - c then c + r else a) ≤ c + r := by
  split
  · exact Rat.le_refl
  · grind

/-! Over `Rat` the tail is four clamps in a row: raise `x` to the floor `m`, cut at `c + r`, cut at `T`, raise to 1. -/

theorem tailPre_ge_one (x m c r T : Rat) : 1 ≤ tailPre x m c r T := by
  simp only [tailPre, QArith.lt, QArith.ofInt, decide_eq_true_eq, Rat.intCast_one]
  exact floor_le _ 1

theorem tailPre_upper (x m c r T : Rat) :
    tailPre x m c r T = 1 ∨ (tailPre x m c r T ≤ c + r ∧ tailPre x m c r T ≤ T) := by
  simp only [tailPre, QArith.lt, QArith.sub, QArith.add, QArith.ofInt, decide_eq_true_eq, Rat.intCast_one]
  generalize (if x < m then m else x) = n1
  have h2 := cutAdd_le n1 c r
  generalize (if r < n1 - c then c + r else n1) = n2 at h2 ⊢
  have h3 := cut_le n2 T
  generalize (if T < n2 then T else n2) = n3 at h3 ⊢
  split
  · exact Or.inl rfl
  · exact Or.inr ⟨Rat.le_trans h3.2 h2, h3.1⟩

/-- asked for at least all that is left, the tail hands out exactly that: no clamp moves `c + r` -/
theorem tailPre_takes_all (x m c r T : Rat) (hm : m ≤ x) (hx : c + r ≤ x) (h1 : 1 ≤ c + r) (h2 : c + r ≤ T) :
    tailPre x m c r T = c + r := by
  have e2 : (if r < x - c then c + r else x) = c + r := by
    split
    · rfl
    · grind
  simp only [tailPre, QArith.lt, QArith.sub, QArith.add, QArith.ofInt, decide_eq_true_eq, Rat.intCast_one,
    if_neg (Rat.not_lt.2 hm), e2, if_neg (Rat.not_lt.2 h2), if_neg (Rat.not_lt.2 h1)]

/-- the answered quota, as the integer written into the reply -/
def next (x m : Rat) (c r T : Int) : Int := (tailPre x m (c : Rat) (r : Rat) (T : Rat)).ceil

/-- every quota answered is at least 1 -/
theorem c07_min_one (x m : Rat) (c r T : Int) : 1 ≤ next x m c r T := by
  unfold next
  have h := tailPre_ge_one x m c r T
  have h2 : ((1 : Int) : Rat) ≤ ((tailPre x m (c : Rat) (r : Rat) (T : Rat)).ceil : Rat) :=
    Rat.le_trans (by simpa using h) Rat.le_ceil
  exact Rat.intCast_le_intCast.1 h2

/-- the answer is the minimum 1, or it is within both `c + r` and `T` -/
theorem c07_tail (x m : Rat) (c r T : Int) :
    next x m c r T = 1 ∨ (next x m c r T ≤ c + r ∧ next x m c r T ≤ T) := by
  unfold next
  rcases tailPre_upper x m c r T with h | ⟨h1, h2⟩
  · left; rw [h]; exact Rat.ceil_intCast 1
  · right
    constructor
    · rw [Rat.ceil_le_iff]; simpa using h1
    · rw [Rat.ceil_le_iff]; exact h2

/-- **range**: every quota answered is at least 1 and at most the global limit (`T ≥ 1`) -/
theorem c07_range (x m : Rat) (c r T : Int) (hT : 1 ≤ T) :
    1 ≤ next x m c r T ∧ next x m c r T ≤ T := by
  refine ⟨c07_min_one x m c r T, ?_⟩
  rcases c07_tail x m c r T with h | ⟨_, h⟩
  · omega
  · exact h

/-- **sum safety**: after replacing the reporter's quota `c` by the answer the recorded sum is at most the limit — an
    instance held at the minimum 1 aside. Of interest when the recorded sum `A` is at most the limit (`_hA`, which the proof
    does not need). -/
theorem c07_sum_safe (x m : Rat) (c A T : Int) (_hA : A ≤ T) :
    next x m c (T - A) T = 1 ∨ A - c + next x m c (T - A) T ≤ T := by
  rcases c07_tail x m c (T - A) T with h | ⟨h, _⟩
  · exact Or.inl h
  · right; omega

/-- **no growth when over-committed**: if the recorded sum exceeds the limit (e.g. the limit was lowered), the
    answer is below the reporter's quota, or is the minimum 1 -/
theorem c07_no_growth (x m : Rat) (c A T : Int) (hA : T < A) :
    next x m c (T - A) T = 1 ∨ next x m c (T - A) T < c := by
  rcases c07_tail x m c (T - A) T with h | ⟨h, _⟩
  · exact Or.inl h
  · right; omega

/-- when over-committed the reporter gives back at least the whole over-commitment, or drops to 1 -/
theorem c07_gives_back (x m : Rat) (c A T : Int) :
    next x m c (T - A) T = 1 ∨ next x m c (T - A) T ≤ c - (A - T) := by
  rcases c07_tail x m c (T - A) T with h | ⟨h, _⟩
  · exact Or.inl h
  · right; omega

/-! ## token-bucket burst: scaled with the quota, never above the global burst -/

/-- `burst' = ⌈next / T · B⌉` -/
def burst (n T B : Int) : Int := (((n : Rat) / (T : Rat)) * (B : Rat)).ceil

private theorem intCast_pos {T : Int} (h : 1 ≤ T) : (0 : Rat) < (T : Rat) := by
  have : ((0 : Int) : Rat) < (T : Rat) := Rat.intCast_lt_intCast.2 (by omega)
  simpa using this

private theorem intCast_nonneg {B : Int} (h : 0 ≤ B) : (0 : Rat) ≤ (B : Rat) := by
  have : ((0 : Int) : Rat) ≤ (B : Rat) := Rat.intCast_le_intCast.2 h
  simpa using this

private theorem scale_mono {n n' T B : Int} (h : n ≤ n') (hT : 1 ≤ T) (hB : 0 ≤ B) :
    (n : Rat) / (T : Rat) * (B : Rat) ≤ (n' : Rat) / (T : Rat) * (B : Rat) := by
  rw [Rat.div_def, Rat.div_def]
  exact Rat.mul_le_mul_of_nonneg_right
    (Rat.mul_le_mul_of_nonneg_right (Rat.intCast_le_intCast.2 h) (Rat.le_of_lt (Rat.inv_pos.2 (intCast_pos hT))))
    (intCast_nonneg hB)

theorem c07_burst_le (n T B : Int) (hn0 : 0 ≤ n) (hn : n ≤ T) (hT : 1 ≤ T) (hB : 0 ≤ B) : burst n T B ≤ B := by
  unfold burst
  rw [Rat.ceil_le_iff]
  have h := scale_mono hn hT hB
  rwa [Rat.div_def (T : Rat), Rat.mul_inv_cancel _ (Rat.ne_of_gt (intCast_pos hT)), Rat.one_mul] at h

theorem c07_burst_mono (n n' T B : Int) (h : n ≤ n') (hT : 1 ≤ T) (hB : 0 ≤ B) : burst n T B ≤ burst n' T B := by
  unfold burst
  rw [Rat.ceil_le_iff]
  exact Rat.le_trans (scale_mono h hT hB) Rat.le_ceil

/-! ## histories: the recorded sum over any sequence of reports, deletions and limit raises

Invariant `sum ≤ total + ones` (`Inv`): the only over-commitment ever on record is the minimum-quota allowance the property
names. Every step lemma is proved for `InvH` (under "the invariant"), of which `Inv` is the case `H = total`. -/

structure Inv (s : Srv) : Prop where
  limit : 1 ≤ s.total
  ge_one : ∀ p ∈ s.quotas, 1 ≤ p.2
  bound : sumQ s.quotas ≤ s.total + onesQ s.quotas
  recorded : sumQ s.quotas ≤ s.recSum

/-- a limit change is covered by the invariant when it does not lower the limit (lowering is covered by
    `c07_no_growth` / `c07_over_report`) -/
def legal (s : Srv) : Op → Prop
  | .setLimit t => s.total ≤ t
  | _ => True

def Legal : Srv → List Op → Prop
  | _, [] => True
  | s, op :: ops => legal s op ∧ Legal (step s op) ops

/-! ### the recorded quotas: an association list keyed by `Nat`, with sums over it

Every quantity the invariant speaks of is a sum `wsum w l` of a weight of the recorded quotas: the recorded sum (`w = id`, by
definition), the instances at the minimum (`isOne`), what the records take beyond the minimum-quota allowance (`excess`). -/

def isOne (q : Int) : Int := if q = 1 then 1 else 0
def excess (q : Int) : Int := q - isOne q

theorem isOne_spec (q : Int) : q = 1 ∧ isOne q = 1 ∨ q ≠ 1 ∧ isOne q = 0 := by
  unfold isOne; split <;> simp [*]

theorem lookup_setQuota (l : List (Nat × Int)) (i : Nat) (q : Int) (j : Nat) :
    (setQuota l i q).lookup j = if i = j then some q else l.lookup j := by
  induction l with
  | nil => rw [setQuota, Lemmas.lookup_cons_ite]
  | cons p rest ih =>
    obtain ⟨k, v⟩ := p
    rw [setQuota]
    split
    · subst k; rw [Lemmas.lookup_cons_ite, Lemmas.lookup_cons_ite]; split <;> rfl
    · rw [Lemmas.lookup_cons_ite, Lemmas.lookup_cons_ite, ih]
      split
      · rw [if_neg (by omega)]
      · rfl

theorem lookupD_cons (j : Nat) (v : Int) (l : List (Nat × Int)) (i : Nat) :
    lookupD ((j, v) :: l) i = if j = i then v else lookupD l i := by
  unfold lookupD; rw [Lemmas.lookup_cons_ite]; split <;> rfl

theorem setQuota_ge_one (l : List (Nat × Int)) (i : Nat) (q : Int)
    (hl : ∀ p ∈ l, 1 ≤ p.2) (hq : 1 ≤ q) : ∀ p ∈ setQuota l i q, 1 ≤ p.2 := by
  induction l with
  | nil => simpa [setQuota] using hq
  | cons a rest ih =>
    obtain ⟨j, v⟩ := a
    rw [List.forall_mem_cons] at hl
    rw [setQuota]
    split
    · exact List.forall_mem_cons.2 ⟨hq, hl.2⟩
    · exact List.forall_mem_cons.2 ⟨hl.1, ih hl.2⟩

theorem lookupD_nonneg (l : List (Nat × Int)) (i : Nat) (hl : ∀ p ∈ l, 1 ≤ p.2) : 0 ≤ lookupD l i := by
  unfold lookupD
  cases h : l.lookup i with
  | none => exact Int.le_refl 0
  | some c => have := hl _ (Lemmas.mem_of_lookup h); show 0 ≤ c; omega

def wsum (w : Int → Int) (l : List (Nat × Int)) : Int := (l.map fun p => w p.2).sum

theorem wsum_cons (w : Int → Int) (p : Nat × Int) (l) : wsum w (p :: l) = w p.2 + wsum w l := rfl

/-- `h0`: a missing record weighs nothing -/
theorem wsum_setQuota (w : Int → Int) (h0 : w 0 = 0) (l : List (Nat × Int)) (i : Nat) (q : Int) :
    wsum w (setQuota l i q) = wsum w l - w (lookupD l i) + w q := by
  induction l with
  | nil => simp [setQuota, wsum, lookupD, h0]
  | cons p rest ih =>
    obtain ⟨j, v⟩ := p
    rw [setQuota, lookupD_cons]
    split
    · simp only [wsum_cons]; omega
    · simp only [wsum_cons, ih]; omega

theorem wsum_filter_le (w : Int → Int) (l : List (Nat × Int)) (f : Nat × Int → Bool) (hw : ∀ p ∈ l, 0 ≤ w p.2) :
    wsum w (l.filter f) ≤ wsum w l := by
  induction l with
  | nil => exact Int.le_refl _
  | cons p rest ih =>
    rw [List.forall_mem_cons] at hw
    have := ih hw.2
    have := hw.1
    rw [List.filter_cons]
    split <;> simp only [wsum_cons] <;> omega

theorem wsum_nonneg (w : Int → Int) (l : List (Nat × Int)) (hw : ∀ p ∈ l, 0 ≤ w p.2) : 0 ≤ wsum w l := by
  have := wsum_filter_le w l (fun _ => false) hw
  rwa [List.filter_eq_nil_iff.2 (fun _ _ => Bool.false_ne_true)] at this

/-- the record under one key and any records under other keys are within the whole -/
theorem wsum_split (w : Int → Int) (h0 : w 0 = 0) (l : List (Nat × Int)) (a : Nat) (f : Nat × Int → Bool)
    (hf : ∀ p, p.1 = a → f p = false) (hw : ∀ p ∈ l, 0 ≤ w p.2) :
    w (lookupD l a) + wsum w (l.filter f) ≤ wsum w l := by
  induction l with
  | nil => simp [lookupD, wsum, h0]
  | cons p rest ih =>
    obtain ⟨j, v⟩ := p
    rw [List.forall_mem_cons] at hw
    have hv : 0 ≤ w v := hw.1
    rw [lookupD_cons, List.filter_cons]
    by_cases hj : j = a
    · have := wsum_filter_le w rest f hw.2
      rw [if_pos hj, hf (j, v) hj, if_neg Bool.false_ne_true]; simp only [wsum_cons]; omega
    · have := ih hw.2
      rw [if_neg hj]
      split <;> simp only [wsum_cons] <;> omega

theorem wsum_lookupD_le (w : Int → Int) (h0 : w 0 = 0) (l : List (Nat × Int)) (a : Nat) (hw : ∀ p ∈ l, 0 ≤ w p.2) :
    w (lookupD l a) ≤ wsum w l := by
  have := wsum_split w h0 l a (fun _ => false) (fun _ _ => rfl) hw
  rwa [List.filter_eq_nil_iff.2 (fun _ _ => Bool.false_ne_true), show wsum w [] = 0 from rfl, Int.add_zero] at this

/-! ### the three weights -/

theorem sumQ_cons (p : Nat × Int) (l) : sumQ (p :: l) = p.2 + sumQ l := by simp [sumQ]
theorem onesQ_cons (p : Nat × Int) (l) : onesQ (p :: l) = isOne p.2 + onesQ l := by
  unfold onesQ isOne
  by_cases h : p.2 = 1
  · simp [h]; omega
  · simp [h]

theorem onesQ_nonneg (l) : 0 ≤ onesQ l := by unfold onesQ; omega

theorem onesQ_eq (l) : onesQ l = wsum isOne l := by
  induction l with
  | nil => rfl
  | cons p rest ih => rw [onesQ_cons, wsum_cons, ih]

theorem slack_eq (l) : sumQ l - onesQ l = wsum excess l := by
  induction l with
  | nil => rfl
  | cons p rest ih => rw [sumQ_cons, onesQ_cons, wsum_cons, ← ih, excess]; omega

theorem id_weight {l : List (Nat × Int)} (hl : ∀ p ∈ l, 1 ≤ p.2) : ∀ p ∈ l, 0 ≤ id p.2 :=
  fun p hp => Int.le_trans (by decide) (hl p hp)

theorem excess_weight {l : List (Nat × Int)} (hl : ∀ p ∈ l, 1 ≤ p.2) : ∀ p ∈ l, 0 ≤ excess p.2 := by
  intro p hp; have := hl p hp; have := isOne_spec p.2; unfold excess; omega

theorem setQuota_sum (l : List (Nat × Int)) (i : Nat) (q : Int) :
    sumQ (setQuota l i q) = sumQ l - lookupD l i + q := wsum_setQuota id rfl l i q

theorem setQuota_ones (l : List (Nat × Int)) (i : Nat) (q : Int) :
    onesQ (setQuota l i q) = onesQ l - isOne (lookupD l i) + isOne q := by
  simp only [onesQ_eq]; exact wsum_setQuota isOne rfl l i q

theorem filter_sum_le (l : List (Nat × Int)) (f : Nat × Int → Bool) (hl : ∀ p ∈ l, 1 ≤ p.2) :
    sumQ (l.filter f) ≤ sumQ l := wsum_filter_le id l f (id_weight hl)

theorem filter_slack (l : List (Nat × Int)) (f : Nat × Int → Bool) (hl : ∀ p ∈ l, 1 ≤ p.2) :
    sumQ (l.filter f) - onesQ (l.filter f) ≤ sumQ l - onesQ l := by
  rw [slack_eq, slack_eq]; exact wsum_filter_le excess l f (excess_weight hl)

theorem sumQ_split (l : List (Nat × Int)) (a : Nat) (f : Nat × Int → Bool) (hf : ∀ p, p.1 = a → f p = false)
    (hl : ∀ p ∈ l, 1 ≤ p.2) : lookupD l a + sumQ (l.filter f) ≤ sumQ l := wsum_split id rfl l a f hf (id_weight hl)

theorem isOne_lookupD_le (l : List (Nat × Int)) (i : Nat) : isOne (lookupD l i) ≤ onesQ l :=
  onesQ_eq l ▸ wsum_lookupD_le isOne rfl l i (fun p _ => by have := isOne_spec p.2; omega)

theorem excess_lookupD_le (l : List (Nat × Int)) (a : Nat) (hl : ∀ p ∈ l, 1 ≤ p.2) :
    excess (lookupD l a) ≤ sumQ l - onesQ l := slack_eq l ▸ wsum_lookupD_le excess rfl l a (excess_weight hl)

/-- distinct instances together hold at most the recorded sum -/
theorem sum_lookup_le : ∀ (ids : List Nat) (l : List (Nat × Int)), ids.Nodup → (∀ p ∈ l, 1 ≤ p.2) →
    (ids.map (lookupD l)).sum ≤ sumQ l
  | [], l, _, hl => wsum_nonneg id l (id_weight hl)
  | a :: rest, l, hn, hl => by
    have hn' := List.nodup_cons.1 hn
    have ih := sum_lookup_le rest (l.filter (fun p => p.1 != a)) hn'.2 (fun p hp => hl p (List.mem_filter.1 hp).1)
    have hs := sumQ_split l a (fun p => p.1 != a) (fun p hp => by simp [hp]) hl
    have he : rest.map (lookupD (l.filter (fun p => p.1 != a))) = rest.map (lookupD l) := by
      apply List.map_congr_left
      intro i hi
      have hia : (i != a) = true := bne_iff_ne.2 (fun e => hn'.1 (e ▸ hi))
      simp only [lookupD, Lemmas.lookup_filter_key l (· != a) i, hia, if_true]
    rw [he] at ih
    simp only [List.map_cons, List.sum_cons]
    omega

/-! ### the invariant -/

theorem answer_eq (s : Srv) (i : Nat) (x m : Rat) :
    answer s i x m = next x m (lookupD s.quotas i) (s.total - s.recSum) s.total := by
  simp [answer, next]

/-- The invariant relative to `H`, the largest limit in force since the record began: it survives EVERY limit change,
    lowerings included (`invH_setLimit`); `Inv s` is the case `H = s.total`. -/
structure InvH (H : Int) (s : Srv) : Prop where
  limit : 1 ≤ s.total
  hi : s.total ≤ H
  ge_one : ∀ p ∈ s.quotas, 1 ≤ p.2
  recorded : sumQ s.quotas ≤ s.recSum
  slack : wsum excess s.quotas ≤ H

theorem inv_iff_invH (s : Srv) : Inv s ↔ InvH s.total s :=
  ⟨fun h => ⟨h.limit, Int.le_refl _, h.ge_one, h.recorded, by have := h.bound; rw [← slack_eq]; omega⟩,
   fun h => ⟨h.limit, h.ge_one, by have := h.slack; rw [← slack_eq] at this; omega, h.recorded⟩⟩

theorem invH_report {H : Int} {s : Srv} (h : InvH H s) (i : Nat) (x m : Rat) : InvH H (step s (.report i x m)) := by
  have hn := c07_min_one x m (lookupD s.quotas i) (s.total - s.recSum) s.total
  have ht := c07_tail x m (lookupD s.quotas i) (s.total - s.recSum) s.total
  rw [← answer_eq] at hn ht
  refine ⟨h.limit, h.hi, setQuota_ge_one _ _ _ h.ge_one hn, Int.le_refl _, ?_⟩
  show wsum excess (setQuota s.quotas i (answer s i x m)) ≤ H
  rw [wsum_setQuota excess rfl]
  -- the reporter's old excess leaves the sum, the answer's enters it; an answer above 1 is within `c + (T − recSum)`
  have := h.hi
  have := h.recorded
  have := h.slack
  have := slack_eq s.quotas
  have := lookupD_nonneg s.quotas i h.ge_one
  have := isOne_lookupD_le s.quotas i
  have := isOne_spec (lookupD s.quotas i)
  have := isOne_spec (answer s i x m)
  show wsum excess s.quotas - (lookupD s.quotas i - isOne (lookupD s.quotas i))
    + (answer s i x m - isOne (answer s i x m)) ≤ H
  omega

theorem invH_filter {H : Int} {s : Srv} (h : InvH H s) (f : Nat × Int → Bool) :
    InvH H { s with quotas := s.quotas.filter f } :=
  ⟨h.limit, h.hi, fun p hp => h.ge_one p (List.mem_filter.1 hp).1,
    Int.le_trans (filter_sum_le s.quotas f h.ge_one) h.recorded,
    Int.le_trans (wsum_filter_le excess s.quotas f (excess_weight h.ge_one)) h.slack⟩

theorem invH_setLimit {H H' : Int} {s : Srv} (h : InvH H s) {t : Int} (ht : 1 ≤ t) (h1 : H ≤ H') (h2 : t ≤ H') :
    InvH H' (step s (.setLimit t)) :=
  ⟨ht, h2, h.ge_one, h.recorded, Int.le_trans h.slack h1⟩

theorem inv_step (s : Srv) (op : Op) (h : Inv s) (hl : legal s op) : Inv (step s op) := by
  rw [inv_iff_invH] at h
  cases op with
  | report i x m => exact (inv_iff_invH _).2 (invH_report h i x m)
  | delete i => exact (inv_iff_invH _).2 (invH_filter h _)
  | setLimit t => exact (inv_iff_invH _).2 (invH_setLimit h (Int.le_trans h.limit hl) hl (Int.le_refl t))

/-- for EVERY sequence of reports (with arbitrary strategy outputs), deletions of
    instances and limit raises, starting from any state satisfying the invariant (e.g. the empty one), every
    recorded quota stays ≥ 1 and the recorded sum exceeds the limit by at most the number of instances held at
    the minimum quota of 1. -/
theorem c07_history (s : Srv) (ops : List Op) (h : Inv s) (hl : Legal s ops) : Inv (run s ops) := by
  induction ops generalizing s with
  | nil => exact h
  | cons op ops ih => exact ih (step s op) (inv_step s op h hl.1) hl.2

theorem c07_history_init (T : Int) (hT : 1 ≤ T) (ops : List Op) (hl : Legal ⟨T, 0, []⟩ ops) :
    Inv (run ⟨T, 0, []⟩ ops) :=
  c07_history _ ops ⟨hT, by simp, by simp [sumQ, onesQ]; omega, by simp [sumQ]⟩ hl

/-- the decidable judge applied to implementation states by the harness is exactly the invariant -/
theorem invB_iff (s : Srv) : invB s = true ↔ Inv s := by
  unfold invB
  simp only [Bool.and_eq_true, decide_eq_true_eq, List.all_eq_true]
  constructor
  · rintro ⟨⟨⟨h1, h2⟩, h3⟩, h4⟩; exact ⟨h1, h2, h3, h4⟩
  · rintro ⟨h1, h2, h3, h4⟩; exact ⟨⟨⟨h1, h2⟩, h3⟩, h4⟩

/-- in ANY state (also over-committed after the limit was lowered), a report never makes the reporter's recorded
    quota grow while the recorded sum exceeds the limit — unless it is set to the minimum 1 -/
theorem c07_over_report (s : Srv) (i : Nat) (x m : Rat) (hover : s.total < s.recSum) :
    answer s i x m = 1 ∨ answer s i x m < lookupD s.quotas i := by
  rw [answer_eq]; exact c07_no_growth x m _ _ _ hover

/-- and whenever the recorded sum is within the limit, the sum after the report is within the limit, the
    minimum-quota case aside (state-level form of `c07_sum_safe`) -/
theorem c07_report_sum_safe (s : Srv) (i : Nat) (x m : Rat) (hA : s.recSum ≤ s.total)
    (hr : sumQ s.quotas ≤ s.recSum) :
    answer s i x m = 1 ∨ (step s (.report i x m)).recSum ≤ s.total := by
  have := c07_sum_safe x m (lookupD s.quotas i) s.recSum s.total hA
  rw [← answer_eq] at this
  rcases this with h | h
  · exact Or.inl h
  · right; simp only [step, setQuota_sum]; omega

/-! ## non-vacuity: the hypotheses are met by concrete, non-trivial states -/

example : Inv ⟨10, 11, [(1, 4), (2, 1), (3, 6)]⟩ := ⟨by decide, by decide, by decide, by decide⟩
example : Legal ⟨10, 4, [(1, 4)]⟩ [.report 2 7 1, .setLimit 12, .delete 1] := by
  simp [Legal, legal, step]
example : next 50 1 4 (10 - 11) 10 = 3 := by decide +kernel
example : next (-300) (1/5) 400 (100 - 800) 100 = 1 := by decide +kernel

end KG.Props.C07
