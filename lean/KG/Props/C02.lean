import KG.Model.Identity
import KG.Spec.Identity
import KG.Lemmas.Identity
/-!
# C02 — identity propagation: the upstream acts as exactly the authenticated user

The model `KG.Model.Identity.serve` is one request through the gateway (server-side header parsing, authentication
filter, impersonation filter, gateway credential, `WrapRequest`, transport validation, the wire, the upstream's parser).
The specification `KG.Spec.Identity` is written on the RAW client header lines with case-insensitive names.

Everything about one request goes through two lemmas: `serve_spec` (the model's outcome is one the specification's verdict
allows: the relation `Serves`, a table of eight rows) and its corollary `serve_forwarded` (of a forwarded request the identity
bearing part — the entries named `Authorization` or `Impersonate-…` — is exactly what the gateway generates for the context
user). Every reader of identities (`values` under such a name, `decodeIdentity`, the judge) sees that part only, so the theorems
about what arrives are read off the gateway's own headers (`generated_decoded`, `judge_generated`). They are stated for
`serveWith`, i.e. for ANY authorizer function; the last part is about `serve`, whose authorizer is the one the shipped wiring
builds, and says whose decision lets an impersonation through.
-/
namespace KG.Props.C02
open KG KG.Model.Identity KG.Spec.Identity KG.Lemmas.Identity

/-! ## headerKeyEscape -/

theorem c02_escape_roundtrip (k : Str) : pathUnescape (headerKeyEscape k) = some k := by
  simpa using escape_map_decodes id rfl (fun _ _ => rfl) (fun _ h => ⟨h, rfl⟩) k

/-- the set of bytes the source escapes (regenerated by evaluating the source's predicate on all 256 bytes) is exactly: not a
    token byte of net/http, or '%', or an upper-case ASCII letter -/
theorem c02_escaped_set (b : UInt8) : shouldEscape b = (!isTokenByte b || b == 37 || isUpper b) := escaped_set b

/-- every byte of an escaped key is a legal header-name byte (a token byte of net/http), and the header it travels under is a
    name net/http accepts -/
theorem c02_escape_legal (k : Str) :
    (headerKeyEscape k).all isTokenByte = true ∧ validName (hImpExtraPrefix ++ headerKeyEscape k) = true := by
  have h := escape_token k
  refine ⟨h, ?_⟩
  have h2 : (hImpExtraPrefix ++ headerKeyEscape k).isEmpty = false := by simp [hImpExtraPrefix]
  simp [validName, List.all_append, extraPrefix_token, h, h2]

/-- A kube-apiserver decodes `unescapeExtraKey(ToLower(name[len(prefix):]))` from the (canonicalised) name an extra key
    travels under: exactly the key, for EVERY byte string (upper-case letters travel %-escaped, so `ToLower` only touches
    hexadecimal digits and letters that were lower-case already). -/
theorem c02_extra_key_decoded (k : Str) :
    unescapeExtraKey (toLower ((canonicalKey (hImpExtraPrefix ++ headerKeyEscape k)).drop hImpExtraPrefix.length)) = k :=
  extra_key_decoded k

/-! ## answered by the gateway, not forwarded -/

/-- When the specification says "answered with status s" (a header line the server refuses: 400; not authenticated:
    401; groups or extras without a user, or a requested name that is not valid UTF-8: 500; some derived impersonation request not allowed — denied, no opinion or
    authorizer error: 403), the gateway answers exactly that and nothing is forwarded. -/
theorem c02_answered_not_forwarded (token : Str) (raw : List (Str × Str)) (auth : Option Identity)
    (az : Attrs → Decision) (up : Bool) (s : Nat) (h : expectedFor raw auth az = .answered s) :
    (s = 400 ∧ serveWith token raw auth az up = .badRequest) ∨ (s = 401 ∧ serveWith token raw auth az up = .unauthorized) ∨
    (s = 500 ∧ serveWith token raw auth az up = .internalError) ∨ (s = 403 ∧ serveWith token raw auth az up = .forbidden) := by
  generalize ho : serveWith token raw auth az up = o
  cases serves_of_eq h ho <;> simp

/-- the same in the form of the property statement: nothing reaches the upstream -/
theorem c02_denied_or_malformed_never_reaches_upstream (token : Str) (raw : List (Str × Str)) (auth : Option Identity)
    (az : Attrs → Decision) (up : Bool) (s : Nat) (h : expectedFor raw auth az = .answered s) :
    ∀ recv ctx, serveWith token raw auth az up ≠ .forwarded recv ctx := by
  intro recv ctx hf
  cases serves_of_eq h hf

/-! ## forwarded: for whom, with which headers, decoded as what -/

/-- A request is forwarded only for the identity the specification names: the authenticated user when the client's
    lines (in any casing) ask for no impersonation, the requested identity when every derived check was allowed. -/
theorem c02_forwarded_only_as_expected (token : Str) (raw : List (Str × Str)) (auth : Option Identity)
    (az : Attrs → Decision) (up : Bool) (recv : Headers) (ctx : Identity)
    (h : serveWith token raw auth az up = .forwarded recv ctx) : expectedFor raw auth az = .forward ctx := by
  generalize he : expectedFor raw auth az = e
  cases serves_of_eq he h
  rfl

theorem c02_forwarded_identity (token : Str) (raw : List (Str × Str)) (u : Identity)
    (az : Attrs → Decision) (up : Bool) (recv : Headers) (ctx : Identity)
    (h : serveWith token raw (some u) az up = .forwarded recv ctx) :
    (impersonationRequested raw = false ∧ ctx = u) ∨
    (impersonationRequested raw = true ∧ malformed raw = false ∧ allAllowed az raw = true ∧ ctx = requestedIdentity raw) := by
  obtain ⟨u', _, _, hu, he, _⟩ := serve_forwarded token raw (some u) az up recv ctx h
  cases hu
  exact (expected_forward_iff raw u az ctx).1 he

/-- **Forwarded ⇒ the cluster's policy allows exactly the required records.** The records are computed from the client's
    header lines alone (`requiredRecords`: users and groups cluster-scoped, a service account in its own namespace, an extra
    as `userextras/<key>` in `authentication.k8s.io`); an impersonation is forwarded only if the policy allows every one of
    THOSE records, whatever the policy says about records with another namespace, group or subresource. -/
theorem c02_forwarded_requires_policy (token : Str) (raw : List (Str × Str)) (u : Identity)
    (az : Attrs → Decision) (up : Bool) (recv : Headers) (ctx : Identity)
    (h : serveWith token raw (some u) az up = .forwarded recv ctx) (hr : impersonationRequested raw = true) :
    ∀ a ∈ requiredRecords raw, (az a).allowed = true := by
  rcases c02_forwarded_identity token raw u az up recv ctx h with ⟨h', _⟩ | ⟨_, _, ha, _⟩
  · rw [hr] at h'; cases h'
  · simpa [allAllowed] using ha

/-- **No client identity header is forwarded.** For every client header set (any names, casings, duplicates, values),
    every authenticated identity and every authorizer: under every identity bearing name (`Authorization`, anything
    starting with `Impersonate-`) the upstream receives exactly the values the gateway itself generates from the
    context user and its own token (`gatewayHeaders`, which does not depend on the client's headers). -/
theorem c02_no_client_identity_header (token : Str) (raw : List (Str × Str)) (auth : Option Identity)
    (az : Attrs → Decision) (up : Bool) (recv : Headers) (ctx : Identity)
    (h : serveWith token raw auth az up = .forwarded recv ctx) (n : Str) (hn : isIdentityName n = true) :
    values recv n = values (sendOver up (gatewayHeaders token up ctx)) n := by
  obtain ⟨_, _, _, _, _, hF⟩ := serve_forwarded token raw auth az up recv ctx h
  rw [← values_filter_name recv isIdentityName n hn, hF]

/-- in particular the client's `Authorization` never arrives: only the gateway's bearer token (nothing on the upgrade path) -/
theorem c02_authorization (token : Str) (raw : List (Str × Str)) (auth : Option Identity)
    (az : Attrs → Decision) (up : Bool) (recv : Headers) (ctx : Identity)
    (h : serveWith token raw auth az up = .forwarded recv ctx) :
    values recv hAuthorization = if up then [] else [carried up (bearerPrefix ++ token)] := by
  rw [c02_no_client_identity_header token raw auth az up recv ctx h hAuthorization (by decide)]
  exact (generated_decoded token up ctx).1

/-- What arrives, as a function of the wire alone (it does not depend on `WrapRequest`'s value check): the
    context user with every value as the wire carries it (`carried`); names of extra keys (arbitrary bytes) untouched.
    `c02_identity_exact` removes `carried`. -/
theorem c02_identity_decoded (token : Str) (raw : List (Str × Str)) (auth : Option Identity)
    (az : Attrs → Decision) (up : Bool) (recv : Headers) (ctx : Identity)
    (h : serveWith token raw auth az up = .forwarded recv ctx) :
    (decodeIdentity recv).name = carried up ctx.name ∧
    (decodeIdentity recv).groups = ctx.groups.map (carried up) ∧
    ∀ k, values (decodeIdentity recv).extra k = values (ctx.extra.map (fun e => (e.1, e.2.map (carried up)))) k := by
  obtain ⟨_, _, _, _, _, hF⟩ := serve_forwarded token raw auth az up recv ctx h
  rw [← decodeIdentity_identityPart, hF]
  exact decodeIdentity_generated token up ctx

/-- `WrapRequest` forwards only identities whose every value survives a header field (`checkImpersonationValues`) -/
theorem c02_forwarded_values_survive (token : Str) (raw : List (Str × Str)) (auth : Option Identity)
    (az : Attrs → Decision) (up : Bool) (recv : Headers) (ctx : Identity)
    (h : serveWith token raw auth az up = .forwarded recv ctx) : checkImpersonationValues ctx = true := by
  obtain ⟨_, hk, _⟩ := serve_forwarded token raw auth az up recv ctx h
  exact hk

/-- **Identity exactness, full strength.** Whatever is forwarded — for every authenticated identity (arbitrary bytes in
    names, groups, extra keys and values), every client header set, every policy, both paths — the upstream reconstructs
    EXACTLY the identity to act as: the name, the groups in order, and for every extra key the values in order. -/
theorem c02_identity_exact (token : Str) (raw : List (Str × Str)) (auth : Option Identity)
    (az : Attrs → Decision) (up : Bool) (recv : Headers) (ctx : Identity)
    (h : serveWith token raw auth az up = .forwarded recv ctx) :
    (decodeIdentity recv).name = ctx.name ∧ (decodeIdentity recv).groups = ctx.groups ∧
    ∀ k, values (decodeIdentity recv).extra k = values ctx.extra k := by
  obtain ⟨_, hk, _, _, _, hF⟩ := serve_forwarded token raw auth az up recv ctx h
  rw [← decodeIdentity_identityPart, hF]
  exact decodeIdentity_generated_exact token up ctx (check_valuesCarried up ctx hk)

/-- **Not carried ⇒ terminated by the gateway.** When the specification says "forward as `id`" but `id` has a name, group
    or extra value a header field cannot carry (white space at an end, control byte), the gateway answers itself (502 on
    both paths: `RoundTrip` / `DialForUpgrade` return `WrapRequest`'s error) and nothing reaches the upstream. -/
theorem c02_not_carried_refused (token : Str) (raw : List (Str × Str)) (auth : Option Identity)
    (az : Attrs → Decision) (up : Bool) (id : Identity) (he : expectedFor raw auth az = .forward id)
    (hc : checkImpersonationValues id = false) : serveWith token raw auth az up = .valueRefused := by
  generalize ho : serveWith token raw auth az up = o
  cases serves_of_eq he ho with
  | valueRefused => rfl
  | upstreamRefused hk | transportRefused hk | forwarded _ hk => rw [hc] at hk; cases hk

/-- … in the words of the wire: an identity with a value that would not arrive as it is (`valuesCarried` false) is never forwarded -/
theorem c02_not_carried_never_reaches_upstream (token : Str) (raw : List (Str × Str)) (auth : Option Identity)
    (az : Attrs → Decision) (up : Bool) (recv : Headers) (ctx : Identity) (hc : valuesCarried up ctx = false) :
    serveWith token raw auth az up ≠ .forwarded recv ctx := by
  intro h
  have := check_valuesCarried up ctx (c02_forwarded_values_survive token raw auth az up recv ctx h)
  rw [hc] at this
  cases this

/-! ## the judge only looks at identity bearing headers (the harness records only those) -/

/-- judging the identity bearing part of what was received = judging everything that was received -/
theorem c02_judge_identity_part (token : Str) (up : Bool) (id : Identity) (recv : Headers) :
    judgeForward token up id (recv.filter (fun e => isIdentityName e.1)) = judgeForward token up id recv := by
  have hk (e : Str × List Str) : (hasPrefix e.1 hImpPrefix && isIdentityName e.1) = hasPrefix e.1 hImpPrefix := by
    cases h : hasPrefix e.1 hImpPrefix <;> simp [isIdentityName, h]
  have hk' (e : Str × List Str) (q : Bool) :
      (isIdentityName e.1 && (hasPrefix e.1 hImpPrefix && q)) = (hasPrefix e.1 hImpPrefix && q) := by
    rw [← Bool.and_assoc, Bool.and_comm (isIdentityName e.1), hk]
  simp only [judgeForward, decodeIdentity_identityPart, List.filter_filter, List.any_filter, hk, hk',
    values_filter_name recv isIdentityName hAuthorization (by decide)]

/-! ## the judge accepts the model -/

/-- the judge accepts every outcome the relation `Serves` allows -/
theorem judge_of_serves {token : Str} {up : Bool} {e : Expect} {o : Outcome} (h : Serves token up e o) :
    judge token up e (upstreamOf o) = [] := by
  cases h with
  | forwarded recv hk hr =>
    have hj := judge_generated token up _ (check_valuesCarried up _ hk)
    rw [← hr, c02_judge_identity_part] at hj
    simp [upstreamOf, judge, hj]
  | _ => rfl

/-- For EVERY request the judge the harness applies to the implementation accepts the model's output: no forwarded denial,
    no foreign `Authorization`, no client `Impersonate-*` header, no other identity, no lost extra-key case, no altered value. -/
theorem c02_judge_model (token : Str) (raw : List (Str × Str)) (auth : Option Identity)
    (az : Attrs → Decision) (up : Bool) :
    judge token up (expectedFor raw auth az) (upstreamOf (serveWith token raw auth az up)) = [] :=
  judge_of_serves (serve_spec token raw auth az up)

/-- **Non-interference.** Two requests forwarded for the same identity deliver the same values under every identity
    bearing name, whatever else the two clients sent. -/
theorem c02_client_headers_do_not_matter (token : Str) (raw₁ raw₂ : List (Str × Str)) (auth₁ auth₂ : Option Identity)
    (az₁ az₂ : Attrs → Decision) (up : Bool) (recv₁ recv₂ : Headers) (ctx : Identity)
    (h₁ : serveWith token raw₁ auth₁ az₁ up = .forwarded recv₁ ctx) (h₂ : serveWith token raw₂ auth₂ az₂ up = .forwarded recv₂ ctx)
    (n : Str) (hn : isIdentityName n = true) : values recv₁ n = values recv₂ n := by
  rw [c02_no_client_identity_header token raw₁ auth₁ az₁ up recv₁ ctx h₁ n hn,
    c02_no_client_identity_header token raw₂ auth₂ az₂ up recv₂ ctx h₂ n hn]

/-! ## constants of the examples -/

/-- alice, [system:authenticated] -/
def exAlice : Identity := ⟨[97, 108, 105, 99, 101], [[115, 121, 115, 116, 101, 109, 58, 97, 117, 116, 104, 101, 110, 116, 105, 99, 97, 116, 101, 100]], []⟩
/-- "gateway-token" -/
def exToken : Str := [103, 97, 116, 101, 119, 97, 121, 45, 116, 111, 107, 101, 110]
def recvOf (o : Outcome) : Headers := match o with | .forwarded r _ => r | _ => []

/-- `authorization: Bearer client`, `IMPERSONATE-user: bob`, `impersonate-GROUP: dev`, `Impersonate-Extra-a%2fb: v`,
    `impersonate-uid: 0` -/
def exRaw : List (Str × Str) := [([97, 117, 116, 104, 111, 114, 105, 122, 97, 116, 105, 111, 110], [66, 101, 97, 114, 101, 114, 32, 99, 108, 105, 101, 110, 116]), ([73, 77, 80, 69, 82, 83, 79, 78, 65, 84, 69, 45, 117, 115, 101, 114], [98, 111, 98]),
  ([105, 109, 112, 101, 114, 115, 111, 110, 97, 116, 101, 45, 71, 82, 79, 85, 80], [100, 101, 118]), ([73, 109, 112, 101, 114, 115, 111, 110, 97, 116, 101, 45, 69, 120, 116, 114, 97, 45, 97, 37, 50, 102, 98], [118]), ([105, 109, 112, 101, 114, 115, 111, 110, 97, 116, 101, 45, 117, 105, 100], [48])]
/-- bob, [dev, system:authenticated], a/b = [v] -/
def exBob : Identity := ⟨[98, 111, 98], [[100, 101, 118], [115, 121, 115, 116, 101, 109, 58, 97, 117, 116, 104, 101, 110, 116, 105, 99, 97, 116, 101, 100]], [([97, 47, 98], [[118]])]⟩
/-- a policy that denies the record `groups/dev` (cluster-scoped) and allows everything else -/
def exDenyDev : Attrs → Decision := fun a => if a = recordOf (.group [100, 101, 118]) then .deny else .allow

/-! ## the shipped wiring: the decision used is the TARGET CLUSTER's, for every requestor

`serve` is `serveWith` with the authorizer `AuthorizerConfig.New` builds (`wiredFor`): every theorem above holds for it (they
hold for any authorizer function). What follows is about WHOSE decision lets an impersonation through. `policy` is what the
target cluster answers to a SubjectAccessReview about a record. -/

/-- **No requestor-dependent bypass.** For EVERY requestor `u` (any user name — `system:admin`, `kube-apiserver` … —, any
    groups — `system:masters`, `system:authenticated`, `system:unauthenticated` … —, any extras) and every record: the wired
    authorizer allows only what the target cluster's policy allows (about the record as the SubjectAccessReview carries it);
    and unless the review cannot even be sent for this requestor (then: error, refused) it IS the cluster's answer. -/
theorem c02_wired_decision_is_the_clusters (u : Identity) (policy : Attrs → Decision) (a : Attrs) :
    ((wiredAuthorizer u policy a).allowed = true → (policy (jsonAttrs a)).allowed = true) ∧
    ((wrapRequest [] u).isSome = true → wiredAuthorizer u policy a = policy (jsonAttrs a)) := by
  refine ⟨wired_allowed, ?_⟩
  intro h
  simp only [wiredAuthorizer]
  cases hw : wrapRequest [] u with
  | none => rw [hw] at h; cases h
  | some x => simp

/-- Forwarded impersonation ⇒ the TARGET CLUSTER allowed every required record (as JSON carries it), whoever asks. -/
theorem c02_forwarded_requires_cluster (token : Str) (raw : List (Str × Str)) (u : Identity)
    (policy : Attrs → Decision) (up : Bool) (recv : Headers) (ctx : Identity)
    (h : serve token raw (some u) policy up = .forwarded recv ctx) (hr : impersonationRequested raw = true) :
    ∀ a ∈ requiredRecords raw, (policy (jsonAttrs a)).allowed = true := by
  intro a ha
  exact wired_allowed (c02_forwarded_requires_policy token raw u (wiredAuthorizer u policy) up recv ctx h hr a ha)

/-- The property at full strength: forwarded impersonation ⇒ the cluster's policy allows every EXACT required record. -/
def C02ClusterPolicyRespected : Prop :=
  ∀ (token : Str) (raw : List (Str × Str)) (u : Identity) (policy : Attrs → Decision) (up : Bool) (recv : Headers)
    (ctx : Identity), serve token raw (some u) policy up = .forwarded recv ctx → impersonationRequested raw = true →
    ∀ a ∈ requiredRecords raw, (policy a).allowed = true

/-- … holds of /repo from 4b75a77 on (an impersonation with a name that is not valid UTF-8 is malformed: 500, not forwarded; the
    records of a well-formed one are exactly what the SubjectAccessReview carries), for EVERY requestor and every policy -/
theorem c02_cluster_policy_respected : C02ClusterPolicyRespected := by
  intro token raw u policy up recv ctx h hr
  obtain ⟨_, _, _, hu, he, _⟩ := serve_forwarded token raw (some u) _ up recv ctx h
  cases hu
  rcases (expected_forward_iff raw u policy ctx).1 (expected_wired he) with ⟨h', _⟩ | ⟨_, _, ha, _⟩
  · rw [hr] at h'; cases h'
  · simpa [allAllowed] using ha

/-- What the cluster's policy refuses (asked about the exact required records) is answered by the gateway and never
    forwarded — for every requestor; so is every malformed impersonation (incl. names that are not valid UTF-8). -/
theorem c02_cluster_refusal_not_forwarded (token : Str) (raw : List (Str × Str)) (auth : Option Identity)
    (policy : Attrs → Decision) (up : Bool) (s : Nat) (h : expectedFor raw auth policy = .answered s) :
    ∀ recv ctx, serve token raw auth policy up ≠ .forwarded recv ctx := by
  intro recv ctx hf
  have := expectedFor_wired raw auth policy ctx (c02_forwarded_only_as_expected token raw auth _ up recv ctx hf)
  rw [h] at this
  cases this

/-- For EVERY request the judge the harness applies (against the cluster's own answers on the exact records, whoever the
    requestor is) accepts the model's output. -/
theorem c02_judge_cluster_model (token : Str) (raw : List (Str × Str)) (auth : Option Identity)
    (policy : Attrs → Decision) (up : Bool) :
    judgeCluster token up raw auth policy (upstreamOf (serve token raw auth policy up)) = [] := by
  cases hs : serve token raw auth policy up with
  | forwarded recv ctx =>
    have he := c02_forwarded_only_as_expected token raw auth (wiredFor auth policy) up recv ctx hs
    have hj := c02_judge_model token raw auth (wiredFor auth policy) up
    rw [show serveWith token raw auth (wiredFor auth policy) up = _ from hs, he] at hj
    simpa [judgeCluster, expectedFor_wired raw auth policy ctx he, upstreamOf, judge] using hj
  | _ =>
    simp only [judgeCluster, upstreamOf]
    split <;> simp

/-- the witness of the repaired defect C02-record-not-utf8 is malformed: `Impersonate-User: \xff\xfe` is answered 500 -/
example : serve exToken [([73, 109, 112, 101, 114, 115, 111, 110, 97, 116, 101, 45, 85, 115, 101, 114], [255, 254])] (some exAlice)
      (fun a => if a.name = [255, 254] then .deny else .allow) false = .internalError ∧
    expectedFor [([73, 109, 112, 101, 114, 115, 111, 110, 97, 116, 101, 45, 85, 115, 101, 114], [255, 254])] (some exAlice) (fun _ => .allow) = .answered 500 := by decide +kernel

/-- a requestor in `system:masters` named `system:admin` is treated like everybody else: the cluster denies acting as
    `bob`, the gateway answers 403 -/
example : serve exToken [([73, 109, 112, 101, 114, 115, 111, 110, 97, 116, 101, 45, 85, 115, 101, 114], [98, 111, 98])]
    (some ⟨[115, 121, 115, 116, 101, 109, 58, 97, 100, 109, 105, 110], [[115, 121, 115, 116, 101, 109, 58, 109, 97, 115, 116, 101, 114, 115], [115, 121, 115, 116, 101, 109, 58, 97, 117, 116, 104, 101, 110, 116, 105, 99, 97, 116, 101, 100]], []⟩)
    (fun a => if a.name = [98, 111, 98] then .deny else .allow) false = .forbidden := by decide +kernel

/-! ## regenerated facts -/

/-- the prefix of the names `WrapRequest` deletes (regenerated from the source, found by role) is the family prefix the property
    speaks of, which covers the three header names of the impersonation protocol -/
theorem c02_prefix_covers_family :
    hWrapDeletePrefix = hImpPrefix ∧
    hasPrefix hImpUser hImpPrefix = true ∧ hasPrefix hImpGroup hImpPrefix = true ∧ hasPrefix hImpExtraPrefix hImpPrefix = true := by
  decide

/-- the authorizer wiring (regenerated; what `wiredAuthorizer` takes for granted and no behavioural stream can exhaust): the method
    that builds the proxy authorizer calls the multi-cluster SubjectAccessReview constructor and NOTHING else (no union, no
    privileged group, no always-allow, named by import path); `CreateProxyConfig` applies it to the config whose handler chain is
    the proxy chain, with the cluster manager that chain routes with. (That the filter is handed this authorizer, the filter order,
    the value check of `WrapRequest` and the UTF-8 check are tied behaviourally: the harness runs the real chain builder, the real
    `ApplyTo` and the real transport.) -/
theorem c02_authorizer_wiring :
    KG.Gen.C02.authorizerConstructors =
      ["github.com/kubewharf/kubegateway/pkg/gateway/authorization/webhook.NewMultiClusterSubjectAccessReviewAuthorizer"] ∧
    KG.Gen.C02.authorizerWiredForTheChain = true :=
  ⟨rfl, rfl⟩

/-! ## non-vacuity (byte strings spelled out; evaluated by the kernel) -/

/-- an allowed impersonation sent with mixed casings, the client's own `Authorization` and a stray `impersonate-uid`:
    forwarded as bob, with the gateway's token only, without `Impersonate-Uid`, decoded exactly -/
example : (match serveWith exToken exRaw (some exAlice) (fun _ => .allow) false with
    | .forwarded recv ctx => decide (ctx = exBob ∧ values recv hAuthorization = [[66, 101, 97, 114, 101, 114, 32, 103, 97, 116, 101, 119, 97, 121, 45, 116, 111, 107, 101, 110]] ∧
        values recv [73, 109, 112, 101, 114, 115, 111, 110, 97, 116, 101, 45, 85, 105, 100] = [] ∧ decodeIdentity recv = exBob)
    | _ => false) = true := by decide +kernel

/-- for that request the specification says "forward as bob", and every value of bob survives a header field (the case
    `c02_not_carried_refused` excludes) -/
example : expectedFor exRaw (some exAlice) (fun _ => .allow) = .forward exBob ∧
    checkImpersonationValues exBob = true := by decide +kernel

/-- the same request with the group check denied: the specification says 403, the gateway answers 403 -/
example : serveWith exToken exRaw (some exAlice) exDenyDev false = .forbidden ∧
    expectedFor exRaw (some exAlice) exDenyDev = .answered 403 := by decide +kernel

/-- a policy like a namespaced RoleBinding: `impersonate` on groups allowed only INSIDE namespace `ns1`, everything about
    service accounts allowed -/
def exNamespacedPolicy : Attrs → Decision := fun a =>
  if a.resource = resServiceAccounts then .allow
  else if a.resource = resGroups ∧ a.ns = [110, 115, 49] then .allow else .deny

/-- service account `ns1:sa1` plus group `system:masters` under that policy: the required record `groups/system:masters`
    is cluster-scoped (namespace ""), the policy does not allow it: 403, not forwarded -/
example :
    let raw := [([73, 109, 112, 101, 114, 115, 111, 110, 97, 116, 101, 45, 85, 115, 101, 114], [115, 121, 115, 116, 101, 109, 58, 115, 101, 114, 118, 105, 99, 101, 97, 99, 99, 111, 117, 110, 116, 58, 110, 115, 49, 58, 115, 97, 49]), ([73, 109, 112, 101, 114, 115, 111, 110, 97, 116, 101, 45, 71, 114, 111, 117, 112], [115, 121, 115, 116, 101, 109, 58, 109, 97, 115, 116, 101, 114, 115])]
    requiredRecords raw = [⟨[], resServiceAccounts, [], [110, 115, 49], [115, 97, 49]⟩, ⟨[], resGroups, [], [], [115, 121, 115, 116, 101, 109, 58, 109, 97, 115, 116, 101, 114, 115]⟩] ∧
    expectedFor raw (some exAlice) exNamespacedPolicy = .answered 403 ∧
    serveWith exToken raw (some exAlice) exNamespacedPolicy false = .forbidden := by decide +kernel

/-- groups without a user: 500 -/
example : serveWith exToken [([105, 109, 112, 101, 114, 115, 111, 110, 97, 116, 101, 45, 103, 114, 111, 117, 112], [100, 101, 118])] (some exAlice) (fun _ => .allow) false = .internalError ∧
    expectedFor [([105, 109, 112, 101, 114, 115, 111, 110, 97, 116, 101, 45, 103, 114, 111, 117, 112], [100, 101, 118])] (some exAlice) (fun _ => .allow) = .answered 500 := by decide +kernel

/-- no impersonation requested (only a stray `IMPERSONATE-FOO` and the client's token): forwarded as alice -/
example : (match serveWith exToken [([73, 77, 80, 69, 82, 83, 79, 78, 65, 84, 69, 45, 70, 79, 79], [120]), ([65, 117, 116, 104, 111, 114, 105, 122, 97, 116, 105, 111, 110], [66, 101, 97, 114, 101, 114, 32, 99, 108, 105, 101, 110, 116])] (some exAlice) (fun _ => .deny) true with
    | .forwarded recv ctx => decide (ctx = exAlice ∧ values recv hAuthorization = [] ∧
        values recv [73, 109, 112, 101, 114, 115, 111, 110, 97, 116, 101, 45, 70, 111, 111] = [] ∧ decodeIdentity recv = exAlice)
    | _ => false) = true := by decide +kernel

/-- an authenticated extra key `Scopes` is decoded as `Scopes` (repaired defect C02-extra-key-case) -/
example : (match serveWith exToken [] (some ⟨[97, 108, 105, 99, 101], [[103]], [([83, 99, 111, 112, 101, 115], [[118, 105, 101, 119]])]⟩) (fun _ => .allow) false with
    | .forwarded recv _ => decide (decodeIdentity recv = ⟨[97, 108, 105, 99, 101], [[103]], [([83, 99, 111, 112, 101, 115], [[118, 105, 101, 119]])]⟩)
    | _ => false) = true := by decide +kernel

/-- the witnesses of the repaired defect C02-value-not-carried are refused on both paths: group `" g"`, name `"alice "`,
    group `"dev\nops"` on the upgrade path; the specification says "forward", the hypothesis of `c02_not_carried_refused` holds -/
example : serveWith exToken [] (some ⟨[97, 108, 105, 99, 101], [[32, 103]], []⟩) (fun _ => .allow) false = .valueRefused ∧
    serveWith exToken [] (some ⟨[97, 108, 105, 99, 101, 32], [], []⟩) (fun _ => .allow) false = .valueRefused ∧
    serveWith exToken [] (some ⟨[97, 108, 105, 99, 101], [[100, 101, 118, 10, 111, 112, 115]], []⟩) (fun _ => .allow) true = .valueRefused ∧
    expectedFor [] (some ⟨[97, 108, 105, 99, 101], [[32, 103]], []⟩) (fun _ => .allow) = .forward ⟨[97, 108, 105, 99, 101], [[32, 103]], []⟩ ∧
    checkImpersonationValues ⟨[97, 108, 105, 99, 101], [[32, 103]], []⟩ = false := by decide +kernel

/-- a client's `Impersonate-Extra-%41bc` is authorised as `Abc`, travels as `%41bc` again and is decoded as `Abc` -/
example : (match serveWith exToken [([73, 109, 112, 101, 114, 115, 111, 110, 97, 116, 101, 45, 85, 115, 101, 114], [98, 111, 98]), ([73, 109, 112, 101, 114, 115, 111, 110, 97, 116, 101, 45, 69, 120, 116, 114, 97, 45, 37, 52, 49, 98, 99], [118])] (some exAlice) (fun _ => .allow) false with
    | .forwarded recv ctx => decide (ctx.extra = [([65, 98, 99], [[118]])] ∧ (decodeIdentity recv).extra = [([65, 98, 99], [[118]])] ∧
        values recv [73, 109, 112, 101, 114, 115, 111, 110, 97, 116, 101, 45, 69, 120, 116, 114, 97, 45, 37, 52, 49, 98, 99] = [[118]])
    | _ => false) = true := by decide +kernel

/-! ## the full statement (AGENT_GUIDE §6)

Both recorded deviations are repaired in /repo (`findings/C02-extra-key-case` by 0231ee3, `findings/C02-value-not-carried` by
68497bd): the full statement is a theorem, without hypothesis. -/

/-- The property at full strength: whatever is forwarded, the upstream reconstructs EXACTLY the identity to act as,
    for every identity (arbitrary bytes in names, groups, extra keys and values). -/
def C02FullExactness : Prop :=
  ∀ (token : Str) (raw : List (Str × Str)) (auth : Option Identity) (az : Attrs → Decision) (up : Bool)
    (recv : Headers) (ctx : Identity), serveWith token raw auth az up = .forwarded recv ctx →
    (decodeIdentity recv).name = ctx.name ∧ (decodeIdentity recv).groups = ctx.groups ∧
    ∀ k, values (decodeIdentity recv).extra k = values ctx.extra k

theorem c02_full_exactness : C02FullExactness := c02_identity_exact

end KG.Props.C02
