import KG.Props.C17
/-!
# C01 ∘ C17 — routing of a policy list that went through the admission plugin

Objects reach the gateway through the control plane, whose admission plugin rewrites every rule (`normalizeRule`, the
model of `normalizeRules` in plugin/admission/upstreamcluster/admission.go; property C17). The user-visible statement
of C01 is about the policy list the user SUBMITTED: the request is routed under the first submitted policy that has a
rule matching it by the documented semantics. It follows from C17's `c17_routing` and C01's `c01_first_match`.
-/
namespace KG.Props.C01.Admitted
open KG KG.Model.Match KG.Spec.Match KG.Lemmas.Match KG.Props.C01 KG.Props.C17

/-- what is in force after admission routes every request like the documented semantics of the submitted list -/
theorem c01_admitted_routing (a : Attrs) (ps : List Policy) :
    matchPolicies a (ps.map (·.map normalizeRule)) = firstMatchSpec a ps := by
  rw [c17_routing, c01_first_match]

/-- … because admitted or not makes no difference to the matcher (this is `c17_routing`) -/
theorem c01_admission_transparent (a : Attrs) (ps : List Policy) :
    matchPolicies a (ps.map (·.map normalizeRule)) = matchPolicies a ps := c17_routing a ps

/-- no submitted policy matches ⇔ the admitted list routes nowhere (the dispatcher then answers 500, C04) -/
theorem c01_admitted_none_iff (a : Attrs) (ps : List Policy) :
    matchPolicies a (ps.map (·.map normalizeRule)) = none ↔ ∀ p ∈ ps, policySpec a p = false := by
  rw [c17_routing]; exact c01_none_iff a ps

end KG.Props.C01.Admitted
