import KG.Lemmas.Endpoints
import KG.Gen.C14
/-!
# C14 — Round-robin: ready endpoints of a policy share its traffic evenly

About `KG.Model.Endpoints.pop` / `popMany` (mirror of `endpointPickStrategy.Pop`: one `uint64` cursor per *ordered* ready
list, incremented atomically, indexed modulo the number of ready endpoints) and the small-step model `cstep` of concurrent
pickers.  The endpoint map `eps` is fixed during the picks (the ready set is stable); the cursors `lb` start anywhere; the
hypothesis `… < 2^64` says the window does not cross the `uint64` wrap of a cursor (2^64 picks on one ready list).

The counting theorems (`c14_bounded`, `c14_strict`, …) are about consecutive picks *on one ready set* — picks that share a
cursor; `ForwardedStrict` and `PolicyStrict` carry them over to what one policy forwards (see notes/C14.md).  An endpoint
named twice in a subset counts as two positions (the per-endpoint statements assume duplicate-free ready lists, which
always holds without an explicit subset).
-/
namespace KG.Props.C14
open KG KG.Model.Endpoints KG.Spec.Endpoints KG.Lemmas.Endpoints

/-- **bounded deviation, any orders**: `N` consecutive picks whose ordered ready lists are arbitrary (even adversarially
    chosen per pick) members of a set `K` of `D` orders of the same `k ≥ 2` ready endpoints: every ready endpoint `e` is
    chosen `count` times with `|k·count − N| ≤ D·(k−1)` — a bound independent of `N` (`D ≤ k!`). -/
theorem c14_bounded (eps : List EP) (e : Name × Nat) (k : Nat) (hk : 2 ≤ k) (K : List Key) (hK : K.Nodup)
    (hKe : ∀ κ, κ ∈ K → κ.Nodup ∧ κ.length = k ∧ e ∈ κ)
    (uss : List (List Name)) (lb : List (Key × Nat))
    (hkeys : ∀ us, us ∈ uss → (readyList eps us).map EP.id ∈ K)
    (hwrap : ∀ κ, κ ∈ K → lbGet lb κ + uss.length < 2 ^ 64) :
    boundedOK k K.length uss.length (countPicked e.1 e.2 (popMany eps lb uss).1) = true := by
  have h := popMany_potential eps e k hk K hK hKe uss lb hkeys hwrap
  have hk0 : 0 < k := by omega
  have h1 := potential_le K hk0 e lb
  have h2 := potential_le K hk0 e (popMany eps lb uss).2
  simp only [boundedOK, Bool.and_eq_true, decide_eq_true_eq]
  omega

/-- **strict round-robin, fixed order**: `N` consecutive picks over the same upstream list (an explicit subset: the ready
    list keeps the subset's order) with `k ≥ 2` distinct ready endpoints, from any cursor value: every ready endpoint is
    chosen `⌊N/k⌋` or `⌈N/k⌉` times. -/
theorem c14_strict (eps : List EP) (us : List Name) (N : Nat) (lb : List (Key × Nat)) (e : EP)
    (hk : 2 ≤ (readyList eps us).length) (hnd : ((readyList eps us).map EP.id).Nodup) (he : e ∈ readyList eps us)
    (hwrap : lbGet lb ((readyList eps us).map EP.id) + N < 2 ^ 64) :
    strictOK (readyList eps us).length N (countPicked e.name e.gen (popMany eps lb (List.replicate N us)).1) = true := by
  have hb := c14_bounded eps e.id (readyList eps us).length hk [(readyList eps us).map EP.id] (List.pairwise_singleton _ _)
    (fun κ hκ => by rw [List.mem_singleton.1 hκ]; exact ⟨hnd, List.length_map _, List.mem_map_of_mem he⟩)
    (List.replicate N us) lb
    (fun us' h' => by rw [(List.mem_replicate.1 h').2]; exact List.mem_singleton_self _)
    (fun κ hκ => by rw [List.mem_singleton.1 hκ, List.length_replicate]; exact hwrap)
  rw [List.length_replicate] at hb
  exact strictOK_of_bounded (by omega) hb

/-- no ready endpoint is starved: once `N` exceeds the constant, every ready endpoint has been chosen -/
theorem c14_no_starvation (eps : List EP) (e : Name × Nat) (k : Nat) (hk : 2 ≤ k) (K : List Key) (hK : K.Nodup)
    (hKe : ∀ κ, κ ∈ K → κ.Nodup ∧ κ.length = k ∧ e ∈ κ)
    (uss : List (List Name)) (lb : List (Key × Nat))
    (hkeys : ∀ us, us ∈ uss → (readyList eps us).map EP.id ∈ K)
    (hwrap : ∀ κ, κ ∈ K → lbGet lb κ + uss.length < 2 ^ 64)
    (hN : K.length * (k - 1) < uss.length) :
    0 < countPicked e.1 e.2 (popMany eps lb uss).1 := by
  have hb := c14_bounded eps e k hk K hK hKe uss lb hkeys hwrap
  simp only [boundedOK, Bool.and_eq_true, decide_eq_true_eq] at hb
  cases hc : countPicked e.1 e.2 (popMany eps lb uss).1 with
  | zero => rw [hc] at hb; omega
  | succ _ => omega

/-- the exact law behind both: a pick with `k ≥ 2` ready endpoints increments the cursor of its ordered ready list (and no
    other cursor) and returns the element at `cursor mod k` -/
theorem c14_cursor_law (eps : List EP) (lb : List (Key × Nat)) (us : List Name) (h : 2 ≤ (readyList eps us).length) :
    let key := (readyList eps us).map EP.id
    let c := toU64 (lbGet lb key + 1)
    (pop eps lb us).1 = indexResult (readyList eps us) c ∧
    lbGet (pop eps lb us).2 key = c ∧ ∀ κ, κ ≠ key → lbGet (pop eps lb us).2 κ = lbGet lb κ :=
  pop_cursor eps lb us h

/-- `k = 1`: that endpoint, cursors untouched; `k = 0`: "no ready endpoints", cursors untouched -/
theorem c14_one_or_none (eps : List EP) (lb : List (Key × Nat)) (us : List Name) :
    (∀ e, readyList eps us = [e] → pop eps lb us = (.picked e.name e.gen, lb)) ∧
    (readyList eps us = [] → pop eps lb us = (.noReady, lb)) :=
  ⟨fun e h => pop_single eps lb us e h, fun h => pop_none eps lb us h⟩

/-- without an explicit subset the ordered ready list is duplicate-free in every state whose endpoint map has distinct names, as
    the reachable ones have (`c14_reachable_nodup`): the per-endpoint hypotheses of `c14_strict` / `c14_bounded` hold. `order` is
    what `AllEndpoints()` returned -/
theorem c14_full_set_nodup (s : State) (hs : (s.eps.map (·.name)).Nodup) (order : List Name)
    (hperm : order.Perm (s.eps.map (·.name))) : ((readyList s.eps order).map EP.id).Nodup :=
  readyKey_nodup s.eps (hperm.nodup_iff.2 hs)

/-- the states of the C03 model reachable from `init` (no policy scopes) have duplicate-free endpoint maps; with policy scopes
    it is `(c03_reachable_sim ps ops).nodup` -/
theorem c14_reachable_nodup (ops : List Op) : (((run init ops).1).eps.map (·.name)).Nodup :=
  (sim_run sim_init ops).2.nodup

/-- every reachable state of the C03 model is in simulation with some abstract state (the hypothesis `Sim s a` below is
    satisfied by every reachable state, `a.servers` being the server list of the last Sync; it does not read the cursors);
    `sim_run` from `sim_initScoped ps` is the same fact for a cluster with policy scopes (`c03_reachable_sim`) -/
theorem c14_reachable_sim (ops : List Op) : ∃ a, Sim (run init ops).1 a := ⟨_, (sim_run sim_init ops).2⟩

/-- **a Sync that does not change the server list keeps the ready set stable and leaves the cursors alone**: same endpoint
    names with the same disabled marks (order, duplicates, dispatch policies, logging, flow control, annotations may all
    differ, or nothing at all — an informer resync): no endpoint object changes and no cursor is reset. -/
theorem c14_resync_keeps_cursors {s : State} {a : Abs} (h : Sim s a) (servers : List Server) (policies : List (List Name))
    (hs : sameServers a.servers servers) :
    (sync s servers policies).eps = s.eps ∧ (sync s servers policies).lb = s.lb :=
  resync_noop h servers policies hs

/-- **strict round-robin over a window with Syncs in it**: `N` picks over the same upstream list, with any number of Syncs
    that leave the server list unchanged arriving anywhere in between (also after every single pick): every ready endpoint
    is still chosen `⌊N/k⌋` or `⌈N/k⌉` times over the whole window. -/
theorem c14_strict_across_resyncs {s : State} {a : Abs} (h : Sim s a) (events : List Event) (us : List Name) (N : Nat)
    (hpicks : picksOf events = List.replicate N us)
    (hev : ∀ sv pl, Event.sync sv pl ∈ events → sameServers a.servers sv) (e : EP)
    (hk : 2 ≤ (readyList s.eps us).length) (hnd : ((readyList s.eps us).map EP.id).Nodup) (he : e ∈ readyList s.eps us)
    (hwrap : lbGet s.lb ((readyList s.eps us).map EP.id) + N < 2 ^ 64) :
    strictOK (readyList s.eps us).length N (countPicked e.name e.gen (runEvents s events).2) = true := by
  rw [runEvents_resyncs h events hev, hpicks]
  exact c14_strict s.eps us N s.lb e hk hnd he hwrap

/-- **a probe that changes nothing moves no cursor**: status reports, `TriggerHealthCheck`, `EnsureGatewayHealthCheck` and
    probes never write a cursor, and a probe whose report repeats the endpoint's current health leaves every ordered ready list
    — every cursor key — as it is (the key is the list of ready *objects*; it does not depend on reason / message of the status). -/
theorem c14_probe_keeps_cursors (s : State) (n : Name) (hv : Bool) :
    (step s (.probeFire n hv)).1.lb = s.lb ∧ (step s (.updateStatus n hv)).1.lb = s.lb ∧
    (step s (.trigger n)).1.lb = s.lb ∧ (step s (.ensure n)).1.lb = s.lb ∧
    ((∀ e, load s.eps n = some e → e.healthy = hv) →
      ∀ us, (readyList (step s (.probeFire n hv)).1.eps us).map EP.id = (readyList s.eps us).map EP.id) :=
  ⟨by rw [step_probeFire]; split <;> rfl, rfl, rfl, rfl, fun hsame us => by
    rw [step_probeFire]
    split
    · exact readyKey_updateAt _ _ (fire_method hv) (fun e hl => (hsame e hl).symm) us
    · rfl⟩

/-! ## the traffic a policy FORWARDS when requests are authenticated with tokens — finding C14-auth-pick-shares-cursors (fixed by ccef1b6)

The counting theorems above are about the picks that share a cursor.  A policy's traffic is only the *dispatched* picks; a
token-authenticated request also makes the authenticator call `Manager.ClientFor` → `ClusterInfo.PickOne()` before it is
dispatched (`Req`, `runReqs`).  Full statement: the endpoints `N` consecutive requests of a policy are forwarded to are
floor/ceil, whatever `PickOne` calls come with them.  It holds iff `PickOne` keeps its own cursors; while `PickOne` drew from the
policies' cursors it was **false**: witness below, on the real code 477/523 instead of 500/500
(findings/C14-auth-pick-shares-cursors).  The tree now gives `PickOne` its own cursor scope; that this is so is read from the
source on every run (`Gen.C14.pickOneOwnCursors = true`) and `c14_forwarded_strict` is the full statement about the current tree,
unconditionally: it stops checking if `PickOne` goes back to the shared cursors. -/

/-- the full statement for a `PickOne` of the given kind -/
def ForwardedStrict (own : Bool) : Prop :=
  ∀ (eps : List EP) (us : List Name) (lb lbA : List (Key × Nat)) (reqs : List Req) (e : EP),
    (∀ r, r ∈ reqs → r.us = us) →
    2 ≤ (readyList eps us).length → ((readyList eps us).map EP.id).Nodup → e ∈ readyList eps us →
    lbGet lb ((readyList eps us).map EP.id) + 2 * reqs.length < 2 ^ 64 →
    strictOK (readyList eps us).length reqs.length (countPicked e.name e.gen (runReqs own eps lb lbA reqs)) = true

/-- the statement about the code as it is now -/
def CodeForwardedStrict : Prop := ForwardedStrict Gen.C14.pickOneOwnCursors

private theorem map_eq_replicate {α β : Type} (l : List α) (f : α → β) (b : β) (h : ∀ x, x ∈ l → f x = b) :
    l.map f = List.replicate l.length b :=
  List.eq_replicate_iff.2 ⟨List.length_map _, fun y hy => by obtain ⟨x, hx, rfl⟩ := List.mem_map.1 hy; exact h x hx⟩

/-- with its own cursors for `PickOne`, the forwarded traffic of a policy is strict round-robin whatever is authenticated -/
theorem c14_forwarded_strict_own_cursors : ForwardedStrict true := by
  intro eps us lb lbA reqs e hus hk hnd he hwrap
  rw [runReqs_eq true eps lb lbA reqs (.inl rfl), map_eq_replicate reqs (·.us) us hus]
  exact c14_strict eps us reqs.length lb e hk hnd he (by omega)

/-- partial, whatever `PickOne` does: requests that involve no `PickOne` (client certificates, anonymous) are strict -/
theorem c14_forwarded_strict_partial (own : Bool) (eps : List EP) (us : List Name) (lb lbA : List (Key × Nat))
    (reqs : List Req) (e : EP) (hus : ∀ r, r ∈ reqs → r.us = us) (hno : ∀ r, r ∈ reqs → r.authOrder = none)
    (hk : 2 ≤ (readyList eps us).length) (hnd : ((readyList eps us).map EP.id).Nodup) (he : e ∈ readyList eps us)
    (hwrap : lbGet lb ((readyList eps us).map EP.id) + reqs.length < 2 ^ 64) :
    strictOK (readyList eps us).length reqs.length (countPicked e.name e.gen (runReqs own eps lb lbA reqs)) = true := by
  rw [runReqs_eq own eps lb lbA reqs (.inr hno), map_eq_replicate reqs (·.us) us hus]
  exact c14_strict eps us reqs.length lb e hk hnd he hwrap

/-- refutation by witness: two ready endpoints `a, b`, a policy with the subset `[a, b]`, two requests whose authentication
    pick happened to iterate in the same order: both are forwarded to the same endpoint -/
theorem c14_forwarded_shared_cursors_refuted : ¬ ForwardedStrict false := by
  intro h
  let a : EP := { newEP [97] 0 false with healthy := true }
  let b : EP := { newEP [98] 0 false with healthy := true }
  have := h [a, b] [[97], [98]] [] [] [⟨some [[97], [98]], [[97], [98]]⟩, ⟨some [[97], [98]], [[97], [98]]⟩] b
    (by decide +kernel) (by decide +kernel) (by decide +kernel) (by decide +kernel) (by decide +kernel)
  revert this
  decide +kernel

/-- where the current code stands: the full statement holds of it exactly when `PickOne` keeps its own cursors -/
theorem c14_code_forwarded_strict_iff : CodeForwardedStrict ↔ Gen.C14.pickOneOwnCursors = true :=
  iff_eq_of_bool c14_forwarded_strict_own_cursors c14_forwarded_shared_cursors_refuted _

/-- **the full statement holds of the current tree** (the regenerated fact says: `PickOne` keeps its own cursors) -/
theorem c14_forwarded_strict : CodeForwardedStrict := c14_code_forwarded_strict_iff.2 rfl

/-! ## several policies with the same upstreams — finding C14-policies-share-cursor

"each of ITS k endpoints": the statement is per policy.  `runPolicies` interleaves the picks of any number of policies in any
way.  Full statement: the picks of policy `p`, all over the same upstream list, are floor/ceil whatever the other policies
pick in between — also when they list the same upstreams in the same order.  It holds iff every policy has its own cursors
(regenerated fact `Gen.C14.policyOwnCursors`); with one cursor per ordered ready list it is false: two policies with the subset
`[a, b]` whose requests alternate each land on one endpoint only (witness below; on the real code pods b = 100/100). -/

/-- the full per-policy statement for cursors of the given kind -/
def PolicyStrict (own : Bool) : Prop :=
  ∀ (eps : List EP) (p : Nat) (us : List Name) (lbs : Nat → List (Key × Nat)) (evs : List (Nat × List Name)) (e : EP),
    (∀ x, x ∈ evs → x.1 = p → x.2 = us) →
    2 ≤ (readyList eps us).length → ((readyList eps us).map EP.id).Nodup → e ∈ readyList eps us →
    (∀ q, lbGet (lbs q) ((readyList eps us).map EP.id) + evs.length < 2 ^ 64) →
    strictOK (readyList eps us).length (evs.filter fun x => x.1 == p).length
      (countPicked e.name e.gen (((runPolicies own eps lbs evs).filter fun x => x.1 == p).map (·.2))) = true

/-- the statement about the code as it is now -/
def CodePolicyStrict : Prop := PolicyStrict Gen.C14.policyOwnCursors

/-- with its own cursors every policy is strict round-robin under any interleaving with other policies -/
theorem c14_policy_strict_own_cursors : PolicyStrict true := by
  intro eps p us lbs evs e hus hk hnd he hwrap
  rw [runPolicies_own, map_eq_replicate _ (·.2) us fun x hx => hus x (List.mem_filter.1 hx).1 (eq_of_beq (List.mem_filter.1 hx).2)]
  have hlen : (evs.filter fun x => x.1 == p).length ≤ evs.length := List.length_filter_le _ _
  exact c14_strict eps us _ (lbs p) e hk hnd he (by have := hwrap p; omega)

/-- refutation by witness for one cursor per ordered ready list: two policies with the subset `[a, b]`, requests alternating:
    both picks of policy 0 land on the same endpoint -/
theorem c14_policy_shared_cursor_refuted : ¬ PolicyStrict false := by
  intro h
  let a : EP := { newEP [97] 0 false with healthy := true }
  let b : EP := { newEP [98] 0 false with healthy := true }
  have := h [a, b] 0 [[97], [98]] (fun _ => []) [(0, [[97], [98]]), (1, [[97], [98]]), (0, [[97], [98]]), (1, [[97], [98]])] b
    (by decide +kernel) (by decide +kernel) (by decide +kernel) (by decide +kernel) (by intro q; decide +kernel)
  revert this
  decide +kernel

/-- where the current code stands: the per-policy statement holds of it exactly when every policy has its own cursors -/
theorem c14_code_policy_strict_iff : CodePolicyStrict ↔ Gen.C14.policyOwnCursors = true :=
  iff_eq_of_bool c14_policy_strict_own_cursors c14_policy_shared_cursor_refuted _

/-- **the per-policy statement holds of the current tree** (the regenerated fact says: every dispatch policy keeps its own
    cursors, fix 511eb58): whatever other policies with the same subset do in between, the requests one policy forwards are
    spread floor/ceil over its ready endpoints. -/
theorem c14_policy_strict : CodePolicyStrict := c14_code_policy_strict_iff.2 rfl

/-- **concurrent pickers**: for every schedule (interleaving of the threads' atomic actions) that lets all `n` pickers
    finish, the order `log` of their atomic adds is a permutation of the pickers, each picker's result is exactly what the
    *sequential* `popMany` gives it in that order, and the cursors end where the sequential run ends — so the counting
    theorems above apply to concurrent picks unchanged. -/
theorem c14_concurrent (eps : List EP) (uss : List (List Name)) (lb0 : List (Key × Nat)) (sched : List Nat)
    (hdone : ∀ t, t < uss.length → ∃ r, (crun eps uss (cinit lb0 uss.length) sched).pcs[t]? = some (.done r)) :
    let sys := crun eps uss (cinit lb0 uss.length) sched
    sys.log.Perm (List.range uss.length) ∧
    sys.log.map (fun t => sys.pcs[t]?) = (popMany eps lb0 (sys.log.map (usAt uss))).1.map (fun r => some (PC.done r)) ∧
    sys.lb = (popMany eps lb0 (sys.log.map (usAt uss))).2 := by
  intro sys
  have h : CInv eps uss lb0 sys := cinv_run (cinv_init eps uss lb0) sched
  refine ⟨?_, ?_, h.lb⟩
  · rw [List.perm_ext_iff_of_nodup h.nodup List.nodup_range]
    intro t
    rw [List.mem_range]
    refine ⟨fun ht => ((h.started t).1 ht).1, fun ht => (h.started t).2 ⟨ht, ?_⟩⟩
    obtain ⟨r, hr⟩ := hdone t ht
    rw [hr]
    nofun
  · rw [← h.view, List.map_map]
    apply List.map_congr_left
    intro t ht
    obtain ⟨r, hr⟩ := hdone t ((h.started t).1 ht).1
    simp only [Function.comp, final]
    rw [hr]
    rfl

/-- at every moment of every schedule the cursors are those of the sequential run of the pickers that have performed their
    atomic add, in the order of the adds: the values handed out per ordered ready list are distinct and consecutive -/
theorem c14_cursors_linearise (eps : List EP) (uss : List (List Name)) (lb0 : List (Key × Nat)) (sched : List Nat) :
    let sys := crun eps uss (cinit lb0 uss.length) sched
    sys.lb = (popMany eps lb0 (sys.log.map (usAt uss))).2 ∧ sys.log.Nodup :=
  let h : CInv eps uss lb0 _ := cinv_run (cinv_init eps uss lb0) sched
  ⟨h.lb, h.nodup⟩

/-! ## non-vacuity -/
section NonVacuous
def ea : EP := { newEP [97] 0 false with healthy := true }
def eb : EP := { newEP [98] 0 false with healthy := true }
def ec : EP := { newEP [99] 0 false with healthy := true }
def ed : EP := { newEP [100] 0 true with healthy := true }   -- disabled: never ready
def eps3 : List EP := [ea, eb, ec, ed]

/-- three ready endpoints (and a disabled one in the subset), 7 picks from cursor 5: counts 2/3/2 -/
example : (popMany eps3 [([ea.id, eb.id, ec.id], 5)] (List.replicate 7 [[97], [100], [98], [99]])).1
    = [.picked [97] 0, .picked [98] 0, .picked [99] 0, .picked [97] 0, .picked [98] 0, .picked [99] 0, .picked [97] 0] := by decide +kernel
example : 2 ≤ (readyList eps3 [[97], [100], [98], [99]]).length ∧ ((readyList eps3 [[97], [100], [98], [99]]).map EP.id).Nodup
    ∧ eb ∈ readyList eps3 [[97], [100], [98], [99]] := by decide +kernel
/-- two orders of the same ready set, alternating -/
example : (popMany eps3 [] [[[97], [98], [99]], [[99], [98], [97]], [[97], [98], [99]], [[99], [98], [97]]]).1
    = [.picked [98] 0, .picked [98] 0, .picked [99] 0, .picked [97] 0] := by decide +kernel
/-- three pickers, interleaved: adds in the order 2, 0, 1; indexing in another order -/
example : let sys := crun eps3 (List.replicate 3 [[97], [98], [99]]) (cinit [] 3) [2, 0, 0, 1, 2, 1]
    sys.log = [2, 0, 1] ∧ sys.pcs = [.done (.picked [99] 0), .done (.picked [97] 0), .done (.picked [98] 0)] := by decide +kernel
/-- a Sync with the same servers (reordered, one listed twice) between the picks: the cursor goes on -/
example : (runEvents (run init [.sync [⟨[97], false⟩, ⟨[98], false⟩, ⟨[99], false⟩] [[]], .probeFire [97] true, .probeFire [98] true, .probeFire [99] true]).1
    [.pick [[97], [98], [99]], .sync [⟨[99], false⟩, ⟨[97], false⟩, ⟨[98], false⟩, ⟨[97], false⟩] [[[97]]], .pick [[97], [98], [99]],
     .sync [⟨[97], false⟩, ⟨[98], false⟩, ⟨[99], false⟩] [], .pick [[97], [98], [99]]]).2
    = [.picked [98] 0, .picked [99] 0, .picked [97] 0] := by decide +kernel
/-- the wrap of the `uint64` cursor is what the hypothesis `… < 2^64` excludes: 3 does not divide 2^64 -/
example : (popMany eps3 [([ea.id, eb.id, ec.id], 2 ^ 64 - 2)] (List.replicate 3 [[97], [98], [99]])).1
    = [.picked [97] 0, .picked [97] 0, .picked [98] 0] := by decide +kernel
end NonVacuous

end KG.Props.C14
