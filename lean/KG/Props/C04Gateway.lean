import KG.Lemmas.Gateway
import KG.Props.C01
import KG.Props.C03
import KG.Props.C04
import KG.Props.C10
import KG.Props.C14
/-!
# C04 × (C10, C12, C02, C01, C05, C06, C03, C14): the end-to-end statement about one request

`KG.Model.Gateway.serveRequest` composes the per-area models in the order of the real handler chain. The theorems here are
about EVERY configuration state, every oracle and every request (no reachability assumed unless a hypothesis says so), and
are corollaries of the theorems and lemmas of C10, C02, C01, C05, C03, C14 and C04. C12 enters as the per-cluster oracles of `Env`
only (`gw_own_cluster_oracle` is about the composition's own wiring), C06 as the model's `Bucket.tryAcquire` only
(`gw_frame_buckets`): no lemma of theirs is used.
-/
namespace KG.Props.C04.Gateway
open KG KG.Model.Gateway KG.Lemmas.Gateway

/-! ## a forwarded request passed every stage -/

/-- **Soundness of forwarding, stage by stage.** If a request is handed to an upstream then, in the state it met: -/
theorem gw_forwarded (env : Env) (s : State) (r : Request) (f : Forwarded) (h : (arrive env s r).2 = .forwarded f) :
    ∃ (ci : Model.Names.CI) (cl : Cluster) (ri : ReqInfo) (u : Model.Identity.Identity) (pol : Model.Match.PolicyCfg)
      (w' : Model.LocalLimiter.World) (e : Model.Endpoints.EP) (lb' : List (Model.Endpoints.Key × Nat)),
      -- C10: the host resolves, through the manager's map, to the ClusterInfo the request is bound to; it is proxied
      Model.Names.resolve lower s.mgr r.host = some (f.cluster, ci) ∧ s.clusters[f.cluster]? = some cl ∧
      r.hostIsIP = false ∧ cl.cfg.denyAll = false ∧ r.info = some ri ∧
      -- C12: THAT cluster's oracle authenticated the client …
      authenticate env (some f.cluster) r = some u ∧
      -- C02: … and allowed every impersonation it asked for; `f.ctxUser` is the user the gateway acts for
      (∃ h1, impersonation env (some f.cluster) r u = .pass h1 f.ctxUser) ∧
      -- C01: routed under the FIRST policy, in list order, that has a rule matching the request's attributes
      cl.cfg.policies[f.policy]? = some pol ∧
      KG.Spec.Match.policySpec (attrsOf ri f.ctxUser) pol.rules = true ∧
      (∀ j, j < f.policy → ∀ q, cl.cfg.policies[j]? = some q → KG.Spec.Match.policySpec (attrsOf ri f.ctxUser) q.rules = false) ∧
      -- C05 / C06: the flow-control schema of THAT policy admitted it (the token bucket's answer being the bucket's)
      f.schema = pol.flowControlSchemaName ∧
      Model.LocalLimiter.acquire s.lim cl.cfg.name f.schema (bucketAnswer s.lim s.buckets cl.cfg.name f.schema r.now).1 = .ok (w', true) ∧
      f.handle = s.lim.reqs.length ∧
      -- C03 / C14: the endpoint is what `Pop` answers on THAT policy's upstream list: present, the current object,
      -- enabled, healthy by its last report
      Model.Endpoints.pop cl.ep.eps cl.ep.lb (if pol.upstreamSubset = [] then allEndpoints cl r else pol.upstreamSubset)
        = (.picked f.endpoint.1 f.endpoint.2, lb') ∧
      f.endpoint.1 ∈ (if pol.upstreamSubset = [] then allEndpoints cl r else pol.upstreamSubset) ∧
      Model.Endpoints.load cl.ep.eps f.endpoint.1 = some e ∧ e.gen = f.endpoint.2 ∧ e.disabled = false ∧ e.healthy = true ∧
      f.closeWhenIdle = cl.cfg.closeWhenIdle := by
  obtain ⟨x, up, n, g, rfl, w, _⟩ := arrive_cases h
  obtain ⟨ci, hci⟩ := w.named
  obtain ⟨pol, hpol, hm, hfirst, hschema, _⟩ := route_some w.routed
  have hpop := w.pick hpol
  obtain ⟨e, he, hgen, hmem, hdis, hhl⟩ := KG.Props.C03.c03_pick_ready _ _ _ _ _ (congrArg Prod.fst hpop)
  exact ⟨ci, x.b.cl, x.b.ri, x.b.requestor, pol, x.acq.lim, e, x.pop.2, hci, w.cluster, w.proxied, w.notDenied, w.info, w.authn,
    w.imp, hpol, hm, hfirst, hschema, w.admitted ▸ w.acquire, w.handle, hpop, hmem, he, hgen, hdis, hhl, rfl⟩

/-! ### well-formed clusters: the endpoint map is C03's image of the cluster's own server list -/

/-- in a well-formed cluster the forwarded request went to a CURRENT SERVER of the cluster the host resolves to, one that no
    entry of the spec marks disabled, whose last health report since it entered the list was healthy, and that is a member
    of the subset of the first matching policy when that policy has one (C03 through the composition) -/
theorem gw_forwarded_server (env : Env) (s : State) (r : Request) (f : Forwarded) (h : (arrive env s r).2 = .forwarded f)
    (cl : Cluster) (hcl : s.clusters[f.cluster]? = some cl) (hwf : ClusterWF cl) :
    f.endpoint.1 ∈ Model.Endpoints.serverNames cl.cfg.servers ∧
    KG.Spec.Endpoints.specDisabled cl.cfg.servers f.endpoint.1 = false ∧
    (∃ e, Model.Endpoints.load cl.ep.eps f.endpoint.1 = some e ∧ e.healthy = true) ∧
    (∀ pol, cl.cfg.policies[f.policy]? = some pol → pol.upstreamSubset ≠ [] → f.endpoint.1 ∈ pol.upstreamSubset) := by
  obtain ⟨x, up, n, g, rfl, w, _⟩ := arrive_cases h
  cases w.cluster.symm.trans hcl
  obtain ⟨pol, hpol, _⟩ := route_some w.routed
  -- what `Pop` picks is eligible by the cluster's own spec, and of the spec's enumeration of the policy's upstreams
  obtain ⟨helig, hin⟩ := picked_eligible hwf r hpol (congrArg Prod.fst (w.pick hpol))
  obtain ⟨h1, h2, h3⟩ := specEligible_iff.1 helig
  refine ⟨h1, h2, h3, fun pol' hpol' hne => ?_⟩
  rwa [upstreamsOf_some hpol', if_neg hne] at hin

/-! ## the identity the upstream is told to act as (C02) -/

/-- Under every identity-bearing name (`Authorization`, the `Impersonate-` family) the upstream receives exactly what the
    gateway generates for the user it acts for with ITS credential for that cluster — nothing the client sent. -/
theorem gw_forwarded_identity (env : Env) (s : State) (r : Request) (f : Forwarded) (h : (arrive env s r).2 = .forwarded f)
    (cl : Cluster) (hcl : s.clusters[f.cluster]? = some cl) (n : Str) (hn : Model.Identity.isIdentityName n = true) :
    Model.Identity.values f.identity n =
      Model.Identity.values (Model.Identity.sendOver false (KG.Spec.Identity.gatewayHeaders cl.cfg.token false f.ctxUser)) n := by
  obtain ⟨x, up, n', g, rfl, w, _⟩ := arrive_cases h
  cases w.cluster.symm.trans hcl
  rfl

/-- … and that user is the one the bound cluster's oracle authenticated, or — when the client asked to impersonate —
    exactly the identity it asked for (Kubernetes' semantics of the impersonation headers), every derived check having been
    allowed by the SAME cluster's oracle; a malformed request for impersonation is never forwarded. -/
theorem gw_forwarded_acts_as (env : Env) (s : State) (r : Request) (f : Forwarded) (h : (arrive env s r).2 = .forwarded f) :
    ∃ u, authenticate env (some f.cluster) r = some u ∧
      ((KG.Spec.Identity.impersonationRequested r.lines = false ∧ f.ctxUser = u) ∨
       (KG.Spec.Identity.impersonationRequested r.lines = true ∧ KG.Spec.Identity.malformed r.lines = false ∧
        KG.Spec.Identity.allAllowed (env.authz (some f.cluster) u) r.lines = true ∧
        f.ctxUser = KG.Spec.Identity.requestedIdentity r.lines)) := by
  obtain ⟨x, up, n', g, rfl, w, _⟩ := arrive_cases h
  exact ⟨x.b.requestor, w.authn,
    (KG.Lemmas.Identity.expected_forward_iff _ _ _ _).1 (expected_bound (KG.Lemmas.Identity.rawValid_of_parse w.accepted) w.toFront)⟩

/-! ## what the upstream receives of the request itself (C04) -/

/-- For EVERY forwarded request with a slash-led path that is not an upgrade request: method, Host and body are the
    client's; the escaped path is the client's with exactly the bytes no URL may carry percent-escaped
    (`escapeInvalidPathBytes`; the identity on a valid path, next theorem); the query parses to the same multimap; under
    every name that is not identity-bearing the upstream sees what C04's specification demands (end-to-end headers in
    order, hop-by-hop and `Connection`-listed ones gone, `X-Forwarded-For` extended). -/
theorem gw_forwarded_fidelity (env : Env) (s : State) (r : Request) (f : Forwarded) (h : (arrive env s r).2 = .forwarded f)
    (hp : Model.Forward.hasPrefixSlash (Model.Forward.cut 63 r.target).1 = true)
    (hnu : Model.Forward.isUpgradeRequest (Model.Forward.afterAuthentication (Model.Forward.parseHeaders r.lines)) = false) :
    f.up.method = r.method ∧ f.up.host = r.host ∧ f.up.body = r.body ∧
    (Model.Forward.cut 63 f.up.target).1 = Model.Forward.escapeInvalidPathBytes (Model.Forward.cut 63 r.target).1 ∧
    (∀ k, Model.Forward.valuesOf k (Model.Forward.parseQuery (Model.Forward.cut 63 f.up.target).2) =
          Model.Forward.valuesOf k (Model.Forward.parseQuery (Model.Forward.cut 63 r.target).2)) ∧
    (∀ k, Model.Identity.isIdentityName k = false →
      f.up.headers.values k =
        KG.Spec.Forward.reqHdrExpected (Model.Forward.afterAuthentication (Model.Forward.parseHeaders r.lines)) r.remoteIP k) := by
  obtain ⟨x, up, n', g, rfl, w, _⟩ := arrive_cases h
  have hfwd := w.request
  obtain ⟨P, hd⟩ := KG.Props.C04.c04_forwarded_decodes r.toForward up hfwd
  obtain ⟨u, hu, h1, h2, h3, h4, h5, h6⟩ := KG.Props.C04.c04_request_fidelity r.toForward P hp hd hnu
  cases hfwd.symm.trans hu
  refine ⟨h1, h2, h3, h4, h5, fun k hk => Eq.trans ?_ (h6 k)⟩
  exact congrArg (·.getD []) ((KG.Lemmas.Forward.get?_filter (fun n => !Model.Identity.isIdentityName n) up.headers k).trans
    (if_pos (by rw [hk]; rfl)))

/-- … a valid escaped path arrives byte for byte -/
theorem gw_forwarded_path_valid (env : Env) (s : State) (r : Request) (f : Forwarded) (h : (arrive env s r).2 = .forwarded f)
    (hp : Model.Forward.hasPrefixSlash (Model.Forward.cut 63 r.target).1 = true)
    (hv : Model.Forward.validEncoded (Model.Forward.cut 63 r.target).1 = true)
    (hnu : Model.Forward.isUpgradeRequest (Model.Forward.afterAuthentication (Model.Forward.parseHeaders r.lines)) = false) :
    (Model.Forward.cut 63 f.up.target).1 = (Model.Forward.cut 63 r.target).1 := by
  rw [(gw_forwarded_fidelity env s r f h hp hnu).2.2.2.1, KG.Lemmas.Forward.escapeInvalid_id _ hv]

/-! ## otherwise: the row of the decision table for the first failing stage -/

/-- the outcome, seen as an outcome of C04's chain model -/
def kindOf : Outcome → Option Model.Forward.Outcome
  | .forwarded _ => some .forward
  | .proxyError => some .forward          -- forwarding began (the transport then refused the generated fields)
  | .terminated a => some (.terminated a)
  | .notProxied => some .notProxied
  | .badRequest => none
  | .panic _ => none

/-- **Every outcome is the row of C04's decision table** (closed form: the first condition that holds decides) for the
    flags the stages computed — for every state whose limiters are well-formed (`Inv`, which holds of every state reached
    from `install`: `gw_install_inv`, `gw_run_inv`), every request net/http accepts. -/
theorem gw_decision_table (env : Env) (s : State) (r : Request) (hinv : Inv s)
    (hp : Model.Identity.parse r.lines ≠ none) (hf : Model.Forward.forwardRequest r.toForward ≠ none) :
    kindOf (arrive env s r).2 = some (KG.Spec.Forward.table (scenario env s r)) := by
  rw [← KG.Props.C04.c04_decision_table]
  cases ho : (arrive env s r).2 <;> have h := arrive_cases ho
  case forwarded f =>
    obtain ⟨_, _, _, _, _, w, _⟩ := h
    exact congrArg some w.chain.symm
  case proxyError =>
    obtain ⟨_, _, _, _, hs⟩ := h
    exact congrArg some hs.symm
  case terminated a => exact congrArg some (And.left h).symm
  case notProxied => exact congrArg some (And.right h).symm
  case badRequest => exact (And.right h).elim (fun h => absurd h hp) (fun h => absurd h hf)
  case panic e => exact absurd hinv (And.right h)

/-- a request the gateway answers itself gets the table's row, a well-formed `Status` whose code is the HTTP code; as an
    observation (nothing forwarded) it satisfies C04's judges -/
theorem gw_answered (env : Env) (s : State) (r : Request) (a : Model.Forward.Answer) (h : (arrive env s r).2 = .terminated a) :
    KG.Spec.Forward.table (scenario env s r) = .terminated a ∧ KG.Props.C04.wellFormedAnswer a ∧
    KG.Spec.Forward.wellFormed (KG.Spec.Forward.obsOfAnswer a) = true := by
  have hs := (arrive_cases h).1
  exact ⟨by rw [← KG.Props.C04.c04_decision_table]; exact hs, KG.Props.C04.c04_terminated_wellformed _ _ hs,
    (KG.Props.C04.c04_terminated_judges _ _ hs).1⟩

theorem kindOf_terminated {o : Outcome} {a : Model.Forward.Answer} (h : kindOf o = some (.terminated a)) : o = .terminated a := by
  cases o <;> simp [kindOf] at h
  subst h; rfl

/-- **never a panic**: from every state whose limiters are well-formed (in particular every state reachable from
    `install`, `gw_install_inv`), no request makes the gateway panic and the model never leaves its own branches -/
theorem gw_never_panics (env : Env) (s : State) (r : Request) (hinv : Inv s) (e : String) : (arrive env s r).2 ≠ .panic e :=
  fun h => And.right (arrive_cases h) hinv

/-- the invariant holds after `install` and is kept by every operation of a sequence -/
theorem gw_install_inv (cfgs : List ClusterCfg) : Inv (install cfgs) :=
  install_induction ⟨_, KG.Lemmas.LocalLimiter.rel_init⟩
    (fun _ _ w h hs => h.elim fun _ hr => ⟨_, KG.Lemmas.LocalLimiter.sync_step hr _ _ w hs⟩) cfgs

theorem gw_run_inv (env : Env) (x : Run) (h : Inv x.s) (ops : List Op) : Inv (run env x ops).1.s :=
  run_preserves inv_done inv_finish inv_setHealth x h ops

/-- … so along EVERY sequence of requests (held or not), completions and health reports on ANY installed configuration no
    operation panics -/
theorem gw_run_never_panics (env : Env) (cfgs : List ClusterCfg) (ops : List Op) (e : String) :
    Out.served (.panic e) ∉ (run env (Run.init (install cfgs)) ops).2 := by
  suffices h : ∀ (x : Run), Inv x.s → Out.served (.panic e) ∉ (run env x ops).2 from h _ (gw_install_inv cfgs)
  induction ops with
  | nil => intro x _; simp [run]
  | cons op ops ih =>
    intro x hx
    simp only [run, List.mem_cons, not_or]
    refine ⟨?_, ih _ (inv_step hx op)⟩
    cases op with
    | request r hold =>
      rw [step_request_out]
      exact fun h => gw_never_panics env x.s r hx e (Out.served.inj h).symm
    | finish k => simp only [step]; split <;> nofun
    | setHealth p ep healthy => nofun

/-! ### the rows, by the first stage that fails (each with what it leaves of the state) -/

/-- an answer of the chain model is the answer, and the state is what the dispatcher left, the slot given back -/
theorem arrive_of_row {env : Env} {s : State} {r : Request} (hinv : Inv s)
    (hp : Model.Identity.parse r.lines ≠ none) (hf : Model.Forward.forwardRequest r.toForward ≠ none)
    {a : Model.Forward.Answer} (h : Model.Forward.serve (scenario env s r) = .terminated a) :
    arrive env s r = ((match dispatch env s r with
      | .done x => if x.acq.admitted then finish (stateAfterDispatch s x) x.acq.handle else stateAfterDispatch s x
      | _ => s), .terminated a) :=
  have ho := kindOf_terminated ((gw_decision_table env s r hinv hp hf).trans
    (congrArg some ((KG.Props.C04.c04_decision_table _).symm.trans h)))
  Prod.ext (arrive_cases ho).2 ho

/-- a request that was not bound leaves the state alone -/
theorem arrive_of_front_row {env : Env} {s : State} {r : Request} (hinv : Inv s)
    (hp : Model.Identity.parse r.lines ≠ none) (hf : Model.Forward.forwardRequest r.toForward ≠ none)
    {a : Model.Forward.Answer} (h : Model.Forward.serve (scenario env s r) = .terminated a)
    (hb : ∀ b, bound? env s r ≠ some b) : arrive env s r = (s, .terminated a) := by
  rw [arrive_of_row hinv hp hf h]
  cases hd : dispatch env s r with
  | done x => exact absurd (dispatch_cases hd).1 (hb _)
  | _ => rfl

/-- the host resolves to no cluster: 503 with Retry-After; nothing else is consulted, nothing changes -/
theorem gw_row_unknown_host (env : Env) (s : State) (r : Request) (hinv : Inv s)
    (hp : Model.Identity.parse r.lines ≠ none) (hf : Model.Forward.forwardRequest r.toForward ≠ none)
    (hi : r.info ≠ none) (hip : r.hostIsIP = false) (hres : resolveCluster s r = none) :
    ∃ a, (arrive env s r).2 = .terminated a ∧ a.httpCode = 503 ∧ a.retryAfter = some Gen.C04.unavailableRetryAfter ∧
      (arrive env s r).1 = s := by
  obtain ⟨a, hs, hc, hra⟩ := KG.Props.C04.c04_row_unknown_cluster (scenario env s r)
    ((scenario_info env s r).trans (Option.isSome_iff_ne_none.2 hi)) ((scenario_ip env s r).trans hip)
    (by rw [scenario_known, hres]; rfl)
  rw [arrive_of_front_row hinv hp hf hs fun b hb => nomatch hres.symm.trans (front_of_bound hb).resolved]
  exact ⟨a, rfl, hc, hra, rfl⟩

/-- the cluster's DenyAllRequests gate: 429 without Retry-After, before any authentication; nothing changes -/
theorem gw_row_deny_all (env : Env) (s : State) (r : Request) (hinv : Inv s)
    (hp : Model.Identity.parse r.lines ≠ none) (hf : Model.Forward.forwardRequest r.toForward ≠ none)
    (hi : r.info ≠ none) (hip : r.hostIsIP = false) (p : Nat) (cl : Cluster) (hres : resolveCluster s r = some (p, cl))
    (hd : cl.cfg.denyAll = true) :
    ∃ a, (arrive env s r).2 = .terminated a ∧ a.httpCode = 429 ∧ a.retryAfter = none ∧ (arrive env s r).1 = s := by
  obtain ⟨a, hs, hc, hra⟩ := KG.Props.C04.c04_row_deny_all (scenario env s r)
    ((scenario_info env s r).trans (Option.isSome_iff_ne_none.2 hi)) ((scenario_ip env s r).trans hip)
    (by rw [scenario_known, hres]; rfl) (by simp only [scenario, hres, hd])
  rw [arrive_of_front_row hinv hp hf hs fun b hb => by
    have f := front_of_bound hb
    cases hres.symm.trans f.resolved
    exact Bool.noConfusion (hd.symm.trans f.notDenied)]
  exact ⟨a, rfl, hc, hra, rfl⟩

/-- no policy of the bound cluster has a rule matching the request (C01: `policySpec` false for all): 500, and NO limiter is
    touched — flow control is only ever acquired for a matched policy -/
theorem gw_row_no_policy (env : Env) (s : State) (r : Request) (hinv : Inv s)
    (hp : Model.Identity.parse r.lines ≠ none) (hf : Model.Forward.forwardRequest r.toForward ≠ none)
    (b : Bound) (hb : bound? env s r = some b)
    (hno : ∀ pol ∈ b.cl.cfg.policies, KG.Spec.Match.policySpec (attrsOf b.ri b.ctxUser) pol.rules = false) :
    ∃ a, (arrive env s r).2 = .terminated a ∧ a.httpCode = 500 ∧ a.body.reason = Model.Forward.kInternalError ∧
      (arrive env s r).1 = s := by
  have hroute : route b.cl r b.ri b.ctxUser = none := (KG.Props.C01.c01_match_attributes_none _ _ _ _).2 hno
  have hd : dispatch env s r = .noPolicy b := by simp only [dispatch, hb, hroute]
  -- C04's row theorem gives the code only; the reason is read off the table
  have hrow := (KG.Props.C04.c04_decision_table _).trans (table_of_reaches (reaches_of_bound hb))
  simp only [KG.Spec.Forward.tableDispatch, (scenario_noPolicy hd).1, Bool.not_false, if_true] at hrow
  rw [arrive_of_row hinv hp hf hrow, hd]
  exact ⟨_, rfl, rfl, rfl, rfl⟩

/-- the schema of the first matching policy refuses: 429 — with Retry-After unless the resource is `events` — and NO
    round-robin cursor moves (`TryAcquire` comes before `Pop`); endpoints, names and configuration are untouched -/
theorem gw_row_rate_limited (env : Env) (s : State) (r : Request) (hinv : Inv s)
    (hp : Model.Identity.parse r.lines ≠ none) (hf : Model.Forward.forwardRequest r.toForward ≠ none)
    (x : Dispatched) (hx : dispatch env s r = .done x) (ha : x.acq.admitted = false) :
    ∃ a, (arrive env s r).2 = .terminated a ∧ a.httpCode = 429 ∧
      a.retryAfter = (if (scenario env s r).resource = Gen.C04.rateLimitExemptResource then none else some Gen.C04.retryAfter) ∧
      (arrive env s r).1.clusters = s.clusters ∧ (arrive env s r).1.mgr = s.mgr ∧ (arrive env s r).1.lim = x.acq.lim := by
  obtain ⟨h0, h1, h2, h3, h4, h5⟩ := reaches_iff.1 (reaches_of_bound (done_of_dispatch hx).bound)
  obtain ⟨e7, e8, _⟩ := scenario_done hx
  obtain ⟨a, hs, hc, hra⟩ := KG.Props.C04.c04_row_rate_limited _ h0 h1 h2 h3 h4 h5 e7 (e8.trans ha)
  rw [arrive_of_row hinv hp hf hs, hx]
  simp only [ha, Bool.false_eq_true, if_false]
  exact ⟨a, rfl, hc, hra, stateAfterDispatch_refused hx ha, rfl, rfl⟩

/-- admitted, but the policy's upstream list holds no enabled, healthy endpoint (C03): 503 with Retry-After; the slot is
    given back by the deferred `Release` and no cursor moves -/
theorem gw_row_no_ready (env : Env) (s : State) (r : Request) (hinv : Inv s)
    (hp : Model.Identity.parse r.lines ≠ none) (hf : Model.Forward.forwardRequest r.toForward ≠ none)
    (x : Dispatched) (hx : dispatch env s r = .done x) (ha : x.acq.admitted = true) (hn : x.pop.1 = .noReady) :
    ∃ a, (arrive env s r).2 = .terminated a ∧ a.httpCode = 503 ∧ a.retryAfter = some Gen.C04.unavailableRetryAfter ∧
      (∀ n, n ∈ x.pk.upstreams → ∀ e, Model.Endpoints.load x.b.cl.ep.eps n = some e → e.isReady = false) ∧
      (arrive env s r).1.clusters = s.clusters ∧
      (arrive env s r).1.lim = (Model.LocalLimiter.release x.acq.lim x.acq.handle).1 := by
  obtain ⟨h0, h1, h2, h3, h4, h5⟩ := reaches_iff.1 (reaches_of_bound (done_of_dispatch hx).bound)
  obtain ⟨e7, e8, e9⟩ := scenario_done hx
  obtain ⟨a, hs, hc, hra⟩ := KG.Props.C04.c04_row_no_ready_endpoint _ h0 h1 h2 h3 h4 h5 e7 (e8.trans ha) (by rw [e9, hn])
  have hno : (Model.Endpoints.pop x.b.cl.ep.eps x.b.cl.ep.lb x.pk.upstreams).1 = .noReady :=
    (done_of_dispatch hx).popped ha ▸ hn
  rw [arrive_of_row hinv hp hf hs, hx]
  simp only [ha, if_true]
  exact ⟨a, rfl, hc, hra, KG.Lemmas.Endpoints.pop_noReady hno,
    stateAfterDispatch_unpicked hx (by rw [hn]; exact fun _ _ h => nomatch h), rfl⟩

/-! ## frame facts: what one request leaves alone -/

/-- C10 / C11 / C03: a request never changes the manager (names), any cluster's configuration, endpoint objects, their
    health or the Sync counter — whatever its outcome; only cursors, limiters and buckets can move -/
theorem gw_frame_static (env : Env) (s : State) (r : Request) :
    (arrive env s r).1.mgr = s.mgr ∧
    (arrive env s r).1.clusters.map (fun cl => (cl.cfg, cl.ep.eps, cl.ep.epoch, cl.ep.policies, cl.ep.pickers)) =
      s.clusters.map (fun cl => (cl.cfg, cl.ep.eps, cl.ep.epoch, cl.ep.policies, cl.ep.pickers)) := by
  rcases arrive_state env s r with h | ⟨x, _, h | h⟩
  · rw [h]; exact ⟨rfl, rfl⟩
  · rw [h]; exact ⟨rfl, setCursor_map _ (fun _ _ => rfl) _ _ _⟩
  · rw [h]; exact ⟨rfl, setCursor_map _ (fun _ _ => rfl) _ _ _⟩

/-- C14: only the cursors of the cluster the request was bound to can move, and only when flow control admitted it
    ("a 429 does not consume a round-robin turn") -/
theorem gw_frame_cursors (env : Env) (s : State) (r : Request) :
    (arrive env s r).1.clusters = s.clusters ∨
    ∃ x, dispatch env s r = .done x ∧ x.acq.admitted = true ∧
      (∀ q, q ≠ x.b.p → (arrive env s r).1.clusters[q]? = s.clusters[q]?) ∧
      (arrive env s r).1.clusters[x.b.p]? = some { x.b.cl with ep := { x.b.cl.ep with lb := x.pop.2 } } := by
  rcases arrive_state env s r with h | ⟨x, hx, h⟩
  · left; rw [h]
  · have hc : (arrive env s r).1.clusters = setCursor s.clusters x.b.p x.pop.2 := by
      rcases h with h | h <;> rw [h] <;> rfl
    cases ha : x.acq.admitted with
    | true =>
      refine .inr ⟨x, hx, ha, fun q hq => ?_, ?_⟩
      · rw [hc, setCursor_get, if_neg hq]
      · rw [hc, setCursor_get, if_pos rfl, (done_of_dispatch hx).cluster]; rfl
    | false => exact .inl (hc.trans (stateAfterDispatch_refused hx ha))

/-- C05 / C06: a request that does not reach `TryAcquire` — any filter in front of the dispatcher answered, the host is an
    IP literal, or no policy matches — leaves every limiter, every bucket and every cursor alone -/
theorem gw_frame_unreached (env : Env) (s : State) (r : Request) (h : ∀ x, dispatch env s r ≠ .done x) :
    (arrive env s r).1 = s :=
  (arrive_state env s r).elim id fun ⟨x, hx, _⟩ => absurd hx (h x)

/-! ## C10 through the composition -/

/-- when the manager is reachable by handler invocations (C10: `Reachable`, e.g. after `install`), the host of a forwarded
    request — port stripped, lower-cased — is one of the CURRENT server names of the cluster it was forwarded for: no
    request is ever served by a cluster that does not claim its host -/
theorem gw_forwarded_host_is_claimed (env : Env) (s : State) (r : Request) (f : Forwarded)
    (h : (arrive env s r).2 = .forwarded f) (hm : KG.Props.C10.Reachable lower s.mgr) :
    ∃ ci, Model.Names.resolve lower s.mgr r.host = some (f.cluster, ci) ∧
      lower (Model.Names.hostWithoutPort lower r.host) ∈ Model.Names.loadServerNames lower ci := by
  obtain ⟨x, up, n, g, rfl, w, _⟩ := arrive_cases h
  obtain ⟨ci, hres⟩ := w.named
  refine ⟨ci, hres, ?_⟩
  have hI := KG.Props.C10.c10_inv lower KG.Props.C10.c10_lower_idem s.mgr hm
  unfold Model.Names.resolve at hres
  obtain ⟨hlook, hheap⟩ := (KG.Lemmas.Names.get_some_iff lower s.mgr _ _ _).1 hres
  exact hI.mem _ _ _ hlook hheap

/-- `install` only ever applies C10's handler -/
theorem gw_install_mgr_reachable (cfgs : List ClusterCfg) : KG.Props.C10.Reachable lower (install cfgs).mgr :=
  install_induction (P := fun s => KG.Props.C10.Reachable lower s.mgr) KG.Props.C10.Reachable.init
    (fun _ _ _ h _ => KG.Props.C10.Reachable.step _ _ _ h) cfgs

/-! ## well-formed clusters: established by `install`, kept by every operation -/

def StateWF (s : State) : Prop := ∀ cl ∈ s.clusters, ClusterWF cl

/-- replacing one `ClusterInfo` by one that is well-formed if the old one was -/
theorem wf_set {cs : List Cluster} (h : ∀ cl ∈ cs, ClusterWF cl) {p : Nat} {cl cl' : Cluster} (hp : cs[p]? = some cl)
    (hcl : ClusterWF cl → ClusterWF cl') : ∀ c ∈ cs.set p cl', ClusterWF c := by
  intro c hc
  rcases List.mem_or_eq_of_mem_set hc with hm | rfl
  · exact h c hm
  · exact hcl (h cl (List.mem_of_getElem? hp))

theorem wf_install (cfgs : List ClusterCfg) : StateWF (install cfgs) := by
  refine install_induction (P := StateWF) nofun (fun s cfg w h _ cl hcl => ?_) cfgs
  rcases List.mem_append.1 hcl with hcl | hcl
  · exact h cl hcl
  · cases List.mem_singleton.1 hcl
    exact clusterWF_sync { cfg with name := lower cfg.name }

theorem wf_done {env : Env} (s : State) (r : Request) (x : Dispatched) (_ : dispatch env s r = .done x) (h : StateWF s) :
    StateWF (stateAfterDispatch s x) := by
  show ∀ cl ∈ setCursor s.clusters x.b.p x.pop.2, ClusterWF cl
  unfold setCursor
  split
  · exact h
  · rename_i cl hc
    exact wf_set h hc (clusterWF_cursor · _)

theorem wf_setHealth (s : State) (p : Nat) (ep : Str) (healthy : Bool) (h : StateWF s) : StateWF (setHealth s p ep healthy) := by
  unfold setHealth
  split
  · exact h
  · rename_i cl hc
    exact wf_set h hc (clusterWF_health · ep healthy)

/-- along every sequence on every installed configuration the clusters stay well-formed: the hypotheses of
    `gw_forwarded_server` are satisfied by every state the harness drives the model through -/
theorem gw_run_wf (env : Env) (cfgs : List ClusterCfg) (ops : List Op) :
    StateWF (run env (Run.init (install cfgs)) ops).1.s :=
  run_preserves wf_done (fun _ _ h => h) wf_setHealth _ (wf_install cfgs) ops

/-! ## C12 through the composition: decisions never cross clusters -/

theorem authenticate_congr {env env' : Env} {p : Option Nat} (h : ∀ tok, env.authn p tok = env'.authn p tok) (r : Request) :
    authenticate env p r = authenticate env' p r := by
  unfold authenticate; split <;> simp [h]

theorem impersonation_congr {env env' : Env} {p : Option Nat} (h : ∀ u q, env.authz p u q = env'.authz p u q) (r : Request)
    (u : Model.Identity.Identity) : impersonation env p r u = impersonation env' p r u := by
  unfold impersonation
  have : env.authz p u = env'.authz p u := funext (h u)
  rw [this]

/-- the cluster a request is bound to (none: IP-literal Host or unknown host) -/
def boundPtr (s : State) (r : Request) : Option Nat := if r.hostIsIP then none else (resolveCluster s r).map (·.1)

theorem bound_congr {env env' : Env} {s : State} {r : Request}
    (h1 : ∀ tok, env.authn (boundPtr s r) tok = env'.authn (boundPtr s r) tok)
    (h2 : ∀ u q, env.authz (boundPtr s r) u q = env'.authz (boundPtr s r) u q) : bound? env s r = bound? env' s r := by
  unfold bound?
  split
  · rfl
  split
  · rfl
  rename_i hip
  split
  · rfl
  rename_i p cl hres
  -- from here on both sides consult the oracles of `some p`, which is `boundPtr s r`
  have hp : boundPtr s r = some p := by rw [boundPtr, if_neg hip, hres]; rfl
  rw [hp] at h1 h2
  simp only [authenticate_congr h1 r, impersonation_congr h2 r]

/-- **C12 lifted**: the outcome of a request, the request an upstream receives and the state afterwards depend on the oracles
    (authentication and impersonation authorisation) of the ONE cluster the request is bound to and of no other: two
    environments that agree on that cluster's oracles are indistinguishable, whatever the other clusters' oracles say about
    the same token or the same user. -/
theorem gw_own_cluster_oracle (env env' : Env) (s : State) (r : Request)
    (h1 : ∀ tok, env.authn (boundPtr s r) tok = env'.authn (boundPtr s r) tok)
    (h2 : ∀ u q, env.authz (boundPtr s r) u q = env'.authz (boundPtr s r) u q) :
    arrive env s r = arrive env' s r := by
  have hd : dispatch env s r = dispatch env' s r := by unfold dispatch; rw [bound_congr h1 h2]
  have hs : scenario env s r = scenario env' s r := by
    unfold scenario
    rw [hd]
    unfold boundPtr at h1 h2
    simp only [authenticate_congr h1 r, impersonation_congr h2 r]
  unfold arrive
  rw [hd, hs]
  cases hd' : dispatch env' s r with
  | done x =>
    -- the authorizer of the whole-path identity model is the bound cluster's, too
    have f := front_of_bound (dispatch_cases (hd.trans hd')).1
    have hp : boundPtr s r = some x.b.p := by rw [boundPtr, f.proxied, f.resolved]; rfl
    rw [hp] at h2
    simp only [funext (h2 x.b.requestor)]
  | _ => rfl

/-! ## C05 through the composition: no slot is ever leaked; C14: the cursor law -/

/-- **no leak, whatever the way out**: after ONE COMPLETE request — forwarded, refused by any filter, unmatched, rate
    limited, left without endpoint, refused by the transport — the limiters are again related to a bookkeeping that has, for
    EVERY cluster and schema, exactly the in-flight requests it had before. So the demand of C05's judge for the next request
    (`Spec.LocalLimiter.demandExact`: admitted iff fewer than M unfinished) is what it was: a request costs a slot only while it
    is in flight. -/
theorem gw_no_leak (env : Env) (s : State) (σ : KG.Spec.LocalLimiter.SState) (r : Request)
    (hrel : KG.Lemmas.LocalLimiter.Rel s.lim σ) :
    ∃ σ', KG.Lemmas.LocalLimiter.Rel (serveRequest env s r).1.lim σ' ∧ σ'.entries = σ.entries ∧
      ∀ c n, KG.Spec.LocalLimiter.demandExact σ' c n = KG.Spec.LocalLimiter.demandExact σ c n := by
  have hdem : ∀ σ' : KG.Spec.LocalLimiter.SState, σ'.entries = σ.entries →
      ∀ c n, KG.Spec.LocalLimiter.demandExact σ' c n = KG.Spec.LocalLimiter.demandExact σ c n := by
    intro σ' he c n; unfold KG.Spec.LocalLimiter.demandExact; rw [he]
  rcases serveRequest_state env s r with h | ⟨x, hx, ⟨h, ha⟩ | ⟨h, ha⟩⟩
  · rw [h]; exact ⟨σ, hrel, rfl, fun _ _ => rfl⟩
  · -- refused: nothing was taken
    have hrel' := done_rel hrel hx
    rw [ha] at hrel'
    have hent : (KG.Spec.LocalLimiter.specAcquire σ x.b.cl.cfg.name (schemaNameOf x.b.cl x.pk) false).entries = σ.entries := by
      simp [KG.Spec.LocalLimiter.specAcquire]
    rw [h]
    exact ⟨_, hrel', hent, hdem _ hent⟩
  · -- taken and given back
    have hrel' := KG.Lemmas.LocalLimiter.release_step (done_rel hrel hx) x.acq.handle
    have hent := KG.Lemmas.LocalLimiter.spec_roundtrip hrel x.b.cl.cfg.name (schemaNameOf x.b.cl x.pk)
    rw [← hrel.core.reqsLen, ← (done_of_dispatch hx).handle] at hent
    rw [ha] at hrel'
    rw [h]
    exact ⟨_, hrel', hent, hdem _ hent⟩

/-- **C14 through the composition**: a forwarded request whose policy's upstream list holds two or more ready endpoints
    took `ready[c mod k]` where `c` is the successor of the cursor of ITS ordered ready list in ITS cluster; afterwards that
    cursor is `c` and every other cursor of the cluster (and, `gw_frame_cursors`, of every other cluster) is what it was -/
theorem gw_cursor_law (env : Env) (s : State) (r : Request) (f : Forwarded) (h : (arrive env s r).2 = .forwarded f)
    (cl : Cluster) (hcl : s.clusters[f.cluster]? = some cl) (pol : Model.Match.PolicyCfg)
    (hpol : cl.cfg.policies[f.policy]? = some pol)
    (h2 : 2 ≤ (Model.Endpoints.readyList cl.ep.eps
      (if pol.upstreamSubset = [] then allEndpoints cl r else pol.upstreamSubset)).length) :
    ∃ cl', (arrive env s r).1.clusters[f.cluster]? = some cl' ∧ cl'.ep.eps = cl.ep.eps ∧
      Model.Endpoints.indexResult
        (Model.Endpoints.readyList cl.ep.eps (if pol.upstreamSubset = [] then allEndpoints cl r else pol.upstreamSubset))
        (Model.Endpoints.toU64 (Model.Endpoints.lbGet cl.ep.lb
          ((Model.Endpoints.readyList cl.ep.eps (if pol.upstreamSubset = [] then allEndpoints cl r else pol.upstreamSubset)).map
            Model.Endpoints.EP.id) + 1)) = .picked f.endpoint.1 f.endpoint.2 ∧
      Model.Endpoints.lbGet cl'.ep.lb
          ((Model.Endpoints.readyList cl.ep.eps (if pol.upstreamSubset = [] then allEndpoints cl r else pol.upstreamSubset)).map
            Model.Endpoints.EP.id) =
        Model.Endpoints.toU64 (Model.Endpoints.lbGet cl.ep.lb
          ((Model.Endpoints.readyList cl.ep.eps (if pol.upstreamSubset = [] then allEndpoints cl r else pol.upstreamSubset)).map
            Model.Endpoints.EP.id) + 1) ∧
      ∀ κ, κ ≠ (Model.Endpoints.readyList cl.ep.eps (if pol.upstreamSubset = [] then allEndpoints cl r else pol.upstreamSubset)).map
            Model.Endpoints.EP.id → Model.Endpoints.lbGet cl'.ep.lb κ = Model.Endpoints.lbGet cl.ep.lb κ := by
  obtain ⟨x, up, n, g, rfl, w, hst⟩ := arrive_cases h
  cases w.cluster.symm.trans hcl
  obtain ⟨h1, h2', h3⟩ := KG.Props.C14.c14_cursor_law x.b.cl.ep.eps x.b.cl.ep.lb _ h2
  rw [w.pick hpol] at h1 h2' h3
  refine ⟨{ x.b.cl with ep := { x.b.cl.ep with lb := x.pop.2 } }, ?_, rfl, h1.symm, h2', h3⟩
  rw [hst, stateAfterDispatch_clusters, setCursor_get, if_pos rfl, w.cluster]; rfl

/-- **C05's isolation through the composition**: ONE COMPLETE request — which touches at most the limiter of the schema of
    the first matching policy of the cluster it is bound to — does not change the answer a request under ANY OTHER
    (cluster, schema) pair would get: exhausting one tenant's or one policy's limit never causes a rejection elsewhere -/
theorem gw_isolation (env : Env) (s : State) (σ : KG.Spec.LocalLimiter.SState) (r : Request)
    (hrel : KG.Lemmas.LocalLimiter.Rel s.lim σ) (c n : Str) (tb : Bool)
    (hother : ∀ x, dispatch env s r = .done x → ¬ (x.b.cl.cfg.name = c ∧ schemaNameOf x.b.cl x.pk = n)) :
    Model.LocalLimiter.answer (serveRequest env s r).1.lim c n tb = Model.LocalLimiter.answer s.lim c n tb := by
  rcases serveRequest_state env s r with h | ⟨x, hx, hcase⟩
  · rw [h]
  · have hacq := (done_of_dispatch hx).acquire
    have hh := (done_of_dispatch hx).handle
    have hno := hother x hx
    -- the arrival
    have h1 := KG.Lemmas.LocalLimiter.isolation_step hrel (.acquire x.b.cl.cfg.name (schemaNameOf x.b.cl x.pk)
        (bucketAnswer s.lim s.buckets x.b.cl.cfg.name (schemaNameOf x.b.cl x.pk) r.now).1) c n tb
        (by simpa [Model.LocalLimiter.addresses] using hno)
    simp only [Model.LocalLimiter.step, hacq] at h1
    rcases hcase with ⟨h, _⟩ | ⟨h, _⟩
    · rw [h]; exact h1
    · -- … and the completion
      obtain ⟨obj, hreqs⟩ := KG.Lemmas.LocalLimiter.acquire_reqs hacq
      have h2 := KG.Lemmas.LocalLimiter.isolation_step (done_rel hrel hx) (.release x.acq.handle) c n tb (by
        simp only [Model.LocalLimiter.addresses, hreqs, hh, List.getElem?_concat_length]
        exact hno)
      rw [h]
      exact h2.trans h1

/-- **C06 through the composition**: the token buckets after a request are the buckets before, except — when the dispatcher
    called `TryAcquire` on a token-bucket limiter object `id` — that one bucket, which made exactly ONE step
    `Bucket.tryAcquire` at the request's clock reading (from a fresh bucket if the object was resized since its last use).
    So the calls a bucket sees along any sequence are exactly the requests routed to its limiter object, in order: the
    sub-sequence C06's bounds (`c06_history`, `c06_upper_window`) speak of. Applying them to it is not done here. -/
theorem gw_frame_buckets (env : Env) (s : State) (r : Request) :
    (arrive env s r).1.buckets = s.buckets ∨
    ∃ x id q b, dispatch env s r = .done x ∧
      bucketFor s.lim x.b.cl.cfg.name (schemaNameOf x.b.cl x.pk) = some (id, q, b) ∧
      ∀ id', (arrive env s r).1.buckets.lookup id' =
        if id' = id then some ((bucketOf s.buckets id q b).tryAcquire arith r.now).2 else s.buckets.lookup id' := by
  rcases arrive_state env s r with h | ⟨x, hx, h⟩
  · left; rw [h]
  · have hb : (arrive env s r).1.buckets = x.acq.buckets := by
      rcases h with h | h <;> rw [h] <;> rfl
    rw [(done_of_dispatch hx).buckets, bucketAnswer] at hb
    cases hf : bucketFor s.lim x.b.cl.cfg.name (schemaNameOf x.b.cl x.pk) with
    | none => left; rw [hb, hf]
    | some t =>
      obtain ⟨id, q, b⟩ := t
      refine .inr ⟨x, id, q, b, hx, hf, fun id' => ?_⟩
      rw [hb, hf]
      exact lookup_setBucket _ _ _ _

/-! ## the end-to-end judge holds of the model

`KG.Spec.Gateway.judge` is what the harness applies to the REAL chain's observations. It is written with the per-area
specifications (C02 `expectedFor`/`judge`, C01 `firstMatchSpec`, C05 `demandExact`, C03 eligibility in the cluster's own spec,
C04 `table`). For every state whose limiters are related to the judge's bookkeeping `σ` and whose clusters are well-formed (both
hold along every sequence on every installed configuration: `gw_run_inv`, `gw_run_wf`), `gw_judge_answered` proves the whole judge
silent on an answered request, `gw_judge_stages` proves `judgeStages` silent on a forwarded one. `judgeFidelity` (C04's Boolean
verdicts over canonicalised header maps), and so `judgeForwarded`, is proved in no theorem: `gw_forwarded_fidelity` proves, per
key, the statements it evaluates. -/

/-- **answered requests**: for every request the model answers itself (any row — the 500 of a failed `WithRequestInfo`
    included —, an IP-literal host handed to the control plane), the judge — the table on the SPECIFICATION's flags,
    well-formedness, the Retry-After rule — accepts the model's output -/
theorem gw_judge_answered (env : Env) (s : State) (σ : KG.Spec.LocalLimiter.SState) (r : Request)
    (hrel : KG.Lemmas.LocalLimiter.Rel s.lim σ) (hwf : StateWF s)
    (hp : Model.Identity.parse r.lines ≠ none) (hf : Model.Forward.forwardRequest r.toForward ≠ none)
    (hnf : ∀ f, (arrive env s r).2 ≠ .forwarded f) (hnp : (arrive env s r).2 ≠ .proxyError)
    (obs : KG.Spec.Gateway.Obs) (ho : KG.Spec.Gateway.obsOf r (arrive env s r).2 = some obs) :
    KG.Spec.Gateway.judge env s σ r obs = [] := by
  have ht := gw_decision_table env s r ⟨σ, hrel⟩ hp hf
  rw [← table_spec_eq hrel hwf hp] at ht
  cases hout : (arrive env s r).2 with
  | forwarded f => exact absurd hout (hnf f)
  | proxyError => exact absurd hout hnp
  | badRequest => rw [hout] at ho; cases ho
  | panic e => rw [hout] at ho; cases ho
  | notProxied =>
    rw [hout] at ht ho
    simp only [kindOf, Option.some.injEq] at ht
    simp only [KG.Spec.Gateway.obsOf, Option.some.injEq] at ho
    subst ho
    simp [KG.Spec.Gateway.judge, KG.Spec.Gateway.judgeAnswered, ← ht, KG.Spec.Gateway.cls]
  | terminated a =>
    rw [hout] at ht ho
    simp only [kindOf, Option.some.injEq] at ht
    simp only [KG.Spec.Gateway.obsOf, Option.some.injEq] at ho
    subst ho
    have hra := table_retryAfter _ a ht.symm
    unfold reaches at hra
    obtain ⟨hwo, hrow⟩ := KG.Props.C04.c04_terminated_judges _ _ (arrive_cases hout).1
    simp only [KG.Spec.Gateway.judge, if_true, KG.Spec.Gateway.judgeAnswered, ← ht, hwo, hrow, hra, KG.Spec.Gateway.cls,
      List.append_nil]

/-- **forwarded requests**: for every request the model hands to an upstream, every stage class of the judge stays
    silent on the model's output: the host resolves and is proxied, the identity is the expected one and the identity-bearing
    fields are exactly the gateway's (C02: `serve_forwarded`, `judge_generated`), the policy is `firstMatchSpec`'s, the endpoint
    is in that policy's upstream list, a current server, eligible, and the schema admitted by C05's `demandExact` / C06's
    bucket. (The fidelity classes are C04's Boolean verdicts; `gw_forwarded_fidelity` proves, per key, the statements they
    evaluate.) -/
theorem gw_judge_stages (env : Env) (s : State) (σ : KG.Spec.LocalLimiter.SState) (r : Request) (f : Forwarded)
    (hrel : KG.Lemmas.LocalLimiter.Rel s.lim σ) (hwf : StateWF s) (h : (arrive env s r).2 = .forwarded f)
    (obs : KG.Spec.Gateway.Obs) (ho : KG.Spec.Gateway.obsOf r (.forwarded f) = some obs) :
    KG.Spec.Gateway.judgeStages env s σ r obs = [] := by
  obtain ⟨x, up, n, g, rfl, w, _⟩ := arrive_cases h
  have hcwf : ClusterWF x.b.cl := hwf _ (List.mem_of_getElem? w.cluster)
  cases ho
  -- C02: forwarded as the user the specification expects; the identity-bearing fields are the gateway's own, for a user whose
  -- values pass the value check
  have hex := expectId_bound (KG.Lemmas.Identity.rawValid_of_parse w.accepted) w.toFront
  have hjid : KG.Spec.Identity.judge x.b.cl.cfg.token false (.forward x.b.ctxUser)
      [Model.Identity.sendOver false (KG.Spec.Identity.gatewayHeaders x.b.cl.cfg.token false x.b.ctxUser)] = [] :=
    (List.append_nil _).trans
      (KG.Lemmas.Identity.judge_generated _ _ _ (KG.Lemmas.Identity.check_valuesCarried _ _ w.valuesOK))
  -- C05 / C06: admitted; C01 and C03: the endpoint is eligible (so a current server) and of the first matching policy's list
  have hadmits : KG.Spec.Gateway.admits s σ x.b.cl.cfg.name (KG.Spec.Gateway.schemaOf x.b.cl x.pk.policy) r.now = true :=
    (KG.Lemmas.LocalLimiter.acquire_answer hrel w.acquire).symm.trans w.admitted
  obtain ⟨pol, hpol, _⟩ := route_some w.routed
  obtain ⟨helig, hin⟩ := picked_eligible hcwf r hpol (congrArg Prod.fst (w.pick hpol))
  have hsrv : (Model.Endpoints.serverNames x.b.cl.cfg.servers).contains n = true :=
    List.contains_iff_mem.2 (specEligible_iff.1 helig).1
  simp only [KG.Spec.Gateway.judgeStages, w.info, w.proxied, Bool.false_eq_true, if_false, w.resolved, w.notDenied, hex, hjid,
    firstPolicy_route x.b.cl r, w.routed, Option.map_some, List.contains_iff_mem.2 hin, hsrv, helig, hadmits, KG.Spec.Gateway.cls,
    Bool.not_false, if_true, List.map_nil, List.append_nil, decide_true]

/-! ## non-vacuity: a concrete configuration and sequence on which every hypothesis above is met non-trivially

Two clusters `a` (alias `x`; endpoints `e`, `f`; schema `m` = max-in-flight 1; policy 0 only for user `v` with subset `[f]`,
policy 1 catch-all with subset `[e, f]`, both under `m`) and `b` (alias `a`: REFUSED by C10's conflict rule, never served).
Token `t` is user `u` at cluster `a`. The sequence: both endpoints report healthy; a request is forwarded and HELD
(first matching policy is 1, round robin starts at `f`); the same request again is refused 429 (the slot is taken) and
does not move the cursor; the held one finishes; the next one is forwarded to `e`; an unknown token is 401; host `b`
(refused cluster) is 503; `e` turns unhealthy and `f` is picked; cluster `a` is reached under its alias `X:443`. -/
section NonVacuous

def star : List Str := [Model.Match.star]
def anyRule (users : List Str) : Model.Match.Rule :=
  { verbs := star, apiGroups := star, resources := star, resourceNames := [], users := users, serviceAccounts := [],
    userGroups := [], nonResourceURLs := star }

def exCfgA : ClusterCfg :=
  { name := [97], aliases := [[120]], denyAll := false, closeWhenIdle := false, loggingMode := [],
    policies := [{ rules := [anyRule [[118]]], flowControlSchemaName := [109], upstreamSubset := [[102]], logMode := [] },
                 { rules := [anyRule []], flowControlSchemaName := [109], upstreamSubset := [[101], [102]], logMode := [] }],
    schemas := [{ name := [109], strategy := [], exempt := false, mi := some 1, tb := none, gmi := none, gtb := none }],
    servers := [{ endpoint := [101], disabled := false }, { endpoint := [102], disabled := false }],
    token := [103, 119] }

def exCfgB : ClusterCfg := { exCfgA with name := [98], aliases := [[97]] }

def exEnv : Env :=
  { authn := fun p tok => if p = some 0 ∧ tok = [116] then some ⟨[117], [[103]], []⟩ else none,
    authz := fun _ _ _ => .allow }

def exReq (host : Str) (tok : Str) : Request :=
  { host := host, method := [71, 69, 84], target := [47, 120],
    lines := [(Model.Identity.hAuthorization, Model.Identity.bearerPrefix ++ tok)], body := [], remoteIP := some [49],
    info := some { verb := [103, 101, 116], isResource := false, apiGroup := [], resource := [], subresource := [], name := [], path := [47, 120] },
    hostIsIP := false, order := [], now := 0 }

def exOps : List Op :=
  [.setHealth 0 [101] true, .setHealth 0 [102] true,
   .request (exReq [97] [116]) true,            -- forwarded to f, held
   .request (exReq [97] [116]) false,           -- 429: the only slot is taken
   .finish 2,
   .request (exReq [97] [116]) false,           -- forwarded to e
   .request (exReq [97] [122]) false,           -- 401: unknown token
   .request (exReq [98] [116]) false,           -- 503: cluster b was refused
   .setHealth 0 [101] false,
   .request (exReq [97] [116]) false,           -- only f is ready
   .request (exReq [88, 58, 52, 52, 51] [116]) false]  -- "X:443": alias, other case, port

/-- (status, endpoint, policy) of an output; 200 = forwarded -/
def digest : Out → Nat × Str × Nat
  | .served (.forwarded f) => (200, f.endpoint.1, f.policy)
  | .served (.terminated a) => (a.httpCode, [], 0)
  | .served .notProxied => (1, [], 0)
  | .served .badRequest => (400, [], 0)
  | .served .proxyError => (502, [], 0)
  | .served (.panic _) => (999, [], 0)
  | .finished did => (if did then 2 else 3, [], 0)
  | .health => (0, [], 0)

example : (install [exCfgA, exCfgB]).clusters.length = 1 := by decide +kernel

example : (run exEnv (Run.init (install [exCfgA, exCfgB])) exOps).2.map digest =
    [(0, [], 0), (0, [], 0), (200, [102], 1), (429, [], 0), (2, [], 0), (200, [101], 1), (401, [], 0), (503, [], 0),
     (0, [], 0), (200, [102], 1), (200, [102], 1)] := by decide +kernel

/-- the forwarded request of the example carries the gateway's credential and the authenticated user, not the client's token -/
example : (match (arrive exEnv (setHealth (setHealth (install [exCfgA]) 0 [101] true) 0 [102] true) (exReq [97] [116])).2 with
    | .forwarded f => Model.Identity.values f.identity Model.Identity.hAuthorization == [Model.Identity.bearerPrefix ++ [103, 119]] &&
                      Model.Identity.values f.identity Model.Identity.hImpUser == [[117]] && f.up.target == [47, 120]
    | _ => false) = true := by decide +kernel

end NonVacuous

end KG.Props.C04.Gateway
