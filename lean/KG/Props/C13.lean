import KG.Lemmas.Shard
/-!
# C13 — Sharding: one shard per upstream on both sides; only its leader serves it

Statement (properties.jsonl): every upstream cluster name maps to exactly one shard in [0, N), the mapping
depends only on the name and N, and the gateway and the limiter server compute it identically, so a gateway
addresses an upstream's requests to the server it knows as leader of that shard. A limiter server serves or
changes quota/acquire state for an upstream only while it holds leadership of that upstream's shard; otherwise
it refuses with an error naming the leader and changes nothing, and it discards the shard's in-memory state
when it loses leadership. — for every name (any bytes), every N ≥ 1, every history of leadership gains/losses
interleaved with allocate/acquire/cluster-update calls.

Model: `KG.Model.Shard` (mirrors util.GetShardID, clientSets.ShardIDFor/ClientFor/sync, leaderElector,
rateLimiter's four guarded entry points, startLeading/stopLeading/leaderCheck, the k8s store's shard tests)
over an arbitrary store implementation (`StoreOps`). Judge: `KG.Spec.Shard.JudgeStep`.

Range of shard counts: the code computes `sum32 % uint32(N)`. For 1 ≤ N < 2^32 this is the stated function
(`c13_range`, `c13_exactly_one`). For N ≥ 2^32 the result is still in [0, N) whenever the code answers
(`c13_range_any`), but it panics (integer division by zero) exactly when N is a multiple of 2^32
(`c13_panics_iff`); a server announces its count as an `int32` (`RateLimitServerInfo.ShardCount`), and the
gateway computes with what it was told: both sides agree for EVERY N for which the server answers at all
(`c13_sides_agree`).

The identity of a server must not be empty (`me ≠ []` below): `IsLeader` compares the recorded leader name,
"" when nobody is recorded, with the identity, so a server with the empty identity "leads" every shard nobody
is known to lead; leader election cannot tell such servers apart in the first place.
-/
namespace KG.Props.C13
open KG KG.Model.Shard KG.Spec.Shard KG.Lemmas.Shard

/-! ## 0. The shape of the sources the model relies on (regenerated by tools/extract/c13 on every check) -/

theorem gen_fnv : KG.Gen.C13.fnvOffset32 = 2166136261 ∧ KG.Gen.C13.fnvPrime32 = 16777619 ∧
    KG.Gen.C13.fnv32aLoopBody = "{ hash ^= sum32a(c) hash *= prime32 }" ∧
    KG.Gen.C13.fnvNew32aBody = "{ var s sum32a = offset32 return &s }" := ⟨rfl, rfl, rfl, rfl⟩

/-- server side: `util.GetShardID(value, shardCount)` is FNV-1a-32 of the bytes of the name, `% uint32(shardCount)`, as
    an int — recognised by role (hash/fnv's New32a/Write/Sum32, or an in-place byte loop "xor, then multiply by the
    FNV prime" from the FNV offset basis), not by spelling; the shard stream ties the same behaviourally -/
theorem gen_getShardID :
    KG.Gen.C13.shardFunction = "int(fnv1a32(bytes of <parameter 0>) % uint32(<parameter 1>))" := rfl

/-- gateway side: `ShardIDFor` answers the very same `util.GetShardID` of its parameter and its synced count, after
    the zero test, and does no hashing of its own; `ClientFor` asks `ShardIDFor` first. (How the leader table is
    represented and read is tied by the gateway / gwhist / arrive streams, not by a regenerated fact.) -/
theorem gen_gateway :
    KG.Gen.C13.gatewayShardCall = "util.GetShardID(<parameter>, <receiver>.shardCount)" ∧
    KG.Gen.C13.gatewayZeroGuardFirst = true ∧ KG.Gen.C13.gatewayHashesItself = false ∧
    KG.Gen.C13.gatewayClientForAsksShardIDFor = true := ⟨rfl, rfl, rfl, rfl⟩

/-- in each of the four entry points the shard is `util.GetShardID(<upstream>, r.shardCount)`, the leader test
    is an `if` that returns, and nothing before it or inside it (a same-receiver helper that builds the refusal is
    followed one level) touches the limiter's state; the refusal's text is tied by the history stream -/
theorem gen_entry_guards : KG.Gen.C13.entryGuards = [
    ("UpdateRateLimitConditionStatus", "shardId := util.GetShardID(upstream, r.shardCount)", "!r.leaderElector.IsLeader(shardId)", true, true),
    ("DoAcquire", "shardId := util.GetShardID(upstream, r.shardCount)", "!r.leaderElector.IsLeader(shardId)", true, true),
    ("UpstreamConditionHandler", "shardId := util.GetShardID(cluster.Name, r.shardCount)", "!r.leaderElector.IsLeader(shardId)", true, true),
    ("deleteCondition", "shardId := util.GetShardID(upstream, r.shardCount)", "!r.leaderElector.IsLeader(shardId) || len(condition.Spec.Instance) == 0", true, true)] ∧
    KG.Gen.C13.entryGuardRemarks = [] := ⟨rfl, rfl⟩

/-- only `startLeading` / `stopLeading` write `limitStoreMap`; `stopLeading` deletes unconditionally; the
    elector's callbacks are wired to them -/
theorem gen_store_map : KG.Gen.C13.limitStoreMapWriters = ["startLeading", "stopLeading"] ∧
    KG.Gen.C13.stopLeadingDeletesUnconditionally = true ∧ KG.Gen.C13.callbacksWired = true := ⟨rfl, rfl, rfl⟩

/-- the HTTP handlers call the two request entry points with the upstream of the very object they pass
    (`updateStatus` / `doAcquire` of the model take one upstream), and `syncUpstreamClustersForShard` hands the
    handler only upstreams of the shard -/
theorem gen_call_sites : KG.Gen.C13.dispatcherCalls = [
    "doAcquire: domain := acquireRequest.Name; s.rateLimiter.DoAcquire(domain, &acquireRequest)",
    "reportRateLimitConditionStatus: domain := rateLimitCondition.Spec.UpstreamCluster; s.rateLimiter.UpdateRateLimitConditionStatus(domain, &rateLimitCondition)"] ∧
    KG.Gen.C13.syncShardFilter = "util.GetShardID(upstream.Name, r.shardCount) == shardId" := ⟨rfl, rfl⟩

/-- the ORDER in `leaderElector.stopLeading`: this server leaves the leader table BEFORE the (possibly slow)
    `OnStoppedLeading` callback runs (`electorStop = stopLeading ∘ electorStopPre`, `Op.loseBegin`/`Op.loseEnd`); and
    the error path of `rateLimiter.startLeading` takes only ITS OWN store out of the map (`Overlap.startFail`) -/
theorem gen_order : KG.Gen.C13.electorStopForgetsBeforeCallback = true ∧
    KG.Gen.C13.electorStartRecordsLeaderBeforeCallback = true ∧
    KG.Gen.C13.startLeadingErrorPathDeletes = ["if r.limitStoreMap[shardId] == limitStore: delete(r.limitStoreMap, shardId)"] := ⟨rfl, rfl, rfl⟩

theorem gen_k8s : KG.Gen.C13.k8sSaveFirst = "shard := util.GetShardID(condition.Spec.UpstreamCluster, s.shardCount)" ∧
    KG.Gen.C13.k8sSaveSecond = "shard != s.shard => return error" ∧
    KG.Gen.C13.k8sLoadFilter = "util.GetShardID(newItem.Spec.UpstreamCluster, s.shardCount) != s.shard => continue" ∧
    KG.Gen.C13.k8sLoadFilterBeforeSave = true := ⟨rfl, rfl, rfl, rfl⟩

/-! ## 1. The shard map -/

/-- for EVERY N ≥ 1 (beyond 2^32 too): whenever the code answers, the answer is in [0, N) -/
theorem c13_range_any (name : Str) (n r : Int) (h1 : 1 ≤ n) (h : getShardID name n = .ok r) : 0 ≤ r ∧ r < n := by
  unfold getShardID at h
  split at h
  · cases h
  · cases h
    have hlt := Nat.mod_lt (fnv32a name).toNat (Nat.pos_of_ne_zero ‹_›)
    have hle := toU32_le (n := n) (by omega)
    exact ⟨Int.natCast_nonneg _, Int.lt_of_lt_of_le (Int.ofNat_lt.2 hlt) hle⟩

/-- For every byte string and every 1 ≤ N < 2^32 the code answers, the answer is FNV-1a-32(name) mod N, and it
    lies in [0, N). -/
theorem c13_range (name : Str) (n : Int) (h1 : 1 ≤ n) (h2 : n < 4294967296) :
    ∃ r : Int, getShardID name n = .ok r ∧ 0 ≤ r ∧ r < n ∧ r = Int.ofNat (shardSpec name n.toNat) := by
  have hu : toU32 n = n.toNat := toU32_of_range (by omega) h2
  have hok := getShardID_ok name (n := n) (by omega)
  rw [hu] at hok
  exact ⟨_, hok, (c13_range_any name n _ h1 hok).1, (c13_range_any name n _ h1 hok).2, rfl⟩

/-- exactly one shard: the answer is unique (the map is a function of (name, N) by construction:
    `getShardID` has no other argument and no state) -/
theorem c13_exactly_one (name : Str) (n : Int) (h1 : 1 ≤ n) (h2 : n < 4294967296) :
    ∃ r : Int, (∀ r', getShardID name n = .ok r' ↔ r' = r) ∧ 0 ≤ r ∧ r < n := by
  obtain ⟨r, hr, h0, hn, _⟩ := c13_range name n h1 h2
  refine ⟨r, fun r' => ?_, h0, hn⟩
  rw [hr]
  exact ⟨fun h => (Except.ok.inj h).symm, fun h => h ▸ rfl⟩

/-- the code panics (integer divide by zero) exactly when N is a multiple of 2^32 — never for 1 ≤ N < 2^32 -/
theorem c13_panics_iff (name : Str) (n : Int) :
    (∃ e, getShardID name n = .error e) ↔ n % 4294967296 = 0 := by
  rw [← toU32_eq_zero_iff]
  unfold getShardID
  split
  · exact ⟨fun _ => ‹_›, fun _ => ⟨_, rfl⟩⟩
  · exact ⟨fun h => h.elim fun _ he => (nomatch he), fun h => absurd h ‹_›⟩

/-- Both sides compute identically, whatever N: the count travels as `int32` in `RateLimitServerInfo`, the
    gateway converts it back to `int` — and `GetShardID` only looks at `uint32(count)`. -/
theorem c13_wire (name : Str) (n : Int) : getShardID name (toI32 n) = getShardID name n := by
  unfold getShardID
  rw [toU32_toI32]

/-- after a sync from server `st`, the gateway maps every upstream to the shard the server maps it to -/
theorem c13_sides_agree {σ : Type} (st : Srv σ) (g : Gw) (u : Str) :
    shardIDFor (gwSync (serverInfo st) g) u = .ok (shardOf st u) := by
  unfold shardIDFor gwSync serverInfo
  dsimp only
  rw [if_neg fun e => st.hn ((toI32_eq_zero_iff st.n).1 e), c13_wire, shardOf_spec]

/-! ### routing: the gateway addresses the server's leader of the upstream's shard -/

/-- **Routing.** A gateway that synced from a limiter server `st` (any previous gateway state) addresses the
    requests of upstream `u` to the server that `st` knows as leader of `u`'s shard. (Shard ids travel as
    `int32`: the shards with a known leader are in [0, 2^31), as they are for N ≤ 2^31.) -/
theorem c13_route {σ : Type} (st : Srv σ) (g : Gw) (u : Str) (l : Str)
    (hnd : NodupKeys st.leaders) (hrange : ∀ p ∈ st.leaders, 0 ≤ p.1 ∧ p.1 < 2147483648)
    (hl : st.leaders.get (shardOf st u) = some l) (hne : l ≠ []) :
    clientFor (gwSync (serverInfo st) g) u = .ok l := by
  have : (gwSync (serverInfo st) g).leaderEndpoints.get (shardOf st u) = some l := by
    unfold gwSync
    rw [serverInfo_endpoints st hrange]
    exact gwSync_get st.leaders g.leaderEndpoints _ l hnd hl hne
  exact (clientFor_ok_iff _ u l).2 ⟨_, c13_sides_agree st g u, this⟩

/-- `ClientFor` never answers a server other than the recorded leader of the shard `ShardIDFor` computes -/
theorem c13_clientFor_consistent (g : Gw) (u : Str) (server : Str) (h : clientFor g u = .ok server) :
    ∃ s, shardIDFor g u = .ok s ∧ g.leaderEndpoints.get s = some server :=
  (clientFor_ok_iff g u server).1 h

/-! ### the gateway's callers: requests arrive at the leader the gateway has learnt -/

/-- the allocate loop and the count path resolve the client with `ClientFor` for every single request and keep no
    client between requests (`requestDest`) -/
theorem gen_callers :
    KG.Gen.C13.reconcileClient = "UpdateStatus on client <- every call: client, err := r.clientSets.ClientFor(r.cluster)" ∧
    KG.Gen.C13.acquireClient = "Acquire on client <- every call: client, err := g.clientSets.ClientFor(g.cluster)" ∧
    KG.Gen.C13.callersKeepingAClient = [] := ⟨rfl, rfl, rfl⟩

/-- **Every request after a sync goes to the new leader.** Whatever the gateway did before (any earlier syncs, with
    any shard counts and leaders, any earlier requests): once it has synced from limiter server `st`, EVERY later
    request (allocate report or acquire) for upstream `u`, until the next sync, is addressed to the server `st`
    records as leader of `u`'s shard. -/
theorem c13_requests_follow_sync {σ : Type} (st : Srv σ) (g : Gw) (pre : List GOp) (us : List Str) (u l : Str)
    (hnd : NodupKeys st.leaders) (hrange : ∀ p ∈ st.leaders, 0 ≤ p.1 ∧ p.1 < 2147483648)
    (hl : st.leaders.get (shardOf st u) = some l) (hne : l ≠ []) (hu : u ∈ us) :
    (u, GwRes.ok l) ∈ (gwRun g (pre ++ GOp.sync (serverInfo st) :: us.map GOp.request)).2 := by
  rw [gwRun_append]
  simp only [gwRun, gwStep, gwRun_requests]
  apply List.mem_append_right
  simp only [List.mem_map]
  exact ⟨u, hu, by rw [requestDest, c13_route st _ u l hnd hrange hl hne]⟩

/-- … and to no other: the destinations of those requests are exactly `clientFor` of the synced state -/
theorem c13_requests_only_leader {σ : Type} (st : Srv σ) (g : Gw) (us : List Str) :
    (gwRun g (GOp.sync (serverInfo st) :: us.map GOp.request)).2 =
      us.map fun u => (u, clientFor (gwSync (serverInfo st) g) u) := by
  simp only [gwRun, gwStep, gwRun_requests, requestDest]

/-! ## 2. The leader guard -/

variable {σ ρ : Type}

/-- **Guard, allocate.** `UpdateRateLimitConditionStatus` for upstream `u` on a server that is not the known
    leader of `u`'s shard: the state is untouched and the answer is the error naming shard and leader. -/
theorem c13_guard_update (ops : StoreOps σ ρ) (st : Srv σ) (u inst : Str) (hme : st.me ≠ [])
    (h : st.leaders.get (shardOf st u) ≠ some st.me) :
    updateStatus ops st u inst = (st, .refused (shardOf st u) ((st.leaders.get (shardOf st u)).getD [])) :=
  step_refuses ops st (.allocate u inst) rfl (not_isLeader st _ hme h)

/-- **Guard, acquire.** `DoAcquire` likewise. -/
theorem c13_guard_acquire (ops : StoreOps σ ρ) (st : Srv σ) (u inst : Str) (t : Int) (hme : st.me ≠ [])
    (h : st.leaders.get (shardOf st u) ≠ some st.me) :
    doAcquire ops st u inst t = (st, .refused (shardOf st u) ((st.leaders.get (shardOf st u)).getD [])) :=
  step_refuses ops st (.acquire u inst t) rfl (not_isLeader st _ hme h)

/-- **Guard, cluster update.** `UpstreamConditionHandler` returns nil and changes nothing. -/
theorem c13_guard_handler (ops : StoreOps σ ρ) (st : Srv σ) (u : Str) (hme : st.me ≠ [])
    (h : st.leaders.get (shardOf st u) ≠ some st.me) :
    upstreamHandler ops st u = (st, .skipped (shardOf st u) ((st.leaders.get (shardOf st u)).getD [])) :=
  step_refuses ops st (.clusterUpdate u) rfl (not_isLeader st _ hme h)

/-- **Guard, condition deletion.** `deleteCondition` (on whichever store it was handed) changes nothing. -/
theorem c13_guard_delete (ops : StoreOps σ ρ) (st : Srv σ) (k : Int) (u name inst : Str) (hme : st.me ≠ [])
    (h : st.leaders.get (shardOf st u) ≠ some st.me) :
    (deleteCondition ops st k u name inst).1 = st :=
  congrArg Prod.fst (step_refuses ops st (.deleteCond k u name inst) rfl (not_isLeader st _ hme h))

/-- **Guard, all four entry points.** -/
theorem c13_guard (ops : StoreOps σ ρ) (st : Srv σ) (e : Op) (u : Str) (hu : Op.upstream e = some u)
    (hme : st.me ≠ []) (h : st.leaders.get (shardOf st u) ≠ some st.me) :
    (step ops st e).1 = st ∧
    (step ops st e).2 = (match e with
      | .allocate _ _ | .acquire _ _ _ => .refused (shardOf st u) ((st.leaders.get (shardOf st u)).getD [])
      | .clusterUpdate _ => .skipped (shardOf st u) ((st.leaders.get (shardOf st u)).getD [])
      | _ => (step ops st e).2) := by
  rw [step_refuses ops st e hu (not_isLeader st _ hme h)]
  cases e <;> exact ⟨rfl, rfl⟩

/-- **Only the leader serves.** If an entry point answered from the store, or changed anything, then this server
    is the known leader of the upstream's shard. -/
theorem c13_serves_only_as_leader (ops : StoreOps σ ρ) (st : Srv σ) (e : Op) (u : Str)
    (hu : Op.upstream e = some u) (hme : st.me ≠ [])
    (h : (∃ r, (step ops st e).2 = .served r) ∨ (step ops st e).2 = .deleted ∨ (step ops st e).1 ≠ st) :
    st.leaders.get (shardOf st u) = some st.me := by
  apply Classical.byContradiction
  intro hn
  -- the refusal is none of the three
  rw [step_refuses ops st e hu (not_isLeader st _ hme hn)] at h
  cases e with
  | deleteCond k _ _ _ => dsimp only at h; split at h <;> simp at h
  | _ => simp at h

/-- Without any assumption on the identity: the guard in terms of `IsLeader` itself. -/
theorem c13_guard_isLeader (ops : StoreOps σ ρ) (st : Srv σ) (e : Op) (u : Str) (hu : Op.upstream e = some u)
    (h : isLeader st (shardOf st u) = false) : (step ops st e).1 = st :=
  congrArg Prod.fst (step_refuses ops st e hu h)

/-- the guard does not refuse the leader: with leadership and a store, the store serves the call -/
theorem c13_leader_serves_update (ops : StoreOps σ ρ) (st : Srv σ) (u inst : Str) (store : σ)
    (hl : isLeader st (shardOf st u) = true) (hs : st.stores.get (shardOf st u) = some store) :
    updateStatus ops st u inst =
      ({ st with stores := AList.set st.stores (shardOf st u) (ops.update u inst store).1 }, .served (ops.update u inst store).2) :=
  guarded_serves (updateStatus_eq ops st u inst) hl hs

theorem c13_leader_serves_acquire (ops : StoreOps σ ρ) (st : Srv σ) (u inst : Str) (t : Int) (store : σ)
    (hl : isLeader st (shardOf st u) = true) (hs : st.stores.get (shardOf st u) = some store) :
    doAcquire ops st u inst t =
      ({ st with stores := AList.set st.stores (shardOf st u) (ops.acquire u inst t store).1 }, .served (ops.acquire u inst t store).2) :=
  guarded_serves (doAcquire_eq ops st u inst t) hl hs

/-! ## 3. Discarding state -/

/-- after `OnStoppedLeading(s)` there is no store for shard s (whatever the elector recorded) -/
theorem c13_discard_lose (ops : StoreOps σ ρ) (st : Srv σ) (s : Int) :
    (step ops st (.lose s)).1.stores.get s = none :=
  (congrArg (·.stores.get s) (electorStop_eq st s)).trans (AL.get_del_self _ s)

/-- `rateLimiter.stopLeading(s)` drops the store of s and nothing else -/
theorem c13_stopLeading (st : Srv σ) (s k : Int) :
    (stopLeading st s).stores.get k = if k = s then none else st.stores.get k := stopLeading_get st s k

/-- after a leader check every remaining store is for a shard whose known leader is me; the elector's
    knowledge is not touched -/
theorem c13_discard_check (ops : StoreOps σ ρ) (st : Srv σ) (s : Int)
    (h : (leaderCheck ops st).stores.get s ≠ none) :
    st.leaders.get s = some st.me ∧ (leaderCheck ops st).leaders = st.leaders :=
  ⟨leaderCheck_has ops st s h, (leaderCheck_frame ops st).leaders⟩

/-- a shard whose leader became someone else loses its store at the next leader check, even if
    `OnStoppedLeading` was never delivered -/
theorem c13_discard_after_new_leader (ops : StoreOps σ ρ) (st : Srv σ) (s : Int) (id : Str) (hid : id ≠ st.me) :
    (leaderCheck ops (setLeader st s id)).stores.get s = none :=
  Classical.byContradiction fun h =>
    hid (Option.some.inj ((AL.get_set_eq st.leaders s id).symm.trans (leaderCheck_has ops (setLeader st s id) s h)))

/-- **A regained shard starts from scratch.** The store `startLeading s` creates depends on the identity, the
    shard count, the elector's knowledge and the lister — not on anything any store of another shard holds:
    two servers that agree on those and on shard `s` (`Agree`) have the same store for `s` afterwards. -/
theorem c13_fresh_store (ops : StoreOps σ ρ) (s : Int) (st st' : Srv σ) (h : Agree s st st') :
    (startLeading ops st' s).stores.get s = (startLeading ops st s).stores.get s :=
  (startLeading_agree ops h).store

/-- **Losing a shard forgets it.** Take two servers with the same configuration, elector knowledge and lister but
    arbitrary, different store contents (two different pasts). After `OnStoppedLeading(s)` and a later
    `OnStartedLeading(s)` their stores for `s` are identical: nothing of the old in-memory state survives. -/
theorem c13_regain_forgets (ops : StoreOps σ ρ) (s : Int) (st st' : Srv σ)
    (hme : st'.me = st.me) (hn : st'.n = st.n) (hl : st'.leaders = st.leaders) (hli : st'.lister = st.lister) :
    (run ops st' [.lose s, .gain s]).stores.get s = (run ops st [.lose s, .gain s]).stores.get s := by
  simp only [run_cons, run_nil, step]
  exact (electorStart_agree ops (electorStop_agree ⟨hme, hn, hl, hli⟩ s)).store

/-! ## 4. Histories -/

/-- **The elector knows what it was told.** After every history from `NewRateLimiter`, the recorded leader of
    every shard is the one the leader-election callbacks announced (`leaderAfter`). -/
theorem c13_hist_leaders (ops : StoreOps σ ρ) (me : Str) (n : Int) (hn : toU32 n ≠ 0) (lister : List Str)
    (h : List Op) (s : Int) :
    (run ops (init me n hn lister) h).leaders.get s = leaderAfter me h s :=
  (tracks_run ops (tracks_init me n hn lister) h).leaders s

/-- **The judge holds on every step of every history.** For every store implementation, identity (non-empty),
    valid shard count, lister content and history `pre`, the next step `e` satisfies `JudgeStep` — with
    "unchanged" read as "the whole server state is unchanged", stronger than what the harness can observe. -/
theorem c13_history_judge (ops : StoreOps σ ρ) (me : Str) (hme : me ≠ []) (n : Int) (hn : toU32 n ≠ 0)
    (lister : List Str) (pre : List Op) (e : Op) :
    let st0 : Srv σ := init me n hn lister
    let st := run ops st0 pre
    JudgeStep me (shardOf st0) pre e (obsOf (step ops st e).2) ((step ops st e).1 = st)
      (AList.keys (step ops st e).1.stores) := by
  intro st0 st
  have t : Tracks me n pre st := tracks_run ops (tracks_init me n hn lister) pre
  exact shardOf_congr (st := st0) t.n_eq ▸ tracks_judge ops t hme e

/-- **A store exists only while the shard is held.** After every history, a store for shard s exists only if,
    since the server last took s (a `gain s` callback, or a leader check that found it leader), it was never told
    it lost s and every leader check found it leader (`heldSince`). -/
theorem c13_hist_store_held (ops : StoreOps σ ρ) (me : Str) (n : Int) (hn : toU32 n ≠ 0) (lister : List Str)
    (h : List Op) (s : Int) (hs : (run ops (init me n hn lister) h).stores.get s ≠ none) :
    heldSince me h s = true :=
  (tracks_run ops (tracks_init me n hn lister) h).held s hs

/-! ### routing over histories -/

/-- **Routing, over histories.** After any history of a limiter server whose leader-election callbacks concern
    shards in [0, 2^31) (they concern 0 … N-1), a gateway that syncs from it addresses upstream `u` to the leader
    the server knows for `u`'s shard. -/
theorem c13_route_hist (ops : StoreOps σ ρ) (me : Str) (n : Int) (hn : toU32 n ≠ 0) (lister : List Str)
    (h : List Op) (he : ∀ e ∈ h, ∀ s, Op.callbackShard e = some s → 0 ≤ s ∧ s < 2147483648)
    (g : Gw) (u l : Str) (hl : leaderAfter me h (shardOf (init (σ := σ) me n hn lister) u) = some l) (hne : l ≠ []) :
    clientFor (gwSync (serverInfo (run ops (init me n hn lister) h)) g) u = .ok l := by
  have t := tracks_run ops (tracks_init (σ := σ) me n hn lister) h
  have hw := run_wf ops (init me n hn lister) _ h he ⟨List.nodup_nil, fun _ hp => nomatch hp⟩
  apply c13_route _ g u l hw.1 hw.2 _ hne
  rw [shardOf_congr (st := init me n hn lister) t.n_eq, t.leaders]
  exact hl

/-! ## 5. The k8s store's shard tests -/

/-- `objectStore.Save` refuses a condition of another shard and leaves the local store alone -/
theorem c13_store_save_refuses {κ : Type} (shard n s : Int) (save : κ → κ) (u : Str) (loc : κ)
    (hs : getShardID u n = .ok s) (hne : s ≠ shard) : k8sSave shard n save u loc = .ok none := by
  unfold k8sSave; rw [hs]; simp [hne]

/-- … and saves a condition of its own shard -/
theorem c13_store_save_own {κ : Type} (shard n : Int) (save : κ → κ) (u : Str) (loc : κ)
    (hs : getShardID u n = .ok shard) : k8sSave shard n save u loc = .ok (some (save loc)) := by
  unfold k8sSave; rw [hs]; simp

/-- `objectStore.Load` keeps exactly the listed items of its own shard, in order -/
theorem c13_store_load (shard n : Int) (hn : toU32 n ≠ 0) (items : List Str) :
    k8sLoad shard n items = .ok (items.filter (inShard shard n)) := by
  induction items with
  | nil => rfl
  | cons u rest ih =>
    obtain ⟨r, hr⟩ : ∃ r, getShardID u n = .ok r := ⟨_, getShardID_ok u hn⟩
    unfold k8sLoad
    rw [ih, hr]
    rw [List.filter_cons, inShard, hr]
    by_cases e : r = shard <;> simp [e]

/-! ## 6. Stopping a store: once `stopLeading` has returned, the store is gone and no flusher of the shard is left -/

/-- the shape of `rateLimiter.stopLeading`, `stopLimitStoreWithRetry`, `objectStore.Stop` and of the flusher the
    model of this section mirrors -/
theorem gen_stop :
    KG.Gen.C13.stopLeadingBody = "{ r.limitStoreLock.Lock() limitStore, ok := r.limitStoreMap[shardId] if !ok { klog.Errorf(\"Load limit store for shard %v not found\", shardId) } delete(r.limitStoreMap, shardId) r.limitStoreLock.Unlock() if limitStore != nil { stopLimitStoreWithRetry(limitStore, shardId) } }" ∧
    KG.Gen.C13.stopWithRetryBody = "{ for i := 0; i < 10; i++ { err := limitStore.Stop() if err == nil { break } klog.Errorf(\"Stop and flush limit store for shard %v error: %v, retry after %v\", shardId, err, stopLimitStoreRetryInterval) time.Sleep(stopLimitStoreRetryInterval) } }" ∧
    KG.Gen.C13.k8sStopOrder = "close stopCh; final flush; stopped = true" ∧ KG.Gen.C13.k8sFlusherEndsOnStopCh = true :=
  ⟨rfl, rfl, rfl, rfl⟩

/-- **Stopping stops the flusher — always.** Whatever the API does during the 10 attempts of the retry loop,
    also when every attempt fails and the loop gives up: afterwards the store's flusher goroutine is not running
    (`stopCh` is closed by the first `Stop()`), for every store satisfying the store's invariant (`stopped` is set
    only after `stopCh` was closed). -/
theorem c13_stop_stops_flusher (api : List Bool) (k : KStore) (h : k.WF) :
    (stopWithRetry 10 api k).1.flusherRunning = false := by
  unfold KStore.flusherRunning
  rw [stopWithRetry_closed 9 api k h]
  simp

/-- the invariant holds for a new store and is kept by `Stop()` and the retry loop -/
theorem c13_store_invariant (p : Bool) (api : List Bool) (k : KStore) (h : k.WF) :
    (newKStore p).WF ∧ (stopWithRetry 10 api k).1.WF := ⟨newKStore_wf p, stopWithRetry_inv KStore.WF kstop_wf 10 api k h⟩

/-- the retry loop succeeds (the last state is persisted) as soon as the API accepts writes during one of its
    10 attempts -/
theorem c13_stop_retry_succeeds (api : List Bool) (k : KStore) (i : Nat) (hi : i < 10)
    (hapi : api.getD i true = true) : (stopWithRetry 10 api k).2.1 = true :=
  stopWithRetry_succeeds 10 api k i hi hapi

/-- **Once `stopLeading` has returned** — after a successful `Stop()` or after giving up — **the shard's store is
    gone and no flusher of the shard is left**; during the retries the store is already out of `limitStoreMap`:
    what is held is the detached store object, without a flusher from the first attempt on. -/
theorem c13_stopLeading_done (api : List Bool) (st : Srv KStore) (s : Int)
    (hwf : ∀ k, st.stores.get s = some k → k.WF) :
    (stopLeadingK api st s).1.stores.get s = none ∧
    ∀ k ok, (stopLeadingK api st s).2 = some (k, ok) → k.flusherRunning = false := by
  refine ⟨AL.get_del_self _ s, fun k ok hk => ?_⟩
  unfold stopLeadingK at hk
  cases hg : st.stores.get s with
  | none => rw [hg] at hk; cases hk
  | some k0 =>
    rw [hg] at hk
    cases hk
    exact c13_stop_stops_flusher api k0 (hwf k0 hg)

example : stopWithRetry 10 [false, true] ⟨true, false, false, 3⟩ = (⟨true, true, true, 3⟩, true, 2) := by decide
-- the witness of finding C13-stop-gives-up (repaired in /repo by 5e7ee81): all 10 attempts fail, the loop gives up - no flusher is left
example : stopWithRetry 10 (List.replicate 10 false) ⟨true, false, false, 1⟩ = (⟨true, true, false, 1⟩, false, 10) := by decide

/-! ## 7. Overlapping starts and stops of one shard: never an orphaned store

While a `startLeading` hangs in its `Load()`, the shard may be lost and gained again; the hanging start may then
fail. For EVERY interleaving of `begin` / `finishOk` / `finishFail` / `lose` / `check` (`Overlap.OOp`): -/

open KG.Lemmas.ShardOverlap in
/-- a store whose flusher is running is the store in `limitStoreMap` — no store is ever dropped from the map
    without being stopped -/
theorem c13_overlap_no_orphan (ops : List Overlap.OOp) (i : Nat) (h : Overlap.running (Overlap.run ops) i) :
    (Overlap.run ops).map = some i := run_inv ops i h

/-- at most ONE store of the shard has a running flusher at any time -/
theorem c13_overlap_one_store (ops : List Overlap.OOp) (i j : Nat)
    (hi : Overlap.running (Overlap.run ops) i) (hj : Overlap.running (Overlap.run ops) j) : i = j := by
  have a := c13_overlap_no_orphan ops i hi
  have b := c13_overlap_no_orphan ops j hj
  rw [a] at b
  exact Option.some.inj b

open KG.Lemmas.ShardOverlap in
/-- after a loss of the shard — whatever hung, failed or overlapped before, whatever still hangs — the shard has
    no store and no flusher of the shard is running -/
theorem c13_overlap_after_loss (ops : List Overlap.OOp) :
    (Overlap.run (ops ++ [.lose])).map = none ∧ ∀ i, ¬ Overlap.running (Overlap.run (ops ++ [.lose])) i := by
  have hm : (Overlap.run (ops ++ [.lose])).map = none := by
    rw [run_snoc]; exact dropStore_map _
  refine ⟨hm, fun i hi => ?_⟩
  have := c13_overlap_no_orphan _ i hi
  rw [hm] at this; cases this

-- the schedule of seeded change round-3/m1: start 0 hangs, lose, start 1, its Load returns, start 0's Load fails:
-- store 1 stays in the map (the unconditional delete would drop it unstopped); the final loss stops it
example : Overlap.run [.begin, .lose, .begin, .finishOk 1, .finishFail 0] = ⟨true, some 1, [true, false], []⟩ := by decide
example : Overlap.run [.begin, .lose, .begin, .finishOk 1, .finishFail 0, .lose] = ⟨false, none, [true, true], []⟩ := by decide

/-! ## 8. Non-vacuity: concrete values and a concrete server on which the hypotheses above hold -/

example : getShardID [97] 8 = .ok 4 := by rfl                          -- "a", 8 shards
example : fnv32a [102, 111, 111] = 0xa9f37ed7 := by decide            -- the published FNV-1a-32 of "foo"
example : getShardID [] 7 = .ok (2166136261 % 7) := by rfl             -- the empty name
example : ∃ e, getShardID [97] 4294967296 = .error e := ⟨_, rfl⟩       -- N = 2^32 panics
example : getShardID [97] 4294967299 = .ok 1 := by rfl                 -- N = 2^32 + 3: in [0, N), but mod 3

/-- a store that counts the calls it served -/
def exOps : StoreOps Nat Nat where
  newStore := fun _ _ => some 0
  load := fun s => (s, true)
  syncUpstream := fun _ s => (s + 1, none)
  deleteUpstream := fun _ s => (s, none)
  update := fun _ _ s => (s + 1, s)
  acquire := fun _ _ _ s => (s + 1, s)
  deleteCond := fun _ _ s => s + 1
def exMe : Str := [109, 101]
def exInit : Srv Nat := init exMe 4 (by decide) [[97]]
example : exMe ≠ [] := by decide
example : shardOf exInit [97] = 0 := by decide
-- leader of shard 0: served (the hypothesis of `c13_serves_only_as_leader` is satisfiable)
example : (step exOps (run exOps exInit [.gain 0]) (.allocate [97] [105])).2 = .served 1 := by decide
-- somebody else became leader: refused naming them (the hypothesis of `c13_guard` is satisfiable)
example : (run exOps exInit [.gain 0, .newLeader 0 [111]]).leaders.get 0 ≠ some exMe := by decide
example : (step exOps (run exOps exInit [.gain 0, .newLeader 0 [111]]) (.allocate [97] [105])).2 = .refused 0 [111] := by decide
-- the window: the stale store is still there until the leader check (`heldSince` holds), then it is gone
example : (run exOps exInit [.gain 0, .newLeader 0 [111]]).stores.get 0 = some 1 := by decide
example : heldSince exMe [.gain 0, .newLeader 0 [111]] 0 = true := by decide
example : (run exOps exInit [.gain 0, .newLeader 0 [111], .leaderCheck]).stores.get 0 = none := by decide
example : heldSince exMe [.gain 0, .newLeader 0 [111], .leaderCheck] 0 = false := by decide
-- lose, then gain again: a fresh store (1 = only the re-sync of the listed upstream), not the old one (3)
example : (run exOps exInit [.gain 0, .allocate [97] [105], .acquire [97] [105] 2]).stores.get 0 = some 3 := by decide
example : (run exOps exInit [.gain 0, .allocate [97] [105], .acquire [97] [105] 2, .lose 0, .gain 0]).stores.get 0 = some 1 := by decide

end KG.Props.C13
