import KG.Lemmas.Lifecycle
import KG.Gen.C15
/-!
# C15 — Removal: deleted clusters / endpoints get no traffic, in-flight requests are cut, probing stops

All theorems are about `KG.Model.Lifecycle` (the mirror of manager.go, clusterinfo.go, endpoint.go,
upstream_controller.go and the request path upstreaminfo.go → dispatcher.go) and quantify over **every history**
(`run ops init`, any list of `apply` / `delete` / `reqStart` / `reqPick` / `reqFinish` / `health` operations, i.e. every
position of a removal relative to the steps of every request) or over every state satisfying the invariant `Inv`
that every reachable state satisfies (`c15_invariant`).

A context is done (`done cancels chain = true`) iff a scope of its chain was cancelled; the chains are
`[ep e, cl o]` for an endpoint, `[hc e g, ep e, cl o]` for its g-th health-check loop, `[rq r, ep e, cl o]` for
a request proxied to it.

What is *not* in here (run-time residue, exhibited by the harness at scripted timings): that Go's `context`
propagates a cancellation promptly, that `net/http` tears the upstream exchange down and ends the client's stream
when the proxied request's context ends, that the goroutines exit.
-/
namespace KG.Props.C15
open KG KG.Model.Lifecycle KG.Spec.Lifecycle KG.Lemmas.Lifecycle

/-! ## the source still has the shape the model builds in -/

/-- The shape facts the model builds in, regenerated from /repo on every run (tools/extract/c15 → `KG.Gen.C15`): cluster
    deletion goes through the stopping delete (`DeleteForServerNames` → `DeleteWithStop` → `doDelete(name, true)` → `Stop` →
    `cancel`), and its loop **skips** a server name that does not resolve to the cluster and goes on to the next one
    (`delStep` returns the state unchanged and the fold continues — a loop that stopped there would leave the names behind a
    repeated entry registered), as do the two loops of `AddOrUpdateForServerNames`; alias removal goes through the plain
    delete; endpoint contexts derive from the cluster's; removed endpoints leave the map and are cancelled; health-check
    loops run under (and watch) a context derived from the `ctx` argument of `EnsureGatewayHealthCheck`, and **both** of its
    call sites (new endpoint; known endpoint being disabled / re-enabled) hand over the endpoint's own context; `PickOne` —
    the pick behind `ClientFor`, i.e. behind the TokenReview / SubjectAccessReview webhook calls — is nothing but `Pop()`
    over `AllEndpoints()` (so `pickable` / `c15_endpoint_removed` / `c15_endpoint_forever` speak about the authentication /
    authorization traffic as well as about proxied requests); the dispatcher's goroutine cancels the proxied request when
    the endpoint's context ends. If a fact changes, this obligation fails. -/
theorem c15_source_shape :
    Gen.C15.deleteForServerNamesStops = true ∧ Gen.C15.deleteLoopVisitsEveryName = true ∧
    Gen.C15.updateLoopsVisitEveryName = true ∧ Gen.C15.aliasDropStops = false ∧
    Gen.C15.endpointCtxChildOfCluster = true ∧ Gen.C15.pickOneIsPlainPop = true ∧
    Gen.C15.removedEndpointLeavesMap = true ∧
    Gen.C15.removedEndpointCancelled = true ∧ Gen.C15.healthCheckCtxChildOfEndpoint = true ∧
    Gen.C15.hcCtxAtCreateIsEndpoint = true ∧ Gen.C15.hcCtxAtUpdateIsEndpoint = true ∧
    Gen.C15.dispatcherWatchesEndpoint = true := by decide

/-! ## every reachable state -/

theorem c15_invariant (ops : List Op) : Inv (run ops init) := run_inv ops init init_inv

/-- **The judge holds on every reachable state**: a cluster no name resolves to is stopped; an endpoint that left
    the endpoint map, or whose cluster is stopped, is cancelled; a cancelled endpoint is not probed; no proxied
    request is alive on a cancelled endpoint. -/
theorem judge_of_inv (st : State) (hI : Inv st) (rids : List Nat) : judge (observe st rids) = true := by
  unfold judge
  rw [Bool.and_eq_true, Bool.and_eq_true, List.all_eq_true, List.all_eq_true, List.all_eq_true]
  refine ⟨⟨?_, ?_⟩, ?_⟩
  · intro c hc
    obtain ⟨cl, hh, hres, hdone⟩ := mem_obsClusters hc
    unfold clusterOk
    rw [hres, hdone]
    rcases hI.n.no_leak c.o cl hh with h | h
    · simp [h]
    · simp [done_of_mem h (ch := clChain c.o) (by simp [clChain])]
  · intro e he
    obtain ⟨e0, he0, rfl⟩ := List.mem_map.1 he
    unfold epOk obsEp
    simp only [Bool.and_eq_true, Bool.or_eq_true, List.all_eq_true, Bool.not_eq_true']
    refine ⟨⟨?_, ?_⟩, ?_⟩
    · cases hi : e0.inMap with
      | true => exact Or.inl rfl
      | false => exact Or.inr (hI.removed_done he0 (Or.inr hi))
    · cases hd : done st.cancels e0.chain with
      | false => exact Or.inl rfl
      | true => exact Or.inr ((hI.e.ok he0).below_live hd)
    · intro c hc
      obtain ⟨cl, _, _, hdone⟩ := mem_obsClusters hc
      rw [hdone]
      by_cases hoo : c.o = e0.owner
      · cases hd : done st.cancels (clChain c.o) with
        | false => simp
        | true =>
          obtain ⟨s, hs, hcs⟩ := (done_iff _ _).1 hd
          cases List.mem_singleton.1 hs
          simp [done_of_mem hcs (ch := e0.chain) (by simp [Ep.chain_eq, hoo])]
      · simp [hoo]
  · intro q hq
    obtain ⟨r, _, hqr⟩ := List.mem_flatMap.1 hq
    unfold obsReq at hqr
    split at hqr
    · rename_i eid o hr
      simp only [List.mem_singleton] at hqr
      subst hqr
      unfold reqOk
      simp only [Bool.or_eq_true, Bool.not_eq_true', Bool.not_eq_false', List.all_eq_true]
      cases hd : reqDone st r eid o with
      | true => exact Or.inl rfl
      | false =>
        right
        intro e he
        obtain ⟨e0, he0, rfl⟩ := List.mem_map.1 he
        unfold obsEp
        simp only
        by_cases hid : e0.id = eid
        · obtain ⟨e1, he1, hid1, hown1⟩ := hI.r.req_ep r eid o (Or.inl hr)
          have : e0 = e1 := hI.e.eq_of_id he0 he1 (hid.trans hid1.symm)
          subst this
          -- were the endpoint's context done, the request's would be
          right
          cases hch : done st.cancels e0.chain with
          | false => rfl
          | true => exact nomatch ((hid ▸ hown1 ▸ done_reqChain hch r).symm.trans hd)
        · left; simp [hid]
    · cases hqr

theorem c15_judge (ops : List Op) (rids : List Nat) : judge (observe (run ops init) rids) = true :=
  judge_of_inv _ (c15_invariant ops) rids

/-- cancelled stays cancelled, whatever happens next -/
theorem c15_done_forever (st : State) (hI : Inv st) (ops : List Op) (ch : Chain) (h : done st.cancels ch = true) :
    done (run ops st).cancels ch = true :=
  done_mono (run_later ops st hI).sub h

/-! ## deleting a cluster -/

section cluster
variable (st : State) (hI : Inv st) (name : Str) (o : Nat) (c : Cluster)
  (ho : st.names (lower name) = some o) (hc : st.heap o = some c) (hcn : c.name = lower name)
include hI ho hc hcn

/-- after the delete, no name resolves to the cluster … -/
theorem c15_cluster_unresolvable : ∀ k, (deleteSpec st name).names k ≠ some o :=
  fun k hk => (((deleteSpec_existing st name hI.n ho hc hcn).1 k o).1 hk).2 rfl

/-- … so a request for any host that reached it before is answered 503 by `WithUpstreamInfo` -/
theorem c15_cluster_503 (r : Nat) (host : Str) (hfresh : (deleteSpec st name).reqs r = none)
    (hwas : get st host = some o) :
    (reqStart (deleteSpec st name) r host).reqs r = some Phase.rejected := by
  have : get (deleteSpec st name) host = none := by
    unfold Model.Lifecycle.get at hwas ⊢
    cases hk : (deleteSpec st name).names (lower host) with
    | none => rfl
    | some o2 =>
      obtain ⟨h1, h2⟩ := ((deleteSpec_existing st name hI.n ho hc hcn).1 _ o2).1 hk
      exact absurd (Option.some.inj (h1.symm.trans hwas)) h2
  unfold reqStart
  simp [hfresh, this, upd]

/-- the cluster's context is cancelled, hence every context below it: the endpoints', their health-check loops',
    the proxied requests' -/
theorem c15_cluster_cancelled :
    Sid.cl o ∈ (deleteSpec st name).cancels ∧
    (∀ ch : Chain, Sid.cl o ∈ ch → done (deleteSpec st name).cancels ch = true) ∧
    (∀ e, e ∈ (deleteSpec st name).eps → e.owner = o →
        done (deleteSpec st name).cancels e.chain = true ∧
        (∀ g, g < e.hcGen → done (deleteSpec st name).cancels (e.hcChain g) = true) ∧
        hcLive (deleteSpec st name).cancels e = false ∧
        (∀ r, reqDone (deleteSpec st name) r e.id o = true)) := by
  have h2 := ((deleteSpec_existing st name hI.n ho hc hcn).2 _).2 (Or.inr rfl)
  have hI' : Inv (deleteSpec st name) := deleteSpec_inv st name hI
  refine ⟨h2, fun _ hm => done_of_mem h2 hm, ?_⟩
  intro e he hown
  have hch : done (deleteSpec st name).cancels e.chain = true := done_of_mem h2 (by simp [Ep.chain_eq, hown])
  have ok := hI'.e.ok he
  exact ⟨hch, fun _ => ok.below_hc hch, ok.below_live hch, hown ▸ done_reqChain hch⟩

/-- frame: only that cluster's scope is cancelled; every context that is not below it keeps its status; endpoints,
    cluster objects and requests are untouched; the names of every other cluster resolve as before -/
theorem c15_cluster_frame :
    (∀ x, x ∈ (deleteSpec st name).cancels ↔ (x ∈ st.cancels ∨ x = Sid.cl o)) ∧
    (∀ ch : Chain, Sid.cl o ∉ ch → done (deleteSpec st name).cancels ch = done st.cancels ch) ∧
    (deleteSpec st name).eps = st.eps ∧ (deleteSpec st name).heap = st.heap ∧ (deleteSpec st name).reqs = st.reqs ∧
    (∀ k o2, o2 ≠ o → ((deleteSpec st name).names k = some o2 ↔ st.names k = some o2)) := by
  obtain ⟨hnm, hx⟩ := deleteSpec_existing st name hI.n ho hc hcn
  obtain ⟨_, R⟩ := deleteSpec_rel st name
  refine ⟨hx, ?_, R.eps_eq, R.heap_eq, R.reqs_eq, fun k o2 hne => (hnm k o2).trans ⟨And.left, fun h => ⟨h, hne⟩⟩⟩
  intro ch hm
  exact done_congr fun s hs => (hx s).trans ⟨fun h => h.resolve_right fun he => hm (he ▸ hs), Or.inl⟩

/-- the other clusters' endpoints, health checks and requests: exactly as before -/
theorem c15_cluster_frame_endpoints (e : Ep) (he : e ∈ st.eps) (hown : e.owner ≠ o) :
    done (deleteSpec st name).cancels e.chain = done st.cancels e.chain ∧
    (∀ g, g < e.hcGen → done (deleteSpec st name).cancels (e.hcChain g) = done st.cancels (e.hcChain g)) ∧
    hcLive (deleteSpec st name).cancels e = hcLive st.cancels e ∧
    (∀ r, reqDone (deleteSpec st name) r e.id e.owner = reqDone st r e.id e.owner) ∧
    (∀ o2, pickable (deleteSpec st name) o2 = pickable st o2) := by
  obtain ⟨_, hf, heps, _⟩ := c15_cluster_frame st hI name o c ho hc hcn
  have hne : Sid.cl o ≠ Sid.cl e.owner := fun h => hown (by cases h; rfl)
  have h1 := hf e.chain (by simp [Ep.chain_eq, hne])
  have h2 : ∀ g, g < e.hcGen → done (deleteSpec st name).cancels (e.hcChain g) = done st.cancels (e.hcChain g) :=
    fun g hg => hf _ (by rw [(hI.e.ok he).hcChain_eq hg]; simp [hne])
  exact ⟨h1, h2, (hI.e.ok he).hcLive_congr h2, fun r => hf _ (by simp [reqChain_eq, hne]), fun o2 => by unfold pickable; rw [heps]⟩

/-- and it stays that way: after any continuation no name resolves to the deleted cluster object and everything
    below it is done (a request that resolved the cluster *before* the delete and pops an endpoint only *after* it
    gets a proxied request whose context is already done) -/
theorem c15_cluster_forever (ops : List Op) :
    (∀ k, (run ops (deleteSpec st name)).names k ≠ some o) ∧
    (∀ ch : Chain, Sid.cl o ∈ ch → done (run ops (deleteSpec st name)).cancels ch = true) ∧
    (∀ r eid, reqDone (run ops (deleteSpec st name)) r eid o = true) := by
  have hI' : Inv (deleteSpec st name) := deleteSpec_inv st name hI
  have h3 : Sid.cl o ∈ (run ops (deleteSpec st name)).cancels :=
    (run_later ops _ hI').sub _ (c15_cluster_cancelled st hI name o c ho hc hcn).1
  refine ⟨?_, fun _ hm => done_of_mem h3 hm, fun r eid => done_of_mem h3 (by simp [reqChain_eq])⟩
  intro k hk
  obtain ⟨_, _, _, _, hncl⟩ := (run_inv ops _ hI').n.names_ok k o hk
  exact hncl h3

end cluster

/-! ## a sync that drops an endpoint -/

section endpoint
variable (st : State) (hI : Inv st) (sp : Spec) (o : Nat) (c : Cluster)
  (ho : st.names (lower sp.name) = some o) (hc : st.heap o = some c) (hcn : c.name = lower sp.name)
  (hconf : conflicts st (lower sp.name) c.serverNames (lower sp.name :: sp.aliases.map lower) = false)
include hI ho hc hcn hconf

/-- an endpoint of the cluster that the new server list does not name: it leaves the endpoint map, so the picker
    cannot return it; its context is cancelled, hence its health-check loops and every request proxied to it -/
theorem c15_endpoint_removed (e : Ep) (he : e ∈ st.eps) (hown : e.owner = o) (hin : e.inMap = true)
    (hdrop : e.url ∉ sp.servers.map (·.1)) :
    (∃ e', e' ∈ (applySpec st sp).eps ∧ e'.id = e.id ∧ e'.inMap = false) ∧
    (∀ o2 x, x ∈ pickable (applySpec st sp) o2 → x.id ≠ e.id) ∧
    Sid.ep e.id ∈ (applySpec st sp).cancels ∧
    done (applySpec st sp).cancels e.chain = true ∧
    (∀ g, g < e.hcGen → done (applySpec st sp).cancels (e.hcChain g) = true) ∧
    hcLive (applySpec st sp).cancels e = false ∧
    (∀ r, reqDone (applySpec st sp) r e.id e.owner = true) := by
  have heq := applySpec_update_eq st sp o c ho hc hcn hconf
  have hdr : isDropped o (sp.servers.map (·.1)) e = true := (isDropped_iff _ _ e).2 ⟨hown, hin, hdrop⟩
  obtain ⟨e', he', hid', hgone⟩ := syncEndpoints_dropped (syncState st sp o c) o sp.servers e he hdr
  have he'' : e' ∈ (applySpec st sp).eps := by rw [heq, aou_eq]; exact he'
  have hI' : Inv (applySpec st sp) := applySpec_inv st sp hI
  have hcan : Sid.ep e.id ∈ (applySpec st sp).cancels := by rw [← hid']; exact hI'.e.gone e' he'' hgone
  have hch : done (applySpec st sp).cancels e.chain = true := done_of_mem hcan (by simp [Ep.chain_eq])
  have ok := hI.e.ok he
  exact ⟨⟨e', he'', hid', hgone⟩, fun o2 x hx => hid' ▸ hI'.e.not_picked he'' hgone hx, hcan, hch, fun _ => ok.below_hc hch,
    ok.below_live hch, done_reqChain hch⟩

/-- forever: after any continuation (including a sync that names the same URL again, which creates a *new*
    endpoint object) the picker never returns the dropped endpoint object and everything below it stays done -/
theorem c15_endpoint_forever (e : Ep) (he : e ∈ st.eps) (hown : e.owner = o) (hin : e.inMap = true)
    (hdrop : e.url ∉ sp.servers.map (·.1)) (ops : List Op) :
    (∀ o2 x, x ∈ pickable (run ops (applySpec st sp)) o2 → x.id ≠ e.id) ∧
    (∀ ch : Chain, Sid.ep e.id ∈ ch → done (run ops (applySpec st sp)).cancels ch = true) := by
  obtain ⟨⟨e', he', hid', hgone⟩, _, hcan, _⟩ := c15_endpoint_removed st hI sp o c ho hc hcn hconf e he hown hin hdrop
  have hI' : Inv (applySpec st sp) := applySpec_inv st sp hI
  have hI'' : Inv (run ops (applySpec st sp)) := run_inv ops _ hI'
  obtain ⟨e2, he2, same⟩ := (run_later ops _ hI').fwd e' he'
  exact ⟨fun o2 x hx => (same.id.trans hid') ▸ hI''.e.not_picked he2 (same.gone hgone) hx,
    fun _ hm => done_of_mem ((run_later ops _ hI').sub _ hcan) hm⟩

end endpoint

/-! ## what a sync leaves alone -/

/-- no `syncUpstreamCluster` of an object that exists ever stops a cluster: aliases are removed with `Delete`,
    never `DeleteWithStop` -/
theorem c15_alias_safe (st : State) (hI : Inv st) (sp : Spec) (x : Nat) :
    Sid.cl x ∈ (applySpec st sp).cancels ↔ Sid.cl x ∈ st.cancels :=
  applySpec_other st sp hI.n _ (fun _ => Sid.noConfusion) (fun _ _ => Sid.noConfusion)

/-- **frame of any `syncUpstreamCluster`** (create, update, conflict): an endpoint that belongs to another cluster, or
    that the new server list still names, or that was removed earlier, keeps the status of its context; if moreover
    the new list does not disable it, its health-check loops keep theirs; a request proxied to it keeps its; no
    cluster context and no request context is ever cancelled by an update. -/
theorem c15_endpoint_frame (st : State) (hI : Inv st) (sp : Spec) (e : Ep) (he : e ∈ st.eps)
    (hkeep : st.names (lower sp.name) ≠ some e.owner ∨ e.url ∈ sp.servers.map (·.1) ∨ e.inMap = false) :
    (∀ x, Sid.cl x ∈ (applySpec st sp).cancels ↔ Sid.cl x ∈ st.cancels) ∧
    (∀ x, Sid.rq x ∈ (applySpec st sp).cancels ↔ Sid.rq x ∈ st.cancels) ∧
    (Sid.ep e.id ∈ (applySpec st sp).cancels ↔ Sid.ep e.id ∈ st.cancels) ∧
    done (applySpec st sp).cancels e.chain = done st.cancels e.chain ∧
    (∀ r, reqDone (applySpec st sp) r e.id e.owner = reqDone st r e.id e.owner) ∧
    ((st.names (lower sp.name) ≠ some e.owner ∨ disabledOf sp.servers e.url = false) →
      (∀ g, g < e.hcGen → done (applySpec st sp).cancels (e.hcChain g) = done st.cancels (e.hcChain g)) ∧
      hcLive (applySpec st sp).cancels e = hcLive st.cancels e) := by
  have hsub : ∀ s, s ∈ st.cancels → s ∈ (applySpec st sp).cancels := (step_inv_later st (.apply sp) hI).2.sub
  have hcl : ∀ x, Sid.cl x ∈ (applySpec st sp).cancels ↔ Sid.cl x ∈ st.cancels := c15_alias_safe st hI sp
  have hrq : ∀ x, Sid.rq x ∈ (applySpec st sp).cancels ↔ Sid.rq x ∈ st.cancels :=
    fun x => applySpec_other st sp hI.n _ (fun _ => Sid.noConfusion) (fun _ _ => Sid.noConfusion)
  obtain ⟨nep, nhc⟩ := applySpec_newc st hI sp he
  -- `hkeep` says that this sync does not drop `e`
  have hep : Sid.ep e.id ∈ (applySpec st sp).cancels ↔ Sid.ep e.id ∈ st.cancels := by
    refine ⟨fun h => (nep h).resolve_right fun ⟨hreg, hin, hnot⟩ => ?_, hsub _⟩
    rcases hkeep with h | h | h
    · exact h hreg
    · exact hnot h
    · exact nomatch hin.symm.trans h
  -- the contexts in question are the chains `[ep, cl]`, `rq :: [ep, cl]`, `hc :: [ep, cl]`: scope by scope
  have hkc : ∀ s, s ∈ e.chain → (s ∈ (applySpec st sp).cancels ↔ s ∈ st.cancels) :=
    List.forall_mem_cons.2 ⟨hep, List.forall_mem_cons.2 ⟨hcl _, fun _ h => nomatch h⟩⟩
  refine ⟨hcl, hrq, hep, done_congr hkc, fun r => done_congr (List.forall_mem_cons.2 ⟨hrq r, hkc⟩), fun hen => ?_⟩
  -- and `hen` that it does not disable it
  have hhc : ∀ g, (Sid.hc e.id g ∈ (applySpec st sp).cancels ↔ Sid.hc e.id g ∈ st.cancels) := by
    refine fun g => ⟨fun h => (nhc g h).resolve_right fun ⟨hreg, hdis⟩ => ?_, hsub _⟩
    rcases hen with h | h
    · exact h hreg
    · exact nomatch hdis.symm.trans h
  have hd : ∀ g, g < e.hcGen → done (applySpec st sp).cancels (e.hcChain g) = done st.cancels (e.hcChain g) := by
    intro g hg
    unfold Ep.hcChain
    rw [hI.e.hc_parent e he g hg]
    exact done_congr (List.forall_mem_cons.2 ⟨hhc g, hkc⟩)
  exact ⟨hd, (hI.e.ok he).hcLive_congr hd⟩

/-! ## removing an alias -/

section alias
variable (st : State) (hI : Inv st) (sp : Spec) (o : Nat) (c : Cluster)
  (ho : st.names (lower sp.name) = some o) (hc : st.heap o = some c) (hcn : c.name = lower sp.name)
  (hconf : conflicts st (lower sp.name) c.serverNames (lower sp.name :: sp.aliases.map lower) = false)
include hI ho hc hcn hconf

/-- an update that only changes the aliases (same servers, same flags) touches no scope at all: same cancelled set,
    same endpoint objects, same requests -/
theorem c15_alias_only_touches_no_scope (hsame : sameServers st o sp.servers) :
    (applySpec st sp).cancels = st.cancels ∧ (applySpec st sp).eps = st.eps ∧ (applySpec st sp).reqs = st.reqs := by
  have heq := applySpec_update_eq st sp o c ho hc hcn hconf
  rw [heq, aou_eq, syncEndpoints_noop (syncState st sp o c) o sp.servers hI.e.hc_sync hsame]
  exact ⟨rfl, rfl, rfl⟩

/-- the names the new object keeps still resolve to the cluster, the dropped alias resolves to nothing -/
theorem c15_alias_names (k : Str) (hk : st.names k = some o) :
    (k ∈ (lower sp.name :: sp.aliases.map lower) → (applySpec st sp).names k = some o) ∧
    (k ∉ (lower sp.name :: sp.aliases.map lower) → (applySpec st sp).names k = none) := by
  obtain ⟨cn, cal⟩ := c
  cases hcn
  have T := Target.registered hI.n (c := ⟨lower sp.name, cal⟩) ho hc
  rw [applySpec_update_eq st sp o _ ho hc rfl hconf]
  have key := aou_names (s0 := st) (c' := ⟨lower sp.name, sp.aliases.map lower⟩)
    (syncEndpoints_names (syncState st sp o ⟨lower sp.name, cal⟩) o sp.servers)
    (syncEndpoints_heap (syncState st sp o ⟨lower sp.name, cal⟩) o sp.servers) (lower_new_idem sp.name sp.aliases) T hconf k
  refine ⟨fun hin => (key o).2 (Or.inl ⟨hk, fun _ => hin⟩),
    fun hnin => Option.eq_none_iff_forall_ne_some.2 fun o2 hk' => ?_⟩
  rcases (key o2).1 hk' with ⟨h, hin⟩ | ⟨_, hin, _⟩
  · exact hnin (hin (Option.some.inj (h.symm.trans hk)))
  · exact hnin hin

end alias

/-! ## every request, every timing -/

theorem request_cut_of_inv (st : State) (hI : Inv st) (r eid o : Nat) (hr : st.reqs r = some (Phase.proxying eid o))
    (hrem : (∀ k, st.names k ≠ some o) ∨ (∃ e, e ∈ st.eps ∧ e.id = eid ∧ e.inMap = false)) :
    reqDone st r eid o = true := by
  rcases hrem with h | ⟨e, he, hid, hgone⟩
  · obtain ⟨e, he, rfl, rfl⟩ := hI.r.req_ep r eid o (Or.inl hr)
    exact done_reqChain (hI.removed_done he (Or.inl h)) r
  · exact done_of_mem (hid ▸ hI.e.gone e he hgone) (by simp [reqChain_eq])

/-- **Wherever the removal falls in a request's life**: in every reachable state, a request that has been handed
    an endpoint (it may have resolved its cluster, popped the endpoint, connected, or be streaming — before or after
    the removal) is not alive if no name resolves to its cluster any more or if its endpoint has left the endpoint
    map: its context is done. Together with `c15_cluster_503` / `c15_endpoint_removed` (never routed) this is
    "cancelled or never routed". -/
theorem c15_request_cut_or_never_routed (ops : List Op) (r eid o : Nat)
    (hr : (run ops init).reqs r = some (Phase.proxying eid o))
    (hrem : (∀ k, (run ops init).names k ≠ some o) ∨ (∃ e, e ∈ (run ops init).eps ∧ e.id = eid ∧ e.inMap = false)) :
    reqDone (run ops init) r eid o = true :=
  request_cut_of_inv _ (c15_invariant ops) r eid o hr hrem

/-- a request is only ever handed an endpoint that is in the endpoint map of the cluster it resolved, enabled and
    healthy at that moment (the picker never returns a removed endpoint) -/
theorem c15_pick_only_current (st : State) (r choice eid o : Nat)
    (hbefore : st.reqs r ≠ some (Phase.proxying eid o))
    (hafter : (reqPick st r choice).reqs r = some (Phase.proxying eid o)) :
    ∃ e, e ∈ st.eps ∧ e.id = eid ∧ e.owner = o ∧ e.inMap = true ∧ e.disabled = false ∧ e.healthy = true := by
  rcases reqPick_cases st r choice with h | ⟨o', _, h | ⟨e, he, h⟩⟩ <;> rw [h] at hafter
  · exact absurd hafter hbefore
  · cases (upd_same st.reqs r _).symm.trans hafter
  · cases (upd_same st.reqs r _).symm.trans hafter
    obtain ⟨a, b, c, d, f⟩ := mem_pickable he
    exact ⟨e, a, rfl, b, c, d, f⟩

/-- every health-check loop ever started for an endpoint — the one started when it was added and every one
    restarted by a disable → re-enable through the update path — runs under a context derived from the ENDPOINT's
    (the `ctx` each `EnsureGatewayHealthCheck` call site passes is recorded per loop in `hcParent`) -/
theorem c15_loops_under_endpoint (ops : List Op) (e : Ep) (he : e ∈ (run ops init).eps) (g : Nat) (hg : g < e.hcGen) :
    e.hcParent g = e.chain ∧ e.hcChain g = [Sid.hc e.id g, Sid.ep e.id, Sid.cl e.owner] :=
  ⟨(c15_invariant ops).e.hc_parent e he g hg, ((c15_invariant ops).e.ok he).hcChain_eq hg⟩

theorem probing_stops_of_inv (st : State) (hI : Inv st) (e : Ep) (he : e ∈ st.eps)
    (hrem : (∀ k, st.names k ≠ some e.owner) ∨ e.inMap = false ∨ e.disabled = true) :
    hcLive st.cancels e = false ∧ (∀ g, g < e.hcGen → done st.cancels (e.hcChain g) = true) ∧
    (∀ u ok, probeEp st.cancels u ok e = e) := by
  have ok := hI.e.ok he
  have hall : ∀ g, g < e.hcGen → done st.cancels (e.hcChain g) = true := by
    rcases or_assoc.2 hrem with h | h
    · exact fun _ => ok.below_hc (hI.removed_done he h)
    · -- disabled: no loop is on, so every loop ever started has been cancelled itself
      have hoff : e.hcOn = false := by rw [ok.sync, h]; rfl
      exact fun g hg => done_of_mem (ok.hc_off hoff g hg) List.mem_cons_self
  have hdead : hcLive st.cancels e = false := ok.hcLive_dead hall
  refine ⟨hdead, hall, fun u ok => ?_⟩
  unfold probeEp
  simp [hdead]

/-- **health probing stops**: in every reachable state, an endpoint whose cluster no name resolves to, or that left
    the endpoint map, or that is disabled, has no running health-check loop; **every loop ever started for it,
    restarted ones included, is cancelled**; and a probe round does not touch it -/
theorem c15_probing_stops (ops : List Op) (e : Ep) (he : e ∈ (run ops init).eps)
    (hrem : (∀ k, (run ops init).names k ≠ some e.owner) ∨ e.inMap = false ∨ e.disabled = true) :
    hcLive (run ops init).cancels e = false ∧
    (∀ g, g < e.hcGen → done (run ops init).cancels (e.hcChain g) = true) ∧
    (∀ u ok, probeEp (run ops init).cancels u ok e = e) :=
  probing_stops_of_inv _ (c15_invariant ops) e he hrem

/-! ## non-vacuity: a concrete history with a removal in the middle of traffic -/

-- names as explicit byte strings: "a", "b", "x", "X", "B", "u0", "u1"
def nA : Str := [97]
def nB : Str := [98]
def nx : Str := [120]
def nX : Str := [88]
def nBup : Str := [66]
def u0 : Str := [117, 48]
def u1 : Str := [117, 49]

/-- cluster `a` (alias `X`) on u0,u1 and cluster `b` on u1; probes succeed; request 1 streams on `a` via the alias,
    request 2 on `b`, request 3 has resolved `a` but not popped yet; then `a` is deleted; then request 3 pops;
    request 4 arrives for the alias. -/
def demoOps : List Op :=
  [ .apply { name := nA, aliases := [nX], servers := [(u0, false), (u1, false)] },
    .apply { name := nB, aliases := [], servers := [(u1, false)] },
    .health u0 true, .health u1 true,
    .reqStart 1 nx, .reqPick 1 0,
    .reqStart 2 nBup, .reqPick 2 0,
    .reqStart 3 nA,
    .delete nA,
    .reqPick 3 1,
    .reqStart 4 nx ]

example : (run demoOps init).reqs 1 = some (Phase.proxying 1 0) ∧ reqDone (run demoOps init) 1 1 0 = true ∧
          (run demoOps init).reqs 2 = some (Phase.proxying 4 3) ∧ reqDone (run demoOps init) 2 4 3 = false ∧
          (run demoOps init).reqs 3 = some (Phase.proxying 2 0) ∧ reqDone (run demoOps init) 3 2 0 = true ∧
          (run demoOps init).reqs 4 = some Phase.rejected ∧
          get (run demoOps init) nB = some 3 := by decide +kernel

/-- the hypotheses of the cluster theorems are satisfiable: before the delete, `a` resolves to object 0 named `a` -/
example : (run (demoOps.take 9) init).names (lower nA) = some 0 ∧
    ((run (demoOps.take 9) init).heap 0).map (·.name) = some (lower nA) ∧
    (pickable (run (demoOps.take 9) init) 0).map (·.id) = [1, 2] := by decide +kernel

/-- a sync of `a` that drops u0 -/
def demoDrop : Spec := { name := nA, aliases := [nX], servers := [(u1, false)] }

/-- the hypotheses of the endpoint theorems are satisfiable: `demoDrop` arrives while request 1 streams on u0 -/
example : (((run (demoOps.take 9) init).heap 0).map fun c =>
      conflicts (run (demoOps.take 9) init) (lower demoDrop.name) c.serverNames (lower demoDrop.name :: demoDrop.aliases.map lower))
      = some false ∧
    ((run (demoOps.take 9) init).eps.filter (isDropped 0 (demoDrop.servers.map (·.1)))).map (·.id) = [1] ∧
    reqDone (run (demoOps.take 9) init) 1 1 0 = false ∧
    reqDone (applySpec (run (demoOps.take 9) init) demoDrop) 1 1 0 = true ∧
    (pickable (applySpec (run (demoOps.take 9) init) demoDrop) 0).map (·.id) = [2] := by decide +kernel

/-- restarted loops: u0 of `a` is disabled, re-enabled (second loop, started through the update path), then dropped:
    both loops ever started ran under the endpoint's context and both are done; u1 is still probed -/
def demoCycle : List Op :=
  [ .apply { name := nA, aliases := [], servers := [(u0, false), (u1, false)] }, .health u0 true, .health u1 true,
    .apply { name := nA, aliases := [], servers := [(u0, true), (u1, false)] },
    .apply { name := nA, aliases := [], servers := [(u0, false), (u1, false)] },
    .apply { name := nA, aliases := [], servers := [(u1, false)] } ]

example : ((run (demoCycle.take 5) init).eps.map fun e => [e.id, e.hcGen, (hcLive (run (demoCycle.take 5) init).cancels e).toNat])
            = [[1, 2, 1], [2, 1, 1]] := by decide +kernel

example : ((run demoCycle init).eps.map fun e =>
              [e.id, e.inMap.toNat, e.hcGen, (hcLive (run demoCycle init).cancels e).toNat] ++
               (List.range e.hcGen).flatMap fun g => [(e.hcParent g == e.chain).toNat, (done (run demoCycle init).cancels (e.hcChain g)).toNat])
            = [[1, 0, 2, 0, 1, 1, 1, 1], [2, 1, 1, 1, 1, 0]] := by decide +kernel

def nY : Str := [121]

/-- messed-up server names: the object lists its OWN name and a repeated alias in front of another alias
    (`serverNames = [a, A, X, x, y]` for cluster `a`, so `LoadServerNames = [a, a, a, x, x, y]`): the second visit of a
    name finds it gone and is skipped, the loop goes on, and after the delete NO name resolves (hypotheses of
    `c15_cluster_unresolvable` hold for this state; a request for the trailing alias is rejected) -/
def demoMessy : List Op :=
  [ .apply { name := nA, aliases := [nA, [65], nX, nx, nY], servers := [(u0, false)] }, .health u0 true,
    .reqStart 1 nY, .reqPick 1 0,
    .delete [65],
    .reqStart 2 nY, .reqStart 3 nx, .reqStart 4 nA ]

example : ((run (demoMessy.take 4) init).heap 0).map (·.serverNames) = some [nA, nA, nA, nx, nx, nY] ∧
    get (run (demoMessy.take 4) init) nY = some 0 ∧
    get (run demoMessy init) nY = none ∧ get (run demoMessy init) nx = none ∧ get (run demoMessy init) nA = none ∧
    (run demoMessy init).reqs 2 = some Phase.rejected ∧ (run demoMessy init).reqs 3 = some Phase.rejected ∧
    (run demoMessy init).reqs 4 = some Phase.rejected ∧ reqDone (run demoMessy init) 1 1 0 = true := by decide +kernel

/-- `a` without the alias `X`, the same servers -/
def demoAlias : Spec := { name := nA, aliases := [], servers := [(u0, false), (u1, false)] }

/-- the hypotheses of the alias theorems are satisfiable -/
example : get (run (demoOps.take 9) init) nx = some 0 ∧
    get (applySpec (run (demoOps.take 9) init) demoAlias) nx = none ∧
    get (applySpec (run (demoOps.take 9) init) demoAlias) nA = some 0 ∧
    (applySpec (run (demoOps.take 9) init) demoAlias).cancels = (run (demoOps.take 9) init).cancels := by decide +kernel

end KG.Props.C15
