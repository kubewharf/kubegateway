import KG.Lemmas.MaxInflight
import KG.Lemmas.LocalLimiter
/-!
# C05 — Local max-in-flight: never more than M admitted and unfinished; slots never leak

Three layers (DESIGN.md §5 C05), all about the tree after `fix: hand requests the limiter in force …`:

(a) `KG.Model.MaxInflight` — the lock-free counter of the dependency, one step per atomic operation,
    any number of threads, **every interleaving** (`Reachable` = reachable by some schedule).
(b) `KG.Model.LocalLimiter` — `upstreamLimiter` / `FlowControlCache` / `localWrapper.Sync` over **every
    history** of reconfigurations, arrivals and completions; the property is the judge
    `KG.Spec.LocalLimiter.judge` (what the harness also evaluates on the real code's answers).
(c) `dispatcher.ServeHTTP`, abstracted statement by statement from the current source
    (`KG.Gen.C05.serveHTTP`): the slot is given back exactly once on **every way out**.
-/
namespace KG.Props.C05
open KG

/-! ## (a) the counter, every interleaving -/
section counter
open KG.Model.MaxInflight KG.Lemmas.MaxInflight

/-- The counter is exactly the requests admitted and unfinished plus the overshoots about to be rolled back;
    it is never negative. -/
theorem c05_counter_inv {s : Sys} (h : Reachable s) :
    s.count = s.holders.length + s.pending.length ∧ 0 ≤ s.count :=
  ⟨(inv_reachable h).cnt, count_nonneg (inv_reachable h)⟩

/-- The branches that would lose or invent slots are unreachable for well-formed clients: no thread is
    ever at the CAS or at the clamp-to-zero store, and a holder that starts `Release` never takes the
    `if f.count <= 0 { return }` exit (which would keep its slot for ever). -/
theorem c05_leak_paths_unreachable {s : Sys} (h : Reachable s) (t : Tid) :
    s.pc t ≠ .rel2 ∧ (∀ c0 m, s.pc t ≠ .cas c0 m) ∧ (s.pc t = .holding → 0 < s.count) := by
  have hi := inv_reachable h
  exact ⟨hi.noRel2 t, hi.noCas t, holding_count_pos hi⟩

/-- **Bound at every admission**: the step that admits is the `Add(+1)` of a thread that loaded `m` as the
    limit in this very call, and right after it at most `m` requests are admitted and unfinished. -/
theorem c05_bound {s : Sys} (h : Reachable s) (t : Tid) (hadm : (stepThread s t).2 = .admitted) :
    ∃ m : Int, s.pc t = .adding m ∧ ((stepThread s t).1.holders.length : Int) ≤ m :=
  admit_bound (inv_reachable h) t hadm

/-- With a limit that never exceeds `M` (constant, or resized to values `≤ M`), at no instant are more
    than `M` requests admitted and unfinished — for every schedule. -/
theorem c05_bound_max (M : Nat) (es : List Ev) (hr : ResizesLe M es) :
    (run (init M) es).holders.length ≤ M :=
  bound_run (inv_init M) (cap_init (Nat.le_refl M)) (by simp [init]) es hr

/-- **Resize semantics**: once the limit is `M'`, a `TryAcquire` that starts afterwards (thread `t` is not
    inside a call) admits only if at most `M'` are then in flight, however the other threads — including
    those that loaded the old limit — interleave. -/
theorem c05_resize {s : Sys} (h : Reachable s) (M' : Nat) (t : Tid) (hidle : s.pc t = .idle ∨ s.pc t = .holding)
    (es : List Ev) (hn : NoResize es) : AdmitsWithin M' t (step s (.resize M')).1 es := by
  have hi : SInv (step s (.resize M')).1 := inv_step (inv_reachable h) _
  refine resize_run hi ⟨rfl, ?_⟩ es hn
  intro u m hu hm
  have : s.pc t = .adding m := hu ▸ hm
  rcases hidle with h1 | h1 <;> rw [h1] at this <;> cases this

/-- **No leak**: whenever no thread is inside a call the counter equals the number of requests in flight … -/
theorem c05_no_leak {s : Sys} (h : Reachable s) (hq : Quiescent s) : s.count = s.holders.length :=
  quiescent_count (inv_reachable h) hq

/-- … so a request arriving then is admitted **iff** fewer than `max` are in flight: after all requests
    have finished, exactly `max` new ones are admitted again. The complete call is the sequential
    `Counter.tryAcquire` that layer (b) uses. -/
theorem c05_refill {s : Sys} (h : Reachable s) (hq : Quiescent s) (t : Tid) (hpc : s.pc t = .idle) :
    (runCall s t 4).2 = (if s.holders.length < s.max then Out.admitted else Out.rejected) ∧
    (runCall s t 4).2 = (if (Counter.tryAcquire ⟨s.count, s.max⟩).2 then Out.admitted else Out.rejected) ∧
    (runCall s t 4).1.count = (Counter.tryAcquire ⟨s.count, s.max⟩).1.count := by
  have hi := inv_reachable h
  have hc := quiescent_count hi hq
  rw [runCall_tryAcquire hi t hpc, counter_tryAcquire_eq ⟨s.count, s.max⟩ (count_nonneg hi)]
  by_cases hfree : s.count < (s.max : Int)
  · rw [if_pos hfree, if_pos hfree, if_pos (by omega : s.holders.length < s.max)]
    exact ⟨rfl, rfl, rfl⟩
  · rw [if_neg hfree, if_neg hfree, if_neg (by omega : ¬ s.holders.length < s.max)]
    exact ⟨rfl, rfl, rfl⟩

/-- A holder's complete `Release` gives exactly its own slot back. -/
theorem c05_release_gives_back {s : Sys} (h : Reachable s) (t : Tid) (hpc : s.pc t = .holding) :
    (runCall s t 3).1.count = s.count - 1 ∧ (runCall s t 3).1.holders = s.holders.erase t ∧
    (runCall s t 3).2 = .released := by
  rw [runCall_release (inv_reachable h) t hpc]
  exact ⟨rfl, rfl, rfl⟩

/-- **Concurrency and reconfiguration together**: take any number of limiter objects (one per schema
    generation: a type change, deletion or re-addition makes later requests use another object, a resize acts
    on the same object) and any interleaving of atomic steps of any number of requests on the objects they
    hold with any resizes. Every object is, at every instant, in a state reachable by its own schedule — so
    all of the above holds for each of them — and if the limits configured for object `o` never exceed `M`,
    never more than `M` requests admitted by `o` are unfinished. -/
theorem c05_bound_every_limiter (maxOf : Nat → Nat) (es : List (Nat × Ev)) (o : Nat) :
    Reachable ((Heap.run (Heap.init maxOf) es).objs o) ∧
    ∀ M, maxOf o ≤ M → ResizesLe M (eventsOf o es) →
      ((Heap.run (Heap.init maxOf) es).objs o).holders.length ≤ M := by
  rw [heap_run_proj]
  refine ⟨⟨maxOf o, eventsOf o es, rfl⟩, ?_⟩
  intro M hM hr
  exact bound_run (inv_init _) (cap_init hM) (by simp [init]) _ hr

/-! non-vacuity: two threads at limit 1, fully interleaved — one holds the slot, the other has overshot and
    is about to roll back (`count = 2 > max`, yet only one request is admitted); then the limit is raised
    and a third thread, which starts afterwards, is admitted as number 2. -/
example :
    let s := run (init 1) [.step 0, .step 1, .step 0, .step 1, .step 0, .step 1]
    Reachable s ∧ s.count = 2 ∧ s.holders = [0] ∧ s.pending = [1] ∧ s.pc 2 = .idle := by
  refine ⟨⟨1, _, rfl⟩, ?_⟩
  decide +kernel
example :
    let s := run (init 1) [.step 0, .step 1, .step 0, .step 1, .step 0, .step 1, .step 1, .resize 2,
      .step 2, .step 2, .step 2]
    s.holders = [2, 0] ∧ s.count = 2 ∧ s.max = 2 ∧ Quiescent s := by
  refine ⟨by decide +kernel, by decide +kernel, by decide +kernel, ?_⟩
  intro t
  match t with
  | 0 => exact Or.inr (by decide +kernel)
  | 1 => exact Or.inl (by decide +kernel)
  | 2 => exact Or.inr (by decide +kernel)
  | (n + 3) => exact Or.inl rfl

/-- regenerated fact: the atomic operations of the dependency's `atomicTokenBucket`, in source order, are
    the ones the model has a step for; `NewFlowControl` builds a max-in-flight limiter with that type. -/
theorem c05_fact_counter_ops :
    KG.Gen.C05.tryAcquireOps = tryAcquireOps ∧ KG.Gen.C05.releaseOps = releaseOps ∧
    KG.Gen.C05.resizeOps = resizeOps ∧ KG.Gen.C05.counterCtor = counterCtor := ⟨rfl, rfl, rfl, rfl⟩

end counter

/-! ## (b) reconfiguration, every history -/
section limiter
open KG.Model.LocalLimiter KG.Spec.LocalLimiter KG.Lemmas.LocalLimiter

/-- **What the current code does, over every history** of `Sync` (resize, type change, delete, re-add,
    duplicates, re-submission), limiter-mode switches (`ResetLimiter` local ↔ remote, which keep every cache
    and limiter), arrivals and completions on any number of clusters: a request arriving under a schema the
    code treats as max-in-flight is admitted **iff** fewer than `uint32(max)` of the requests admitted under it
    since it last became one are unfinished (`uint32(max)` being the code's own reading of the limit in force
    at that moment: for `max < 0` that is 4294967295 — a fact about the code, not a demand of the property);
    no refusal where no limiter applies; no panic on arrival. -/
theorem c05_model_exact (ops : List Op) : judgeExact ops (KG.Model.LocalLimiter.run World.init ops) = none :=
  judgeExact_run rel_init 0 ops

/-- **The property over every such history** (`KG.Spec.LocalLimiter.judge`, the judge the harness applies to
    the real code). It speaks about schemas as validation admits them — exactly one kind, limit `M = max ≥ 0`,
    unique names: under a max-in-flight schema with limit `M` a request is refused whenever `M` of the
    requests admitted under it since it last became a max-in-flight schema are unfinished (`M` the limit in
    force at that moment), and admitted whenever fewer than `M` are unfinished and none has finished since
    nothing was in flight (all slots are back once all have finished); admitted under an exempt schema or
    under no schema; never a panic on arrival. For a negative `max`, several kinds, duplicate names, a
    missing schema it demands nothing. -/
theorem c05_reconfig_bound (ops : List Op) : judge ops (KG.Model.LocalLimiter.run World.init ops) = none :=
  judgeFrom_of_exact PState.init 0 ops _ (c05_model_exact ops)

/-- An arriving request never brings the gateway down (no nil limiter is ever handed out for a non-empty
    schema name, no dangling limiter). -/
theorem c05_arrival_never_panics {w : World} (h : KG.Model.LocalLimiter.Reachable w) (c n : Str) (tb : Bool) :
    ∃ w' b, acquire w c n tb = .ok (w', b) := by
  obtain ⟨σ, hr⟩ := reachable_rel h
  obtain ⟨w', b, ha, _⟩ := acquire_step hr c n tb
  exact ⟨w', b, ha⟩

/-- **Isolation** (frame theorem, per cluster and per schema): an op that does not concern `(c, n)` — an
    arrival or a completion under another schema or cluster, however many; any `Sync` of another cluster —
    does not change the answer a request for `(c, n)` gets. Exhausting one limit never causes a rejection
    under another. -/
theorem c05_isolation {w : World} (h : KG.Model.LocalLimiter.Reachable w) (op : Op) (c n : Str) (tb : Bool)
    (hna : ¬ addresses w op c n) :
    answer (KG.Model.LocalLimiter.step w op).1 c n tb = answer w c n tb := by
  obtain ⟨σ, hr⟩ := reachable_rel h
  exact isolation_step hr op c n tb hna

/-! non-vacuity: the witness of findings/C05-release-hits-swapped-limiter (token bucket → max-in-flight
    `M = 1`, three requests). The model (fixed code) refuses the third request; the judge rejects the
    answers the pristine tree gave (third request admitted) at op 5 — so the judge is not trivially true. -/
def witnessSchema (mi : Option Int) (tb : Option (Int × Int)) : Schema := ⟨[102, 99], [], false, mi, tb, none, none⟩
def witness : List Op :=
  [.sync [99] [witnessSchema none (some (1000, 1000))], .acquire [99] [102, 99] true,
   .sync [99] [witnessSchema (some 1) none], .acquire [99] [102, 99] true, .release 0, .acquire [99] [102, 99] true]
example : KG.Model.LocalLimiter.run World.init witness =
    [.synced, .acquired true, .synced, .acquired true, .released true, .acquired false] := by decide +kernel
example : judge witness [.synced, .acquired true, .synced, .acquired true, .released true, .acquired true] = some 5 := by
  decide +kernel
/-! non-vacuity: a limiter-mode switch (`ResetLimiter` remote, then the `Sync` of the unchanged list, as
    `ClusterInfo.Sync` does when the GlobalRateLimiter gate flips) with a request in flight at `M = 1`: the
    model keeps refusing; the judge rejects an implementation that admits after the switch. -/
def switchHistory : List Op :=
  [.sync [99] [witnessSchema (some 1) none], .acquire [99] [102, 99] true, .reset [99] modeRemote,
   .sync [99] [witnessSchema (some 1) none], .acquire [99] [102, 99] true]
example : KG.Model.LocalLimiter.run World.init switchHistory =
    [.synced, .acquired true, .synced, .synced, .acquired false] := by decide +kernel
example : judge switchHistory [.synced, .acquired true, .synced, .synced, .acquired true] = some 4 := by decide +kernel
/-! the property says nothing about a negative `max`: an implementation that refuses (clamps to 0) is accepted
    by `judge`; only the description of the current code (`judgeExact`: `uint32(-1)` slots) tells them apart.
    At `max = 2` a refusal with nothing in flight is rejected by the property's judge, an admission of a
    third request as well. -/
def negHistory : List Op := [.sync [99] [witnessSchema (some (-1)) none], .acquire [99] [102, 99] true]
example : judge negHistory [.synced, .acquired false] = none ∧ judge negHistory [.synced, .acquired true] = none ∧
    judgeExact negHistory [.synced, .acquired false] = some 1 := by decide +kernel
def twoHistory : List Op := [.sync [99] [witnessSchema (some 2) none], .acquire [99] [102, 99] true,
  .acquire [99] [102, 99] true, .acquire [99] [102, 99] true]
example : judge twoHistory [.synced, .acquired false] = some 1 ∧
    judge twoHistory [.synced, .acquired true, .acquired true, .acquired true] = some 3 ∧
    judge twoHistory [.synced, .acquired true, .acquired true, .acquired false] = none := by decide +kernel
/-! the hypotheses of `c05_isolation` can be met: a reachable world, and an arrival under another schema, which does not concern
    `([99], [102, 99])` -/
example : KG.Model.LocalLimiter.Reachable (exec World.init witness) := ⟨witness, rfl⟩
example : ¬ addresses (exec World.init witness) (.acquire [99] [120] true) [99] [102, 99] := by
  simp [addresses]

/-- regenerated fact: `upstreamLimiter.Load` hands out the limiter in force (`Current()`) at both places
    where it returns the local limiter — what the model's `getOrDefault` does. -/
theorem c05_fact_load_returns_current : KG.Gen.C05.loadLocalReturns = loadLocalReturns := rfl

end limiter

/-! ## (c) every way out of `dispatcher.ServeHTTP` -/
section dispatcher
open KG.Model.LocalLimiter KG.Lemmas.LocalLimiter

/-- regenerated fact: in the current `ServeHTTP`, `defer flowcontrol.Release()` is the statement that follows
    the `if !flowcontrol.TryAcquire() { …; return }` guard, and nothing else mentions `TryAcquire`/`Release`. -/
theorem c05_fact_dispatcher_shape : shapeOk dispatcherProgram = true := by decide +kernel

/-- **Release exactly once**: whatever each statement of `ServeHTTP` does — fall through, return early
    (answered by the gateway: no match, no ready endpoint, bad endpoint …), or panic (client abort, broken
    upstream, anything) — and whatever the limiter answers, the number of `Release` calls equals the number of
    successful `TryAcquire` calls, which is at most one. -/
theorem c05_release_once (sc : Scenario) :
    countRel (serve dispatcherProgram sc) = countAcq (serve dispatcherProgram sc) ∧
    countAcq (serve dispatcherProgram sc) ≤ 1 :=
  exec_release_once sc dispatcherProgram 0 [] c05_fact_dispatcher_shape

/-! non-vacuity: a request that is admitted and then finds no ready endpoint (the first guard after the
    `defer`), and one that panics in the last statement: one acquisition, one release each. -/
example : let sc : Scenario := ⟨fun i => if i = 19 then .exit else .go, true⟩
    countAcq (serve dispatcherProgram sc) = 1 ∧ countRel (serve dispatcherProgram sc) = 1 := by decide +kernel
example : let sc : Scenario := ⟨fun i => if i = 37 then .panic else .go, true⟩
    countAcq (serve dispatcherProgram sc) = 1 ∧ countRel (serve dispatcherProgram sc) = 1 := by decide +kernel
example : let sc : Scenario := ⟨fun _ => .go, false⟩
    countAcq (serve dispatcherProgram sc) = 0 ∧ countRel (serve dispatcherProgram sc) = 0 := by decide +kernel

end dispatcher

end KG.Props.C05
