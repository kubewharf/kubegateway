import KG.Lemmas.Validate
/-!
# C16 — admission validation is total, and what it accepts the data plane can apply

Statement (properties.jsonl): validating any UpstreamCluster object terminates with a list of field errors and never
panics; every object that passes validation can be applied by the gateway and by the limiter server without error or
panic; objects that would break them (unparseable endpoint URLs, mixed schemes, unusable key / certificate / CA data,
policies referring to unknown endpoints or schemas, contradictory, incomplete or out-of-range flow-control
configurations) are rejected.

Everything is quantified over every object AND over every behaviour of the external parsers (`Env`: `url.Parse`,
`tls.X509KeyPair`, `cert.ParseCertsPEM`, `featuregate.Set`, `rest.DefaultServerURL`, `strings.ToLower`, the element
`PopAny` returns). Sufficiency additionally assumes `EnvOK env` (Spec): `url.Parse` reports the scheme the prefix test
saw, client-go accepts as host every URL that parses with scheme and host, `ToLower` is idempotent. Validator and
consumer call the same `env` (the same parser on the same bytes).
-/
namespace KG.Props.C16
open KG KG.Model.Validate KG.Spec.Validate KG.Lemmas.Validate

/-! ## Totality -/

/-- `Validate` (plugin; `ValidateUpstreamCluster` inside) returns a list of field errors for every object, every
    lister content and every behaviour of the parsers: it never panics (nor fails otherwise). -/
theorem c16_total (env : Env) (known : List Known) (c : Cluster) : ∃ errs, validate env known c = .ok errs :=
  validate_total env known c

theorem c16_never_panics (env : Env) (known : List Known) (c : Cluster) : isPanic (validate env known c) = false := by
  obtain ⟨e, he⟩ := c16_total env known c
  simp [he, isPanic]

/-- the same for `ValidateUpstreamCluster` alone -/
theorem c16_core_total (env : Env) (c : Cluster) : ∃ errs, validateUpstreamCluster env c = .ok errs :=
  validateUpstreamCluster_total env c

/-! ## Updates are validated like creates -/

/-- `Validate` is the same function of the object for every operation - create, update, a write through the status
    subresource - and does not read the old object: whatever an update changes (spec, annotations, labels, nothing),
    the object about to be stored goes through the whole validation. (For status writes this rests on the guard
    `shouldIgnore(a) && !isStatusUpdate(a)`, regenerated as `Gen.C16.statusValidated`.) -/
theorem c16_validate_independent_of_old (env : Env) (known : List Known) (op op' : Operation) (old old' : Option Cluster)
    (c : Cluster) : validateAdmission env known op old c = validateAdmission env known op' old' c := by
  simp [validateAdmission, Gen.C16.statusValidated]

theorem c16_admission_accepts_iff_valid (env : Env) (known : List Known) (op : Operation) (old : Option Cluster)
    (c : Cluster) : validateAdmission env known op old c = .ok [] ↔ valid env known c = true := by
  simp only [validateAdmission, Gen.C16.statusValidated, Bool.not_true, Bool.and_false, Bool.false_eq_true, if_false]
  exact validate_ok_iff_valid env known c

/-- the verdict does not depend on the life-cycle state the API server presents the object in (terminating with
    finalizers, any generation / resource version / managed fields / owner references / labels): only on what
    `ValidateObjectMeta` says about their syntax (`metaErrs`) -/
theorem c16_validate_independent_of_lifecycle (env : Env) (known : List Known) (op : Operation) (old : Option Cluster)
    (c : Cluster) (l : Lifecycle) :
    validateAdmission env known op old { c with lifecycle := l } = validateAdmission env known op old c := by
  have hconf : validateConflicts env { c with lifecycle := l } known = validateConflicts env c known := by
    induction known with
    | nil => rfl
    | cons u rest ih => simp only [validateConflicts, ih]
  simp only [validateAdmission, validate, validateUpstreamCluster, validateUpstreamClusterSpec, validateFeatureGate, hconf]

/-- a write through the status subresource stores the old spec and labels with the REQUEST's annotations
    (`prepareForStatusUpdate`); it is admitted only if that object is valid - e.g. not with an unparsable feature-gate
    annotation -/
theorem c16_status_write_validated (env : Env) (known : List Known) (old req : Cluster)
    (h : validateAdmission env known .statusUpdate (some old) (prepareForStatusUpdate old req) = .ok []) :
    valid env known (prepareForStatusUpdate old req) = true ∧
    featureGateOK env { old with annotations := req.annotations } = true := by
  have hv := (c16_admission_accepts_iff_valid env known .statusUpdate (some old) _).mp h
  exact ⟨hv, ((valid_iff env known _).mp hv).gate⟩

/-- in particular an update that leaves the spec untouched and writes an unparsable feature-gate annotation is
    rejected -/
theorem c16_rejects_bad_feature_gate_on_update (env : Env) (known : List Known) (old c : Cluster)
    (m : List (Str × Str)) (ha : c.annotations = some m) (hne : mapGet m sFeatureGateKey ≠ [])
    (hbad : env.featureGateSet (mapGet m sFeatureGateKey) = none) :
    validateAdmission env known .update (some old) c ≠ .ok [] := by
  intro h
  have hg := ((valid_iff env known c).mp ((c16_admission_accepts_iff_valid env known .update (some old) c).mp h)).gate
  simp [featureGateOK, ha, hne, hbad] at hg

/-- `Admit`'s defaulting is idempotent -/
theorem c16_admission_defaults_idempotent (c : Cluster) : admitObject (admitObject c) = admitObject c := by
  unfold admitObject
  simp only [List.map_map]
  congr 1
  apply List.map_congr_left
  intro p _
  by_cases h : p.strategy = [] <;> simp [h]

/-- ... and changes nothing in an object that is valid as submitted -/
theorem c16_admission_defaults_keep_valid_object (env : Env) (known : List Known) (c : Cluster) (h : valid env known c = true) :
    admitObject c = c := by
  have hp := ((valid_iff env known c).mp h).policyForm
  unfold admitObject
  have : c.policies.map (fun p => if p.strategy = [] then { p with strategy := sRoundRobin } else p) = c.policies := by
    conv => rhs; rw [← List.map_id c.policies]
    apply List.map_congr_left
    intro p hpm
    have hs := (hp p hpm).1
    by_cases he : p.strategy = []
    · simp only [he, if_true, id]
      cases p; simp_all
    · simp [he]
  rw [this]

/-! ## What is accepted: exactly the declaratively valid objects -/

theorem c16_accepts_iff_valid (env : Env) (known : List Known) (c : Cluster) :
    validate env known c = .ok [] ↔ valid env known c = true :=
  validate_ok_iff_valid env known c

/-- in particular every accepted object is `usable`: it is in none of the classes the property lists -/
theorem c16_accepted_usable (env : Env) (known : List Known) (c : Cluster) (h : validate env known c = .ok []) :
    usable env c = true := by
  have hv := (c16_accepts_iff_valid env known c).mp h
  simp only [valid, Bool.and_eq_true] at hv
  exact hv.1.1.1.1.2

/-! ## Rejection, class by class -/

theorem c16_rejects_no_server (env : Env) (known : List Known) (c : Cluster) (h : c.servers = []) :
    validate env known c ≠ .ok [] := fun hv => ((validate_ok_iff env known c).mp hv).servers h

/-- an endpoint without `http://` / `https://` prefix -/
theorem c16_rejects_endpoint_without_scheme (env : Env) (known : List Known) (c : Cluster) (s : Server)
    (hs : s ∈ c.servers) (h : getURLScheme s.endpoint = []) : validate env known c ≠ .ok [] := by
  intro hv
  have := ((validate_ok_iff env known c).mp hv).endpoints s hs
  simp [endpointOK, h] at this

/-- an endpoint `url.Parse` refuses (`https://%zz`, `http://[::1`, ...) -/
theorem c16_rejects_unparseable_endpoint (env : Env) (known : List Known) (c : Cluster) (s : Server)
    (hs : s ∈ c.servers) (h : env.urlParse s.endpoint = none) : validate env known c ≠ .ok [] := by
  intro hv
  have := ((validate_ok_iff env known c).mp hv).endpoints s hs
  simp [endpointOK, h] at this

/-- an endpoint without host (`https://`, `https:///path`) -/
theorem c16_rejects_endpoint_without_host (env : Env) (known : List Known) (c : Cluster) (s : Server) (u : URL)
    (hs : s ∈ c.servers) (h : env.urlParse s.endpoint = some u) (hh : u.host = []) : validate env known c ≠ .ok [] := by
  intro hv
  have := ((validate_ok_iff env known c).mp hv).endpoints s hs
  simp [endpointOK, h, hh] at this

theorem c16_rejects_mixed_schemes (env : Env) (known : List Known) (c : Cluster) (a b : Server)
    (ha : a ∈ c.servers) (hb : b ∈ c.servers) (h : getURLScheme a.endpoint ≠ getURLScheme b.endpoint) :
    validate env known c ≠ .ok [] := by
  exact fun hv => h (((validate_ok_iff env known c).mp hv).oneScheme a ha b hb)

/-- a client key/certificate pair `tls.X509KeyPair` refuses -/
theorem c16_rejects_unusable_client_keypair (env : Env) (known : List Known) (c : Cluster)
    (hk : c.clientConfig.keyData ≠ []) (hc : c.clientConfig.certData ≠ [])
    (h : env.x509KeyPair c.clientConfig.certData c.clientConfig.keyData = false) : validate env known c ≠ .ok [] := by
  intro hv
  have := ((validate_ok_iff env known c).mp hv).clientTLS
  simp [clientTLSOK, hk, hc, h] at this

/-- a client CA bundle `ParseCertsPEM` refuses -/
theorem c16_rejects_unusable_client_ca (env : Env) (known : List Known) (c : Cluster)
    (hc : c.clientConfig.caData ≠ []) (h : env.parseCertsPEM c.clientConfig.caData = false) :
    validate env known c ≠ .ok [] := by
  intro hv
  have := ((validate_ok_iff env known c).mp hv).clientTLS
  simp [clientTLSOK, hc, h] at this

/-- https with `insecure` and a CA (client-go refuses to build the transport) -/
theorem c16_rejects_insecure_with_ca (env : Env) (known : List Known) (c : Cluster)
    (hs : schemeOf c.servers = sHttps) (hi : c.clientConfig.insecure = true) (hc : c.clientConfig.caData ≠ []) :
    validate env known c ≠ .ok [] := by
  intro hv
  have := ((validate_ok_iff env known c).mp hv).clientTLS
  simp [clientTLSOK, hs, hi, hc] at this

/-- https with half a client key pair -/
theorem c16_rejects_half_client_keypair (env : Env) (known : List Known) (c : Cluster)
    (hs : schemeOf c.servers = sHttps) (h : (c.clientConfig.keyData = []) ≠ (c.clientConfig.certData = [])) :
    validate env known c ≠ .ok [] := by
  intro hv
  have := ((validate_ok_iff env known c).mp hv).clientTLS
  by_cases hk : c.clientConfig.keyData = [] <;> by_cases hc : c.clientConfig.certData = [] <;>
    simp [clientTLSOK, hs, hk, hc] at this h

theorem c16_rejects_unusable_serving_keypair (env : Env) (known : List Known) (c : Cluster)
    (hk : c.secureServing.keyData ≠ []) (hc : c.secureServing.certData ≠ [])
    (h : env.x509KeyPair c.secureServing.certData c.secureServing.keyData = false) : validate env known c ≠ .ok [] := by
  intro hv
  have := ((validate_ok_iff env known c).mp hv).serving
  simp [servingOK, hk, hc, h] at this

theorem c16_rejects_unusable_serving_ca (env : Env) (known : List Known) (c : Cluster)
    (hc : c.secureServing.clientCAData ≠ []) (h : env.parseCertsPEM c.secureServing.clientCAData = false) :
    validate env known c ≠ .ok [] := by
  intro hv
  have := ((validate_ok_iff env known c).mp hv).serving
  simp [servingOK, hc, h] at this

/-- a policy whose subset names an endpoint that is not a server of the cluster -/
theorem c16_rejects_unknown_subset_endpoint (env : Env) (known : List Known) (c : Cluster) (p : Policy) (u : Str)
    (hp : p ∈ c.policies) (hu : u ∈ p.upstreamSubset) (h : u ∉ c.servers.map (·.endpoint)) :
    validate env known c ≠ .ok [] := by
  exact fun hv => h ((((validate_ok_iff env known c).mp hv).policyRefs p hp).1 u hu)

/-- a policy that names a flow-control schema the cluster does not define -/
theorem c16_rejects_unknown_schema_name (env : Env) (known : List Known) (c : Cluster) (p : Policy)
    (hp : p ∈ c.policies) (hn : p.flowControlSchemaName ≠ []) (h : p.flowControlSchemaName ∉ c.schemas.map (·.name)) :
    validate env known c ≠ .ok [] := by
  exact fun hv => (((validate_ok_iff env known c).mp hv).policyRefs p hp).2.elim hn h

/-- a flow-control schema that is not one of the five complete, consistent, in-range shapes -/
theorem c16_rejects_bad_flow_control (env : Env) (known : List Known) (c : Cluster) (s : Schema)
    (hs : s ∈ c.schemas) (h : schemaOK s = false) : validate env known c ≠ .ok [] := by
  intro hv
  have := ((validate_ok_iff env known c).mp hv).schemas s hs
  simp [h] at this

/-- the shapes `schemaOK` refuses: more than one configuration -/
theorem schemaOK_two_configurations (s : Schema)
    (h : (s.exempt = true ∧ (s.maxRequestsInflight.isSome ∨ s.tokenBucket.isSome)) ∨
         (s.maxRequestsInflight.isSome ∧ s.tokenBucket.isSome)) : schemaOK s = false := by
  refine Bool.eq_false_iff.mpr fun hok => ?_
  revert h
  refine schemaOK_elim hok ?_ ?_ ?_ ?_ ?_ <;> simp

theorem schemaOK_no_configuration (s : Schema)
    (h : s.exempt = false ∧ s.maxRequestsInflight = none ∧ s.tokenBucket = none) : schemaOK s = false := by
  refine Bool.eq_false_iff.mpr fun hok => ?_
  revert h
  refine schemaOK_elim hok ?_ ?_ ?_ ?_ ?_ <;> simp

/-- a global limit without the local one of the same kind (the shape that makes `NewFlowControl` dereference nil) -/
theorem schemaOK_global_without_local (s : Schema)
    (h : (s.globalMaxRequestsInflight.isSome ∧ s.maxRequestsInflight = none) ∨
         (s.globalTokenBucket.isSome ∧ s.tokenBucket = none)) : schemaOK s = false := by
  refine Bool.eq_false_iff.mpr fun hok => ?_
  revert h
  refine schemaOK_elim hok ?_ ?_ ?_ ?_ ?_ <;> simp

theorem schemaOK_global_below_local (s : Schema)
    (h : (∃ m g, s.maxRequestsInflight = some m ∧ s.globalMaxRequestsInflight = some g ∧ g < m) ∨
         (∃ t g, s.tokenBucket = some t ∧ s.globalTokenBucket = some g ∧ (g.qps < t.qps ∨ g.burst < t.burst))) :
    schemaOK s = false := by
  refine Bool.eq_false_iff.mpr fun hok => ?_
  revert h
  refine schemaOK_elim hok ?_ ?_ ?_ ?_ ?_ <;> simp <;> intros <;> omega

/-- numbers outside the range the consumers need: negative `max`, `qps ≤ 0`, `burst < qps` -/
theorem schemaOK_out_of_range (s : Schema)
    (h : (∃ m, s.maxRequestsInflight = some m ∧ m < 0) ∨ (∃ g, s.globalMaxRequestsInflight = some g ∧ g < 0) ∨
         (∃ t, s.tokenBucket = some t ∧ (t.qps ≤ 0 ∨ t.burst < t.qps)) ∨
         (∃ g, s.globalTokenBucket = some g ∧ g.qps ≤ 0)) : schemaOK s = false := by
  refine Bool.eq_false_iff.mpr fun hok => ?_
  revert h
  refine schemaOK_elim hok ?_ ?_ ?_ ?_ ?_ <;> simp <;> intros <;> omega

/-- two schemas with one name, or a schema without name -/
theorem c16_rejects_bad_schema_names (env : Env) (known : List Known) (c : Cluster) (h : namesOK c.schemas = false) :
    validate env known c ≠ .ok [] := by
  intro hv
  have := ((validate_ok_iff env known c).mp hv).names
  simp [h] at this

/-! ## Sufficiency: what is accepted can be applied -/

/-- the gateway creates the cluster: `CreateClusterInfo` (`buildClusterRESTConfig`, TLS configuration, first `Sync`:
    feature gates, limiters, serving certificates, one transport and client set per endpoint) neither fails nor
    panics, in local and in remote mode -/
theorem c16_sufficient_create (env : Env) (henv : EnvOK env) (known : List Known) (c : Cluster)
    (h : validate env known c = .ok []) (remote : Bool) : ∃ ci, createClusterInfo env remote c = .ok ci := by
  obtain ⟨ci, hci, _⟩ := createClusterInfo_ok env henv known c ((c16_accepts_iff_valid env known c).mp h) remote
  exact ⟨ci, hci⟩

/-- ... and conversely: an object on which `CreateClusterInfo` fails or panics is rejected -/
theorem c16_breaking_object_rejected (env : Env) (henv : EnvOK env) (known : List Known) (c : Cluster) (remote : Bool)
    (e : Err) (h : createClusterInfo env remote c = .error e) : validate env known c ≠ .ok [] := by
  intro hv
  obtain ⟨ci, hci⟩ := c16_sufficient_create env henv known c hv remote
  rw [h] at hci
  cases hci

/-- a `ClusterInfo` the gateway may hold: client-go accepts its rest configuration (true of every one created
    from an accepted object, kept by every `Sync`) -/
def Applicable (env : Env) (ci : ClusterInfo) : Prop := tlsConfigFor env ci.restTLS = .ok ()

/-- `Sync` of an accepted object succeeds from EVERY applicable state, whatever objects were applied before, and leaves
    an applicable one (so create, then any number of updates, never fails: `c16_sufficient_history`) -/
theorem c16_sufficient_update (env : Env) (henv : EnvOK env) (known : List Known) (c : Cluster)
    (h : validate env known c = .ok []) (ci : ClusterInfo) (hci : Applicable env ci) :
    ∃ ci', ci.sync env c = .ok ci' ∧ Applicable env ci' :=
  sync_ok env henv known c ((c16_accepts_iff_valid env known c).mp h) ci hci

theorem c16_created_applicable (env : Env) (henv : EnvOK env) (known : List Known) (c : Cluster)
    (h : validate env known c = .ok []) (remote : Bool) :
    ∃ ci, createClusterInfo env remote c = .ok ci ∧ Applicable env ci :=
  createClusterInfo_ok env henv known c ((c16_accepts_iff_valid env known c).mp h) remote

/-- every history: a cluster created from an accepted object and then synced with any list of accepted objects -/
theorem c16_sufficient_history (env : Env) (henv : EnvOK env) (known : List Known) (cs : List Cluster)
    (h : ∀ c ∈ cs, validate env known c = .ok []) (ci : ClusterInfo) (hci : Applicable env ci) :
    ∃ ci', foldM' (fun (st : ClusterInfo) c => st.sync env c) ci cs = .ok ci' ∧ Applicable env ci' :=
  foldM'_ok _ (Applicable env) cs
    (fun st hst c hc => c16_sufficient_update env henv known c (h c hc) st hst) ci hci

/-- whatever was admitted - by whichever operation, against whichever old object - syncs on the `ClusterInfo` the
    gateway created from an object admitted earlier -/
theorem c16_sufficient_any_write (env : Env) (henv : EnvOK env) (known known' : List Known) (old c : Cluster)
    (hold : validateAdmission env known' .create none old = .ok []) (op : Operation) (o : Option Cluster)
    (h : validateAdmission env known op o c = .ok []) (remote : Bool) :
    ∃ ci, createClusterInfo env remote old = .ok ci ∧ ∃ ci', ci.sync env c = .ok ci' := by
  obtain ⟨ci, hci, happ⟩ := c16_created_applicable env henv known' old hold remote
  obtain ⟨ci', hs, _⟩ := sync_ok env henv known c ((c16_admission_accepts_iff_valid env known op o c).mp h) ci happ
  exact ⟨ci, hci, ci', hs⟩

/-- an admitted UPDATE can be applied: the gateway holds the `ClusterInfo` it created from the old (admitted) object;
    `Sync` of the new object, admitted as an update of it, succeeds — whatever the two objects differ in -/
theorem c16_sufficient_update_admission (env : Env) (henv : EnvOK env) (known known' : List Known) (old c : Cluster)
    (hold : validateAdmission env known' .create none old = .ok [])
    (h : validateAdmission env known .update (some old) c = .ok []) (remote : Bool) :
    ∃ ci, createClusterInfo env remote old = .ok ci ∧ ∃ ci', ci.sync env c = .ok ci' :=
  c16_sufficient_any_write env henv known known' old c hold .update (some old) h remote

/-- ... and so can an admitted status write: what it stores syncs on the `ClusterInfo` created from the old object -/
theorem c16_sufficient_status_write (env : Env) (henv : EnvOK env) (known known' : List Known) (old req : Cluster)
    (hold : validateAdmission env known' .create none old = .ok [])
    (h : validateAdmission env known .statusUpdate (some old) (prepareForStatusUpdate old req) = .ok []) (remote : Bool) :
    ∃ ci, createClusterInfo env remote old = .ok ci ∧ ∃ ci', ci.sync env (prepareForStatusUpdate old req) = .ok ci' :=
  c16_sufficient_any_write env henv known known' old _ hold .statusUpdate (some old) h remote

/-- the controller's queue handler bootstraps an accepted object: no panic, no requeue (`Err.err`), provided the
    manager only holds names of clusters the lister (against which the object was validated) knows -/
theorem c16_sufficient_controller (env : Env) (henv : EnvOK env) (known : List Known) (c : Cluster)
    (h : validate env known c = .ok []) (remote : Bool) (m : Manager) (hm : ManagerReflects env known c m)
    (hnew : alGet m (env.lower c.name) = none) : ∃ m', syncUpstreamCluster env remote m c = .ok m' :=
  syncUpstreamCluster_ok env henv known c ((c16_accepts_iff_valid env known c).mp h) remote m hm hnew

/-- plugin accepts ⇒ the controller does not refuse for a name conflict: the gateway already serves the OTHER clusters
    the lister knows (`applyOthers`: the handler ran for each in turn; ones it refused are not served), whatever their
    names and aliases and in whatever case they are spelled; an object the plugin accepted against that lister (its
    own name not among them) is bootstrapped by the handler - no panic, no requeue. The plugin compares lower-cased
    names on BOTH sides; the manager is keyed by lower-cased names: that is what the proof uses (`noConflict`,
    `ServesOnly`, `EnvOK.lower_idem`). -/
theorem c16_sufficient_controller_among_others (env : Env) (henv : EnvOK env) (others : List Cluster) (c : Cluster)
    (h : validate env (others.map Cluster.toKnown) c = .ok [])
    (hown : ∀ u ∈ others, env.lower u.name ≠ env.lower c.name) (remote : Bool) :
    ∃ m', syncUpstreamCluster env remote (applyOthers env remote [] others) c = .ok m' :=
  syncUpstreamCluster_among_others env henv others c ((c16_accepts_iff_valid env _ c).mp h) hown remote

/-- the limiter server's handler applies every object (accepted or not) from every state without failing
    (`upstreamConditionHandler_ok` also says what its upstream condition then carries: the global members of the schemas) -/
theorem c16_sufficient_limiter_handler (u : Upstream) (c : Cluster) : ∃ u', upstreamConditionHandler u c = .ok u' :=
  let ⟨u', h, _⟩ := upstreamConditionHandler_ok u c
  ⟨u', h⟩

/-- terms of the limiter server: when a replica starts leading the shard again (leadership lost and regained,
    fail-over, restart) its store has no flow controls - the API-backed store restores the CONDITIONS the previous
    leader flushed (`persist = true`, any `u`), the local store nothing - and the handler it runs for the accepted object
    succeeds and re-creates every global limiter with the configured kind and numbers, whatever was restored
    (in particular a restored `.state` condition that already equals the object's limits) -/
theorem c16_limiter_takeover (env : Env) (known : List Known) (c : Cluster) (h : validate env known c = .ok [])
    (persist : Bool) (u : Upstream) :
    ∃ u', upstreamConditionHandler (newTerm persist u) c = .ok u' ∧ u'.flowControls = globalEntries c.schemas :=
  let a := (validate_ok_iff env known c).mp h
  handler_after_takeover c a.names a.schemas persist u

/-- no `uint32` wrap-around: a cluster created from an accepted object (whose numbers are `int32` values) has exactly
    one limiter per schema, of the configured kind and with exactly the configured numbers, and no remote limiter -/
theorem c16_created_limiters (env : Env) (henv : EnvOK env) (known : List Known) (c : Cluster)
    (h : validate env known c = .ok []) (ht : ∀ s ∈ c.schemas, wellTyped s = true) (remote : Bool) :
    ∃ ci, createClusterInfo env remote c = .ok ci ∧ ci.flowcontrol.flowControls = c.schemas.map entryOf :=
  createClusterInfo_sizes env henv known c ((c16_accepts_iff_valid env known c).mp h) ht remote

/-- what `entryOf` (`expectedLocal`) says in numbers: the limiter's size is the configured `max`, resp. `qps` and
    `burst`, as integers -/
theorem c16_expected_sizes (s : Schema) (h : schemaOK s = true) :
    ∃ fc, (entryOf s).2.fc = some fc ∧
      (∀ m, s.maxRequestsInflight = some m → fc.typ = .maxRequestsInflight ∧ (fc.n : Int) = m) ∧
      (∀ t, s.tokenBucket = some t → fc.typ = .tokenBucket ∧ (fc.n : Int) = t.qps ∧ (fc.burst : Int) = t.burst) ∧
      (s.exempt = true → fc.typ = .exempt) := by
  refine schemaOK_elim h ?_ ?_ ?_ ?_ ?_ <;> intros <;> refine ⟨_, rfl, ?_⟩ <;> simp <;> omega

/-- what the applied configuration DOES: after `Sync` of an accepted object (create or update, from any state) the
    cluster holds exactly the endpoints the object names, each under the very string the object spells it with
    (trailing slash, upper-case host, default port included), and every dispatch policy's picker resolves exactly
    the endpoints the object says - its subset, else all - each of which `Pop` can load -/
theorem c16_policies_resolve (env : Env) (known : List Known) (c : Cluster) (h : validate env known c = .ok [])
    (ci ci' : ClusterInfo) (hs : ci.sync env c = .ok ci') (hn : ci.cluster = env.lower c.name) :
    ci'.policies = c.policies ∧ (∀ x, x ∈ ci'.endpoints ↔ x ∈ c.servers.map (·.endpoint)) ∧
    ∀ p ∈ c.policies, loadedUpstreams ci' p = resolveUpstreams ci' p ∧
      (p.upstreamSubset ≠ [] → resolveUpstreams ci' p = p.upstreamSubset) ∧
      (p.upstreamSubset = [] → resolveUpstreams ci' p = ci'.endpoints) :=
  policies_resolve env c (fun p hp => (((validate_ok_iff env known c).mp h).policyRefs p hp).1) ci ci' hs hn

/-- ... and, on a cluster created from the object, the limiter a policy names is the one the object configures -/
theorem c16_created_policy_limiter (env : Env) (henv : EnvOK env) (known : List Known) (c : Cluster)
    (h : validate env known c = .ok []) (ht : ∀ s ∈ c.schemas, wellTyped s = true) (remote : Bool) :
    ∃ ci, createClusterInfo env remote c = .ok ci ∧ ∀ p ∈ c.policies, ∀ s ∈ c.schemas,
      p.flowControlSchemaName = s.name → resolveFlowControl ci p = expectedLocal s := by
  obtain ⟨ci, hci, hfl⟩ := c16_created_limiters env henv known c h ht remote
  refine ⟨ci, hci, ?_⟩
  intro p _ s hs hname
  have hn := ((validate_ok_iff env known c).mp h).names
  have hne : s.name ≠ [] := namesOK_mem_ne c.schemas hn s hs
  unfold resolveFlowControl
  rw [hname, hfl, alGet_map_entryOf_some c.schemas hn s hs]
  simp [hne]

/-- the gateway's periodic reconcile with the limiter server (remote mode): a gateway that created the cluster from
    an accepted object, against a limiter server that handled the same object, runs any number of periods
    (`updateGlobalCuntFlowControls`, `buildLimitConditions`, the server's `UpdateRateLimitConditionStatus` incl.
    `calculateUpstreamCondition`, `updateFlowControls`) without error or panic, whatever quotas the server computes and
    whatever usage the gateway reports. The count path's guard (`Gen.C16.countPathGuarded`, regenerated from the
    source) is what this proof rests on for `globalCount` schemas without a global limit. The proof does not use `ht`
    (`reconcile_of_valid`). -/
theorem c16_sufficient_reconcile (env : Env) (henv : EnvOK env) (known : List Known) (c : Cluster)
    (h : validate env known c = .ok []) (ht : ∀ s ∈ c.schemas, wellTyped s = true)
    (quota : Str → Int × Int) (used : Str → Int) (inst : Str) (n : Nat) :
    ∃ ci u, createClusterInfo env true c = .ok ci ∧ upstreamConditionHandler emptyUpstream c = .ok u ∧
      ∃ r, reconcileLoop quota used inst n (ci.flowcontrol.flowControls, u) = .ok r :=
  reconcile_after_create env henv known c ((c16_accepts_iff_valid env known c).mp h) ht quota used inst n

/-- the property's second sentence in one statement: an accepted object is applied by the gateway (controller
    bootstrap in either mode, reconcile periods in remote mode) and by the limiter server (handler, status updates
    inside the reconcile periods) without error or panic; the manager is as in `c16_sufficient_controller` -/
theorem c16_sufficient (env : Env) (henv : EnvOK env) (known : List Known) (c : Cluster)
    (h : validate env known c = .ok []) (ht : ∀ s ∈ c.schemas, wellTyped s = true)
    (m : Manager) (hm : ManagerReflects env known c m) (hnew : alGet m (env.lower c.name) = none)
    (quota : Str → Int × Int) (used : Str → Int) (inst : Str) (n : Nat) :
    (∀ remote, ∃ m', syncUpstreamCluster env remote m c = .ok m') ∧
    (∃ ci u, createClusterInfo env true c = .ok ci ∧ upstreamConditionHandler emptyUpstream c = .ok u ∧
      ∃ r, reconcileLoop quota used inst n (ci.flowcontrol.flowControls, u) = .ok r) :=
  ⟨fun remote => c16_sufficient_controller env henv known c h remote m hm hnew,
   c16_sufficient_reconcile env henv known c h ht quota used inst n⟩

/-! ## Non-vacuity -/

/-- "https://h" -/
def exEndpoint : Str := sHttpsPrefix ++ [104]

/-- parsers that accept exactly one endpoint, one key pair and one CA bundle -/
def exEnv : Env :=
  { urlParse := fun s => if s = exEndpoint then some ⟨sHttps, [104]⟩ else none,
    x509KeyPair := fun c k => c = [1] && k = [2],
    parseCertsPEM := fun d => d = [3],
    featureGateSet := fun v => if v = [4] then some true else none,
    restHostOK := fun s => s = exEndpoint,
    lower := id,
    popFirst := true }

def exSchemas : List Schema :=
  [ ⟨[97], sGlobalCountLimit, false, some 10, none, some 100, none⟩,      -- a: max 10, global 100, globalCount
    ⟨[98], sGlobalCountLimit, false, some 5, none, none, none⟩,          -- b: globalCount without a global limit
    ⟨[99], sGlobalAllocateLimit, false, none, some ⟨5, 8⟩, none, some ⟨50, 80⟩⟩,
    ⟨[100], [], true, none, none, none, none⟩ ]

def exCluster : Cluster :=
  { name := [99, 49], metaErrs := [], annotations := some [(sFeatureGateKey, [4])],
    servers := [⟨exEndpoint, none⟩],
    clientConfig := ⟨false, [], [2], [1], [3], 5, 10, 0⟩,
    secureServing := ⟨[2], [1], [3], [[120]]⟩,
    schemas := exSchemas, loggingMode := [],
    policies := [⟨sRoundRobin, [exEndpoint], 1, [97], []⟩] }

example : EnvOK exEnv := by
  refine ⟨?_, ?_, fun _ => rfl⟩
  · intro s u h hs
    simp only [exEnv] at h
    split at h
    · rename_i he; cases h; subst he; decide
    · cases h
  · intro s u h _ _
    simp only [exEnv] at h ⊢
    split at h
    · rename_i he; simp [he]
    · cases h

private theorem exEndpoint_scheme : getURLScheme exEndpoint = sHttps := by decide

private theorem exCluster_valid : valid exEnv [⟨[111], [[121]]⟩] exCluster = true := by decide +kernel

example : valid exEnv [⟨[111], [[121]]⟩] exCluster = true := exCluster_valid

/-- the hypotheses of the sufficiency theorems hold together for this object (it is accepted, the parsers are
    well-behaved, the empty manager reflects every lister): they are not vacuous -/
example : validate exEnv [⟨[111], [[121]]⟩] exCluster = .ok [] ∧ ManagerReflects exEnv [⟨[111], [[121]]⟩] exCluster [] ∧
    Applicable exEnv (newEmptyClusterInfo exEnv exCluster.name none false) ∧
    (∀ s ∈ exCluster.schemas, wellTyped s = true) := by
  refine ⟨(c16_accepts_iff_valid _ _ _).mpr exCluster_valid, ?_, rfl, by decide⟩
  intro k ci h
  cases h

/-- ... and those of `c16_sufficient_controller_among_others`: another cluster with an alias is served already -/
example : validate exEnv ([Known.toCluster ⟨[111], [[121]]⟩].map Cluster.toKnown) exCluster = .ok [] ∧
    (∀ u ∈ [Known.toCluster ⟨[111], [[121]]⟩], exEnv.lower u.name ≠ exEnv.lower exCluster.name) := by
  exact ⟨(c16_accepts_iff_valid _ _ _).mpr exCluster_valid, by decide⟩

end KG.Props.C16
