import KG.Lemmas.TokenBucket
/-!
# C06 — Local token bucket: admissions ≤ burst + qps·T, never stricter than set

Statement (properties.jsonl): for a token-bucket schema `(qps, burst)`, in any time interval of length `T` during
which the schema is not reconfigured, at most `burst + qps·T` requests are admitted under it, whatever the
arrival pattern and concurrency; it is never stricter than configured: after it has been idle for `t` seconds at
least `min(burst, ⌊qps·t⌋)` requests are admitted immediately.

The model (`KG.Model.TokenBucket`) is the code path `resizeableTokenBucket.TryAcquire/Resize` →
client-go `TryAccept` → x/time/rate `reserveN/advance`, over exact rationals, in two arithmetics: `Arith.ns`
(with the library's truncation of durations to whole nanoseconds and `Time.Sub`'s saturation) and `Arith.ideal`.
Time is in nanoseconds, `K p = qps/10^9` is what one nanosecond refills.
-/
namespace KG.Props.C06
open KG.Model.TokenBucket KG.Spec.TokenBucket KG.Lemmas.TokenBucket

/-! ## upper bound, sequential form -/

/-- **Upper bound, every window, every arrival pattern** (any arithmetic satisfying `ArithOK`):
    from any limiter state satisfying the invariant, for calls whose clock readings are non-decreasing and not
    before the state's `last`, the number admitted with reading in `[t0, t1]` is at most
    `burst + (t1−t0 + q)·(qps/10^9)`. -/
theorem c06_upper_window {A : Arith} {q D : Rat} (hA : ArithOK A q D) {p : Params} (hV : Valid p q D)
    (s : State) (hI : Inv A p s) (nows : List Rat) (hs : sortedFrom s.last nows)
    (t0 t1 : Rat) (h01 : t0 ≤ t1) :
    (countIn t0 t1 (trace A p s nows) : Rat) ≤ (p.burst : Rat) + (t1 - t0) * K p + q * K p :=
  countIn_bound hA hV t0 t1 h01 nows s hI hs

/-- the library's arithmetic: at most one extra nanosecond of refill -/
theorem c06_upper_ns {p : Params} (hV : Valid p 1 (maxDuration : Rat))
    (nows : List Rat) (hs : sortedFrom 0 nows) (t0 t1 : Rat) (h01 : t0 ≤ t1) :
    (countIn t0 t1 (trace Arith.ns p State.init nows) : Rat) ≤ (p.burst : Rat) + (t1 - t0 + 1) * K p := by
  have := c06_upper_window ns_ok hV State.init (inv_init _ p hV.burst_nonneg) nows hs t0 t1 h01
  grind

/-- the ideal bucket: exactly the bound of the statement -/
theorem c06_upper_ideal {p : Params} {D : Rat} (hV : Valid p 0 D)
    (nows : List Rat) (hs : sortedFrom 0 nows) (t0 t1 : Rat) (h01 : t0 ≤ t1) :
    (countIn t0 t1 (trace Arith.ideal p State.init nows) : Rat) ≤ (p.burst : Rat) + (t1 - t0) * K p := by
  have := c06_upper_window (ideal_ok D) hV State.init (inv_init _ p hV.burst_nonneg) nows hs t0 t1 h01
  grind

/-- **the run-time judge `upperOK` holds on the trace of every run with non-decreasing clock readings**
    (`q ≤ 1`: both arithmetics): every window between two admitted calls holds at most
    `boundInt` = `⌈burst + qps·T⌉ + ⌊qps/10^9⌋` admissions -/
theorem c06_upper_judge {A : Arith} {q D : Rat} (hA : ArithOK A q D) (hq : q ≤ 1) {p : Params} (hV : Valid p q D)
    (s : State) (hI : Inv A p s) (nows : List Rat) (hs : sortedFrom s.last nows) :
    upperOK p (trace A p s nows) = true :=
  upperOK_trace hA hV hq s hI nows hs

/-! ## all interleavings -/

/-- **Whatever the arrival pattern and concurrency.** Any number of callers, the clock and the mutex of
    `resizeableTokenBucket` as a small-step system (`Sys.step`: time passes, a caller invokes `TryAcquire`, gets
    the mutex, reads the clock, updates the bucket, unlocks and returns — each a separate step, arbitrarily
    interleaved). For **every** execution and every window `[t0, t1]`, the admitted calls that lie inside the
    window (invoked at or after `t0`, returned by `t1`) number at most `burst + qps·(t1−t0) (+ q ns' worth)`.

    The execution starts from a configuration in which nobody holds the mutex, the log is empty, the limiter
    satisfies the invariant and neither its `last` nor the invocation time of a waiting caller is ahead of the
    clock — in particular right after a `Resize` (which holds the mutex for its whole duration, so it is one atomic
    step between critical sections), the log taken from there: callers that invoked `TryAcquire` earlier may
    already be waiting. The system has no `Resize` step of its own; with `c06_resize_changed` (the new limiter is
    `State.init`, which satisfies the invariant) the theorem is applied to one reconfiguration-free stretch of a
    concurrent run at a time; `c06_resize_same` says an unchanged `Resize` does not end a stretch. -/
theorem c06_concurrent_from {A : Arith} {q D : Rat} (hA : ArithOK A q D) {p : Params} (hV : Valid p q D)
    (c0 : Sys) (hI0 : Inv A p c0.lim) (hc : c0.crit = none) (hl : c0.log = []) (h0 : c0.lim.last ≤ c0.clock)
    (hp : ∀ x ∈ c0.pending, x.2 ≤ c0.clock)
    (steps : List Step) (c : Sys) (hex : Sys.exec A p c0 steps = some c)
    (t0 t1 : Rat) (h01 : t0 ≤ t1) :
    (admittedWithin t0 t1 c.log : Rat) ≤ (p.burst : Rat) + (t1 - t0) * K p + q * K p := by
  obtain ⟨nows, hs, hle⟩ := exec_refines A p c0 hc hl h0 hp steps c hex
  exact Rat.le_trans (Rat.natCast_le_natCast.2 (hle t0 t1)) (c06_upper_window hA hV c0.lim hI0 nows hs t0 t1 h01)

/-- the case `Sys.init`: no caller has invoked `TryAcquire` yet -/
theorem c06_concurrent {A : Arith} {q D : Rat} (hA : ArithOK A q D) {p : Params} (hV : Valid p q D)
    (s0 : State) (hI0 : Inv A p s0) (clock0 : Rat) (h0 : s0.last ≤ clock0)
    (steps : List Step) (c : Sys) (hex : Sys.exec A p (Sys.init s0 clock0) steps = some c)
    (t0 t1 : Rat) (h01 : t0 ≤ t1) :
    (admittedWithin t0 t1 c.log : Rat) ≤ (p.burst : Rat) + (t1 - t0) * K p + q * K p :=
  c06_concurrent_from hA hV (Sys.init s0 clock0) hI0 rfl rfl h0 (fun _ hx => nomatch hx) steps c hex t0 t1 h01

/-- the same as the integer bound the harness applies to the real code: `boundInt` = `⌈burst + qps·T⌉ + ⌊qps/10^9⌋`
    (the second term is 0 below 10^9 per second) -/
theorem c06_concurrent_judge {A : Arith} {q D : Rat} (hA : ArithOK A q D) (hq : q ≤ 1) {p : Params}
    (hV : Valid p q D) (s0 : State) (hI0 : Inv A p s0) (clock0 : Rat) (h0 : s0.last ≤ clock0)
    (steps : List Step) (c : Sys) (hex : Sys.exec A p (Sys.init s0 clock0) steps = some c)
    (t0 t1 : Rat) (h01 : t0 ≤ t1) :
    (admittedWithin t0 t1 c.log : Int) ≤ boundInt p (t1 - t0) :=
  le_boundInt hV.limit_pos hq (c06_concurrent hA hV s0 hI0 clock0 h0 steps c hex t0 t1 h01)

/-- The mutex is needed. If clock readings reach the bucket out of order — a caller overtaken between
    `clock.Now()` and the bucket update, the defect of findings/C06-stale-clock-overadmit — the bound fails:
    `qps = 1, burst = 1`, readings `T0, T0+1s, T0 (stale), T0+1s` admit 3 within one second (bound 2). -/
theorem c06_unserialised_overadmits :
    let p := paramsOf 1 1
    let T0 : Rat := 63900000000000000000
    let ev := trace Arith.ns p State.init [T0, T0 + 1000000000, T0, T0 + 1000000000]
    ev.map (·.2) = [true, true, false, true] ∧
    (countIn T0 (T0 + 1000000000) ev : Int) = 3 ∧ boundInt p 1000000000 = 2 := by
  decide +kernel

/-! ## lower bound -/

/-- **Never stricter than configured**: from any state satisfying the invariant, after `now - s.last` without a
    call, the next `k` calls are admitted whenever `k ≤ burst` and `k ≤ qps·idle` — whatever their (later)
    timestamps. Holds exactly, also with the nanosecond truncation. -/
theorem c06_lower {A : Arith} {q D : Rat} (hA : ArithOK A q D) {p : Params} (hV : Valid p q D)
    (s : State) (hI : Inv A p s) (now : Rat) (rest : List Rat) (h : s.last ≤ now)
    (k : Nat) (hkB : (k : Rat) ≤ (p.burst : Rat)) (hkT : (k : Rat) ≤ (now - s.last) * K p) :
    refusedAmong k (trace A p s (now :: rest)) = 0 :=
  refusedAmong_zero hA hV k now rest s hI hkB (idle_level hA hV hI h hkB hkT)

/-- the run-time judge `lowerOK` (with no slack) holds on every trace with non-decreasing clock readings:
    after every gap, `min(burst, ⌊qps·gap⌋)` calls are admitted -/
theorem c06_lower_judge {A : Arith} {q D : Rat} (hA : ArithOK A q D) {p : Params} (hV : Valid p q D)
    (nows : List Rat) (s : State) (prev : Rat) (hI : Inv A p s) (hp : s.last ≤ prev) (hs : sortedFrom prev nows) :
    lowerOK p 0 prev (trace A p s nows) = true :=
  lowerOK_trace hA hV nows s prev hI hp hs

/-- a new bucket (`rate.NewLimiter`: no tokens, the zero time) is full at any real date: its first `burst` calls
    are admitted as soon as the clock is `burst/qps` past the zero time -/
theorem c06_fresh_full {A : Arith} {q D : Rat} (hA : ArithOK A q D) {p : Params} (hV : Valid p q D)
    (now : Rat) (rest : List Rat) (hnow : (p.burst : Rat) ≤ now * K p) :
    refusedAmong p.burst.toNat (trace A p State.init (now :: rest)) = 0 := by
  have h0 : (0 : Rat) ≤ now := by
    refine Rat.not_lt.1 fun h => ?_
    have := Rat.mul_lt_mul_of_pos_right h (K_pos hV.limit_pos)
    have hb := burst_nonneg' hV.burst_nonneg
    grind
  have hc : ((p.burst.toNat : Nat) : Rat) = (p.burst : Rat) := by
    rw [← Rat.intCast_natCast, Int.toNat_of_nonneg hV.burst_nonneg]
  refine c06_lower hA hV State.init (inv_init A p hV.burst_nonneg) now rest h0 _ (Std.le_of_eq hc) ?_
  rw [hc]
  exact Rat.le_trans hnow (mul_le_mul_K hV.limit_pos (by show now ≤ now - 0; grind_linarith))

/-! ## Resize -/

/-- unchanged parameters: `Resize` answers `false` and the bucket (its tokens, its clock) is untouched:
    no extra burst from re-applying the same schema -/
theorem c06_resize_same (b : Bucket) : b.resize b.qps b.burst = (false, b) :=
  resize_same b

/-- changed parameters: a fresh limiter (full at its first call, `c06_fresh_full`) with the new parameters -/
theorem c06_resize_changed (b : Bucket) (n burst : Nat) (h : b.qps ≠ n ∨ b.burst ≠ burst) :
    b.resize n burst = (true, Bucket.new n burst) :=
  resize_changed b n burst h

/-- a bucket with `qps = 0` admits nothing (`if f.qps == 0 { return false }`) -/
theorem c06_qps_zero (A : Arith) (b : Bucket) (h : b.qps = 0) (now : Rat) : b.tryAcquire A now = (false, b) :=
  tryAcquire_qps_zero A b h now

/-! ## the parameters the real code builds are valid -/

theorem f32_exact (n : Nat) (h : n ≤ 16777216) : f32 n = n := by
  simp [f32, h]

/-- every `(qps, burst)` with `qps ≥ 1` that fits `uint32` (what `Resize` takes; schemas are `int32`) gives a valid
    limiter configuration: the saturation of `Time.Sub` and the overflow of `time.Duration` are out of reach -/
theorem c06_params_valid (qps burst : Nat) (hq : 1 ≤ qps) (hb : burst < 4294967296) :
    Valid (paramsOf qps burst) 1 (maxDuration : Rat) := by
  refine valid_of_one_le (Rat.natCast_le_natCast.2 (f32_pos qps hq)) (Int.natCast_nonneg burst) ?_
  have h1 : ((burst : Int) : Rat) ≤ ((4294967295 : Int) : Rat) := Rat.intCast_le_intCast.2 (by omega)
  have h2 := Rat.add_le_add_right (c := 1) |>.2 (Rat.mul_le_mul_of_nonneg_right h1 (c := 1000000000) (by decide))
  exact Rat.le_trans h2 (by decide +kernel)

/-- **The statement, in the schema's own numbers** (`1 ≤ qps ≤ 2^24` so that `float32(qps)` is exact,
    `burst < 2^32`), for the library's arithmetic, a new bucket and any call list with non-decreasing clock
    readings: in every window of `T = t1 − t0` nanoseconds at most `burst + qps·(T + 1)/10^9` are admitted. -/
theorem c06_schema_upper (qps burst : Nat) (hq : 1 ≤ qps) (hq' : qps ≤ 16777216) (hb : burst < 4294967296)
    (nows : List Rat) (hs : sortedFrom 0 nows) (t0 t1 : Rat) (h01 : t0 ≤ t1) :
    (countIn t0 t1 (trace Arith.ns (paramsOf qps burst) State.init nows) : Rat)
      ≤ (burst : Rat) + (qps : Rat) * ((t1 - t0 + 1) / 1000000000) := by
  have h := c06_upper_ns (c06_params_valid qps burst hq hb) nows hs t0 t1 h01
  have hK : K (paramsOf qps burst) = (qps : Rat) / 1000000000 := by
    unfold K paramsOf; simp only [f32_exact qps hq']
  have hB : (((paramsOf qps burst).burst : Int) : Rat) = (burst : Rat) := by
    show ((((burst : Nat) : Int)) : Rat) = (burst : Rat)
    exact Rat.intCast_natCast burst
  rw [hK, hB] at h
  have : (t1 - t0 + 1) * ((qps : Rat) / 1000000000) = (qps : Rat) * ((t1 - t0 + 1) / 1000000000) := by
    rw [Rat.div_def, Rat.div_def]; grind_linarith
  rw [this] at h
  exact h

/-! ## whole histories of a `resizeableTokenBucket`: the judge the harness applies to the real code -/

/-- **C06 for whole histories, the library's arithmetic**: a bucket created with any `(qps, burst)` in `uint32`
    range, any sequence of `TryAcquire` (non-decreasing clock readings from the zero time on, real dates or not)
    and `Resize` (bursts in `uint32` range): the judge, with no slack, finds nothing. Includes `qps = 0` (admits
    nothing). -/
theorem c06_history (qps burst : Nat) (hb : burst < 4294967296) (ops : List Op) (hf : opsFit ops)
    (hs : sortedFrom 0 (opTimes ops)) :
    judgeGo 0 qps burst [] allTrue (observe Arith.ns (Bucket.new qps burst) ops) = allTrue :=
  judge_history ns_ok Rat.le_refl c06_params_valid ops (Bucket.new qps burst) [] 0 hb hf Rat.le_refl hs
    (segInv_new Arith.ns qps burst 0)

/-! ## which limiter is in force after any history of reconfigurations -/

/-- **After every history** of `UpstreamLimiter.Sync`s with legal specs (distinct names; exactly one local member per
    schema, a `global*` member only next to its local one; any strategy) interleaved with requests — the same name
    changing type in any direction, being deleted and re-added, carrying a global bucket or not — no `Sync`
    dereferences nil, the last synced spec is in force, and **every schema of it is served by a limiter of its own
    type with its configured LOCAL parameters** (`allInForce`; the model of `NewFlowControl`, `localWrapper.Sync`,
    `syncLocalFlowControls`). -/
theorem c06_in_force (A : Arith) (ops : List ULOp) (hl : opsLegal ops = true) :
    ∃ u, UL.runOps A UL.init ops = some u ∧ u.current = lastSpec [] ops ∧ allInForce ratOps u = true := by
  obtain ⟨u, hrun, hu, hcur⟩ := ul_runOps_ok A ops UL.init hl ulInv_init
  exact ⟨u, hrun, hcur, allInForce_of_inv u hu⟩

/-- spelled out for a token-bucket schema: the limiter serving it is a token bucket with exactly
    `(tokenBucket.qps, tokenBucket.burst)` — whatever else the schema carries (`globalTokenBucket`, strategy) and
    whatever served that name before -/
theorem c06_in_force_token_bucket (A : Arith) (ops : List ULOp) (hl : opsLegal ops = true)
    (n : Nat) (s : Schema) (hm : (n, s) ∈ lastSpec [] ops) (q b : Nat) (htb : s.tb = some (q, b)) :
    ∃ u bk, UL.runOps A UL.init ops = some u ∧ u.load n = some (.tb bk) ∧ bk.qps = q ∧ bk.burst = b := by
  obtain ⟨u, hrun, hu, hcur⟩ := ul_runOps_ok A ops UL.init hl ulInv_init
  obtain ⟨hs, hok⟩ := served_of_inv hu (show (n, s) ∈ u.current from hcur ▸ hm)
  obtain ⟨bk, hbk, hq, hb⟩ := tb_of_inForce hs htb hok
  exact ⟨u, bk, hrun, hbk, hq, hb⟩

/-- what the dispatcher gets for a policy that names a configured token-bucket schema is that schema's bucket with its
    local numbers — never the built-in exempt limiter, whatever the name is and whatever other names exist beside it -/
theorem c06_lookup_configured (A : Arith) (ops : List ULOp) (hl : opsLegal ops = true)
    (n : Nat) (s : Schema) (hm : (n, s) ∈ lastSpec [] ops) (q b : Nat) (htb : s.tb = some (q, b)) :
    ∃ u bk, UL.runOps A UL.init ops = some u ∧ u.getOrDefault (some n) = .tb bk ∧ bk.qps = q ∧ bk.burst = b := by
  obtain ⟨u, bk, hrun, hload, hq, hb⟩ := c06_in_force_token_bucket A ops hl n s hm q b htb
  exact ⟨u, bk, hrun, by simp [UL.getOrDefault, hload], hq, hb⟩

/-! ## every request is charged, whatever the server classified it as -/

/-- **The dispatcher charges every request shape**: what is forwarded and what is answered 429 is exactly what the
    schema's bucket answers to one `TryAcquire` per request, independent of verb, subresource, resource /
    non-resource, long-running or upgrade: the forwarded requests of any mix of shapes are the admitted calls of
    `Bucket.runOps` on the acquires alone. That `observe`, which `c06_history` judges, records the answers of
    `Bucket.runOps` is read off the two definitions; no theorem states it. (A seeded change that skipped
    `TryAcquire` for long-running requests is what the end-to-end shape stream of the harness reports.) -/
theorem c06_every_shape_charged (A : Arith) :
    ∀ (reqs : List (ReqShape × Rat)) (b : Bucket),
      dispatchRun A b reqs = Bucket.runOps A b (reqs.map fun x => Op.acquire x.2)
  | [], _ => rfl
  | (r, now) :: rest, b => by
    simp only [dispatchRun, dispatch, List.map_cons, Bucket.runOps, Bucket.step]
    rw [c06_every_shape_charged A rest (b.tryAcquire A now).2]

/-! ## non-vacuity: the hypotheses are satisfiable by a concrete, non-trivial bucket -/

/-- `qps = 3`, `burst = 10` -/
def p310 : Params := paramsOf 3 10

example : Valid p310 1 (maxDuration : Rat) :=
  ⟨by decide +kernel, by decide +kernel, by decide +kernel⟩

example : Inv Arith.ns p310 State.init := inv_init _ _ (by decide +kernel)

/-- 12 calls at one instant in 2025, then one 333333333 ns later: 10 admitted, the 11th and 12th refused,
    the 13th admitted by the nanosecond truncation (the ideal bucket refuses it) -/
example : (run Arith.ns p310 State.init
    [63900000000000000000, 63900000000000000000, 63900000000000000000, 63900000000000000000,
     63900000000000000000, 63900000000000000000, 63900000000000000000, 63900000000000000000,
     63900000000000000000, 63900000000000000000, 63900000000000000000, 63900000000000000000,
     63900000000333333333]).1
    = [true, true, true, true, true, true, true, true, true, true, false, false, true] := by decide +kernel

example : (run Arith.ideal p310 State.init
    [63900000000000000000, 63900000000000000000, 63900000000000000000, 63900000000000000000,
     63900000000000000000, 63900000000000000000, 63900000000000000000, 63900000000000000000,
     63900000000000000000, 63900000000000000000, 63900000000000000000, 63900000000000000000,
     63900000000333333333]).1
    = [true, true, true, true, true, true, true, true, true, true, false, false, false] := by decide +kernel

/-- two callers interleaved with the clock: caller 0 reads the clock, time passes while it holds the mutex,
    caller 1 waits; both are admitted (burst 10) and logged with invocation, clock reading and return time -/
example : (Sys.exec Arith.ns p310 (Sys.init State.init 63900000000000000000)
      [.call 0, .call 1, .lock 0, .now, .tick 5, .reserve, .tick 2, .ret, .lock 1, .now, .reserve, .ret]).map
        (fun c => c.log.map fun d => (d.start, d.now, d.fin, d.ok))
    = some [(63900000000000000000, 63900000000000000007, 63900000000000000007, true),
            (63900000000000000000, 63900000000000000000, 63900000000000000007, true)] := by decide +kernel

/-- the mutex excludes: caller 1 cannot take it while caller 0 holds it -/
example : Sys.exec Arith.ns p310 (Sys.init State.init 0) [.call 0, .call 1, .lock 0, .lock 1] = none := by
  decide +kernel

/-- a legal history with a type change, a global bucket and a request -/
example : opsLegal
    [.sync [(1, { exempt := false, mi := some 5, gmi := none, tb := none, gtb := none, strategy := 0 })],
     .sync [(1, { exempt := false, mi := none, gmi := none, tb := some (5, 10), gtb := some (1000, 2000), strategy := 2 })],
     .acquire 1 63900000000000000000] = true := by decide

end KG.Props.C06
