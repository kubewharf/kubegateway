import KG.Lemmas.Forward
/-!
# C04 — Forwarding fidelity and gateway-terminated answers

Every theorem is about `KG.Model.Forward` (the mirror of dispatcher.go / upgradeaware.go / reverseproxy.go /
termination.go / upstreaminfo.go and of the `net/url` functions on the way) and the judges of `KG.Spec.Forward`.
They quantify over all byte strings, all header maps, all scenarios.

The two full statements that findings C04-invalid-raw-byte-reencoded and C04-requestinfo-error-plain-500 (notes/C04.md)
refuted of earlier trees are theorems of the model of the repaired code: `PathFidelityFull` (`c04_path_full`) and
`c04_terminated_status`.
-/
namespace KG.Props.C04
open KG KG.Model.Forward KG.Spec.Forward KG.Lemmas.Forward

/-! ## request: path -/

/-- **FULL statement, every path the server accepts (no validity hypothesis; since 85b204e):** the path the transport writes
    is the client's escaped path with EXACTLY the bytes net/url rejects in `RawPath` (`"`, `{`, `|`, `<`, raw UTF-8, …)
    percent-encoded; every other byte and every escape the client wrote (`%2F`, `%2f`, `%25`, `%20`, `%41`, `//`, `;`, `+`,
    non-UTF-8 escapes, lower-case hex …) is forwarded as it is. -/
theorem c04_path_exact (p P : Str) (hp : hasPrefixSlash p = true) (h : unescape .path p = some P) :
    pathPipeline p = some (escapeInvalidPathBytes p) :=
  pathPipeline_exact p P hp h

/-- … so a valid RFC 3986 path (only pchars, `/` and percent escapes) is forwarded byte for byte -/
theorem c04_path_exact_valid (p P : Str) (hp : hasPrefixSlash p = true) (hv : validEncoded p = true)
    (h : unescape .path p = some P) : pathPipeline p = some p := by
  rw [pathPipeline_exact p P hp h, escapeInvalid_id p hv]

/-- the bytes `escapeInvalidPathBytes` leaves alone (regenerated from the source) are exactly those net/url accepts -/
theorem c04_escape_table (c : UInt8) : pathByteValid c = validEncodedByte c := pathByteValid_eq c

/-- Every accepted path, valid or not, reaches the upstream as a path that decodes to the same bytes. -/
theorem c04_path_decoded (p P : Str) (hp : hasPrefixSlash p = true) (h : unescape .path p = some P) :
    ∃ out, pathPipeline p = some out ∧ unescape .path out = some P :=
  ⟨_, pathPipeline_exact p P hp h, (encodes_escapeInvalid hp h).decodes⟩

/-- **every accepted path reaches the upstream as the same path up to RFC 3986 normalisation** (escapes of reserved bytes
    kept: `%2F` never becomes `/`). The FULL statement; finding C04-invalid-raw-byte-reencoded refuted it on the tree before
    85b204e (`/%2F"` ↦ `//%22`). -/
def PathFidelityFull : Prop :=
  ∀ p P out, hasPrefixSlash p = true → unescape .path p = some P → pathPipeline p = some out → rfcNorm out = rfcNorm p

theorem c04_path_full : PathFidelityFull := by
  intro p P out hp h ho
  rw [c04_path_exact p P hp h] at ho
  injection ho with ho
  rw [← ho]
  exact rfcNorm_escapeInvalid h

/-- the three path judges hold of the model's output on EVERY accepted path -/
theorem c04_path_judges (p P : Str) (hp : hasPrefixSlash p = true) (h : unescape .path p = some P) :
    ∃ out, pathPipeline p = some out ∧ pathExact p out = true ∧ pathDecoded p out = true ∧ pathNorm p out = true := by
  refine ⟨_, c04_path_exact p P hp h, ?_, ?_, ?_⟩
  · unfold pathExact
    by_cases hv : validEncoded p = true
    · simp [escapeInvalid_id p hv]
    · simp [hv]
  · unfold pathDecoded; simp [unescape_escapeInvalid h, h]
  · unfold pathNorm; simp [rfcNorm_escapeInvalid h]

/-- the witness of finding C04-invalid-raw-byte-reencoded: `/%2F"` arrives as `/%2F%22` -/
example : pathPipeline [47, 37, 50, 70, 34] = some [47, 37, 50, 70, 37, 50, 50] := by decide +kernel

/-! ## request: query -/

/-- The forwarded query (`Values.Encode` of the parsed query) parses to the same multimap: for every key the same
    values in the same order. Malformed pairs are dropped by both parses. -/
theorem c04_query_multimap (q : Str) (k : Str) :
    valuesOf k (parseQuery (encodeQuery (parseQuery q))) = valuesOf k (parseQuery q) := by
  rw [parseQuery_encodeQuery, valuesOf_regroup]

theorem c04_query_judge (q : Str) : queryOK q (encodeQuery (parseQuery q)) = true := by
  unfold queryOK
  simp only [List.all_eq_true, decide_eq_true_eq]
  intro k _
  exact c04_query_multimap q k

/-! ## request: headers -/
/-- **the code's hop-by-hop list is the specification's**: the regenerated `hopHeaders` of reverseproxy.go names
    exactly the headers of `specHop` -/
theorem c04_hop_list (k : Str) : k ∈ Gen.C04.hopHeaders ↔ k ∈ specHop := by
  have h1 : ∀ x ∈ Gen.C04.hopHeaders, x ∈ specHop := by decide +kernel
  have h2 : ∀ x ∈ specHop, x ∈ Gen.C04.hopHeaders := by decide +kernel
  exact ⟨h1 k, h2 k⟩

theorem ua_not_hop : kUserAgent ∉ specHop := by decide

theorem get?_stripHopByHop (h : Hdr) (k : Str) :
    (stripHopByHop h).get? k = if k ∈ connectionTokens h ∨ k ∈ specHop then none else h.get? k := by
  rw [stripHopByHop, removeHop, removeConnectionHeaders, get?_delAll, get?_delAll]
  simp only [c04_hop_list]
  split <;> split <;> simp_all

/-- **Request header fidelity**, per header name, for every header map without an empty value list (`WF`) and every client
    address (non-upgrade requests): the upstream sees exactly what `reqHdrExpected` says — end-to-end headers unchanged and in
    order, hop-by-hop and `Connection`-listed headers gone (with the `Te: trailers` exception), `X-Forwarded-For` folded and
    extended. -/
theorem c04_request_headers (h : Hdr) (ip : Option Str) (hw : WF h) (hup : upgradeType (director h) = []) (k : Str) :
    (outHeaders h ip).values k = reqHdrExpected h ip k := by
  -- the three steps before `X-Forwarded-For` (director, strip, `Te`) as one nested `if`
  have hg : ∀ x, (teStep h (stripHopByHop (director h))).get? x =
      if x = kTe ∧ headerValuesContainsToken (h.values kTe) kTrailers = true then some [kTrailers]
      else if x ∈ connectionTokens h ∨ x ∈ specHop then none
      else if x = kUserAgent ∧ h.get? kUserAgent = none then some [[]] else h.get? x := by
    intro x
    rw [get?_teStep, get?_stripHopByHop, get?_director, connectionTokens, values_director_connection, ← connectionTokens]
  have hxff : (teStep h (stripHopByHop (director h))).get? kXFF = if kXFF ∈ connectionTokens h then none else h.get? kXFF := by
    rw [hg]
    simp [show kXFF ≠ kTe by decide, show kXFF ∉ specHop by decide, show kXFF ≠ kUserAgent by decide]
  -- `hw` serves only the side condition of `values_xffStep`: the map it meets has no empty `X-Forwarded-For` list
  rw [outHeaders, hup, upgradeStep, if_neg (fun hc => hc rfl),
    values_xffStep _ _ _ (by rw [hxff]; split; exact nofun; exact hw kXFF), reqHdrExpected]
  split
  · rw [values_eq, hxff, apply_ite (Option.getD · []), ← values_eq]; rfl
  · rw [values_eq, hg, apply_ite (Option.getD · []), apply_ite (Option.getD · []), apply_ite (Option.getD · [])]; rfl

/-- a request that `UpgradeAwareHandler.ServeHTTP` sends down the reverse-proxy path (`httpstream.IsUpgradeRequest` is
    false) has no upgrade type in the reverse proxy's sense: the hypothesis of `c04_request_headers` holds -/
theorem c04_nonupgrade_has_no_upgrade_type (h : Hdr) (hnu : isUpgradeRequest h = false) : upgradeType (director h) = [] := by
  unfold upgradeType
  rw [values_director_connection, no_upgrade_token_of_not_upgrade h hnu]
  simp

/-- `c04_request_headers` under the condition the code itself tests -/
theorem c04_request_headers_nonupgrade (h : Hdr) (ip : Option Str) (hw : WF h) (hnu : isUpgradeRequest h = false) (k : Str) :
    (outHeaders h ip).values k = reqHdrExpected h ip k :=
  c04_request_headers h ip hw (c04_nonupgrade_has_no_upgrade_type h hnu) k

/-- an end-to-end header (not hop-by-hop, not listed in `Connection`, neither `X-Forwarded-For` nor `User-Agent`) reaches
    the upstream with the same values in the same order -/
theorem c04_request_end_to_end (h : Hdr) (ip : Option Str) (hw : WF h) (hup : upgradeType (director h) = []) (k : Str)
    (h1 : k ∉ specHop) (h2 : k ∉ connectionTokens h) (h3 : k ≠ kXFF) (h4 : k ≠ kUserAgent) :
    (outHeaders h ip).values k = h.values k := by
  rw [c04_request_headers h ip hw hup k]
  unfold reqHdrExpected
  have : k ≠ kTe := fun hk => h1 (hk ▸ by decide)
  simp [h1, h2, h3, h4, this]

/-- no hop-by-hop or `Connection`-listed header is forwarded (`Te` and `X-Forwarded-For`, which the proxy may set itself,
    apart: `c04_request_headers` says what becomes of them) -/
theorem c04_request_hop_removed (h : Hdr) (ip : Option Str) (hw : WF h) (hup : upgradeType (director h) = []) (k : Str)
    (h1 : k ∈ specHop ∨ k ∈ connectionTokens h) (h3 : k ≠ kXFF) (h4 : k ≠ kTe) :
    (outHeaders h ip).values k = [] := by
  rw [c04_request_headers h ip hw hup k]
  unfold reqHdrExpected
  simp [h3, h4, h1.symm]

/-- `X-Forwarded-For` is the prior values folded with ", " plus the client address -/
theorem c04_request_xff (h : Hdr) (ip : Str) (hw : WF h) (hup : upgradeType (director h) = [])
    (hl : kXFF ∉ connectionTokens h) :
    (outHeaders h (some ip)).values kXFF =
      match h.values kXFF with
      | [] => [ip]
      | p :: ps => [joinWith kCommaSpace (p :: ps) ++ kCommaSpace ++ ip] := by
  rw [c04_request_headers h (some ip) hw hup kXFF]
  unfold reqHdrExpected
  simp only [if_true, hl, if_false]
  cases h.values kXFF <;> rfl

/-- the header map the proxy handler receives from net/http + `WithAuthentication` is well-formed -/
theorem c04_parsed_headers_wf (lines : List (Str × Str)) : WF (afterAuthentication (parseHeaders lines)) :=
  wf_del _ _ (wf_parseHeaders lines)

/-! ## the whole forwarded request -/

/-- method, host and body are handed to the transport unchanged -/
theorem c04_request_method_host_body (r : Req) (u : UpReq) (h : forwardRequest r = some u) :
    u.method = r.method ∧ u.host = r.host ∧ u.body = r.body := by
  unfold forwardRequest at h
  cases ht : targetPipeline r.target with
  | none => simp [ht] at h
  | some t => simp [ht] at h; subst h; simp

/-- **Request fidelity**: for EVERY request with a slash-led path the gateway accepts (its escapes decode) that is
    not an upgrade request (the test `UpgradeAwareHandler.ServeHTTP` itself makes: no `Connection` value contains
    "upgrade"), the request handed to the upstream has the same method, host, body, the client's path bytes with
    exactly the bytes no URL may carry percent-escaped (`escapeInvalidPathBytes`, the identity on a valid path —
    see `c04_request_fidelity_valid`), a query that parses to the same multimap, and per header name the values
    `reqHdrExpected` prescribes. -/
theorem c04_request_fidelity (r : Req) (P : Str)
    (hp : hasPrefixSlash (cut 63 r.target).1 = true)
    (hd : unescape .path (cut 63 r.target).1 = some P)
    (hnu : isUpgradeRequest (afterAuthentication (parseHeaders r.lines)) = false) :
    ∃ u, forwardRequest r = some u ∧ u.method = r.method ∧ u.host = r.host ∧ u.body = r.body
      ∧ (cut 63 u.target).1 = escapeInvalidPathBytes (cut 63 r.target).1
      ∧ (∀ k, valuesOf k (parseQuery (cut 63 u.target).2) = valuesOf k (parseQuery (cut 63 r.target).2))
      ∧ (∀ k, u.headers.values k = reqHdrExpected (afterAuthentication (parseHeaders r.lines)) r.remoteIP k) := by
  have hpath := c04_path_exact _ P hp hd
  have h63 : (63 : UInt8) ∉ escapeInvalidPathBytes (cut 63 r.target).1 := fun hm =>
    absurd (List.all_eq_true.mp (escapeInvalid_valid (cut 63 r.target).1) 63 hm) (by decide)
  generalize escapeInvalidPathBytes (cut 63 r.target).1 = q at hpath h63
  have hcut : ∀ q' : Str, cut 63 (if q' = [] then q else q ++ [63] ++ q') = (q, q') := by
    intro q'
    split
    · simpa [‹q' = []›, cut] using cut_append 63 q [] h63
    · simpa [cut] using cut_append 63 q (63 :: q') h63
  refine ⟨_, by unfold forwardRequest targetPipeline; rw [hpath], rfl, rfl, rfl, ?_, fun k => ?_, fun k => ?_⟩
  · simp only [hcut]
  · simp only [hcut]; exact c04_query_multimap _ k
  · exact c04_request_headers_nonupgrade _ _ (c04_parsed_headers_wf r.lines) hnu k

/-- a request the model forwards had a path whose escapes decode (that is what "the gateway accepts the path" means) -/
theorem c04_forwarded_decodes (r : Req) (u : UpReq) (h : forwardRequest r = some u) :
    ∃ P, unescape .path (cut 63 r.target).1 = some P := by
  cases hd : unescape .path (cut 63 r.target).1 with
  | some P => exact ⟨P, rfl⟩
  | none => simp [forwardRequest, targetPipeline, pathPipeline, setPath, hd] at h

/-- `c04_request_fidelity` on a valid path: the escaped path bytes are the client's, byte for byte -/
theorem c04_request_fidelity_valid (r : Req) (P : Str)
    (hp : hasPrefixSlash (cut 63 r.target).1 = true) (hv : validEncoded (cut 63 r.target).1 = true)
    (hd : unescape .path (cut 63 r.target).1 = some P)
    (hnu : isUpgradeRequest (afterAuthentication (parseHeaders r.lines)) = false) :
    ∃ u, forwardRequest r = some u ∧ u.method = r.method ∧ u.host = r.host ∧ u.body = r.body
      ∧ (cut 63 u.target).1 = (cut 63 r.target).1
      ∧ (∀ k, valuesOf k (parseQuery (cut 63 u.target).2) = valuesOf k (parseQuery (cut 63 r.target).2))
      ∧ (∀ k, u.headers.values k = reqHdrExpected (afterAuthentication (parseHeaders r.lines)) r.remoteIP k) := by
  have h := c04_request_fidelity r P hp hd hnu
  rw [escapeInvalid_id _ hv] at h
  exact h

/-! ## response -/

/-- **Response header fidelity**, per header name, for every upstream header map with distinct keys (a parsed one:
    `nodup_upstreamResponseHeaders`): the client sees what the gateway's own filters put there, then the upstream's values in
    order — unless the name is hop-by-hop or listed in the upstream's `Connection`. -/
theorem c04_response_headers (pre up : Hdr) (hn : up.keys.Nodup) (k : Str) :
    (relayHeaders pre up).values k = respHdrExpected pre up k := by
  have hs : (stripHopByHop up).keys.Nodup := nodup_keys_delAll _ _ (nodup_keys_delAll _ _ hn)
  rw [relayHeaders, respHdrExpected, ← stripHopByHop, values_copyHeader _ _ _ hs, values_eq (stripHopByHop up),
    get?_stripHopByHop, apply_ite (Option.getD · [])]
  rfl

/-- **Response fidelity**: status and body are relayed unchanged, every end-to-end header of the upstream reaches the
    client in order, and the only values added are the gateway-owned ones of `preHeaders`. -/
theorem c04_response_fidelity (closeWhenIdle : Bool) (status : Nat) (lines : List (Str × Str)) (body : Str) :
    (relayResponse closeWhenIdle status lines body).status = status ∧
    (relayResponse closeWhenIdle status lines body).body = body ∧
    ∀ k, (relayResponse closeWhenIdle status lines body).headers.values k =
      respHdrExpected (preHeaders closeWhenIdle) (upstreamResponseHeaders lines) k := by
  -- unfolding `relayResponse` closes the status and body conjuncts; `⟨rfl, rfl, …⟩` would make the unifier unfold the whole relay
  -- to match the headers' equation
  simp only [relayResponse, true_and]
  exact c04_response_headers _ _ (nodup_upstreamResponseHeaders lines)

/-- the gateway-owned allow-list: the only names `preHeaders` ever sets are `Cache-Control` and `Connection` (to `close`) -/
theorem c04_response_allow_list (closeWhenIdle : Bool) (k : Str) (hk : k ≠ kCacheControl) (hc : k ≠ kConnection) :
    (preHeaders closeWhenIdle).values k = [] := by
  cases closeWhenIdle <;> simp [preHeaders, values_eq, get?_cons, get?_nil, hk, hc]

theorem c04_response_connection_close_only (closeWhenIdle : Bool) :
    (preHeaders closeWhenIdle).values kConnection = if closeWhenIdle then [kClose] else [] := by
  cases closeWhenIdle <;> decide

/-! ## response: time -/

/-- the construction of the transport a forwarded request is sent with, as regenerated from pkg/clusters/endpoint.go: the
    fields `newTransport` sets, the function the literal is handed to, and no later assignment to a time-out field -/
theorem c04_transport_construction :
    Gen.C04.transportFields.map (·.1) = ["Proxy", "TLSHandshakeTimeout", "TLSClientConfig", "MaxIdleConnsPerHost", "DialContext", "DisableCompression"] ∧
    Gen.C04.transportDurationsMs = [("TLSHandshakeTimeout", 10000)] ∧
    Gen.C04.transportWrap = "utilnet.SetTransportDefaults" ∧ Gen.C04.timeoutAssignments = [] := by decide +kernel

/-- the time-outs of `newRESTConfig` and of the two dialers (they bound connecting, and the clientset's own requests) -/
theorem c04_rest_config_timeouts :
    Gen.C04.restConfigDurationsMs = [("Timeout", 5000)] ∧ Gen.C04.restDialerMs = [("Timeout", 5000), ("KeepAlive", 30000)] ∧
    Gen.C04.fallbackDialerMs = [("Timeout", 30000), ("KeepAlive", 30000)] := by decide +kernel

/-- **the code has no deadline for the answer of a forwarded request**: the transport literal sets no field that bounds the
    wait for a response, and no time-out filter is in the chain -/
theorem c04_no_response_deadline :
    codeDeadlines.responseHeader = none ∧
    (∀ f, f ∈ responseDeadlineFields → f ∉ Gen.C04.transportFields.map (·.1)) ∧
    (∀ f, f ∈ timeoutFilters → f ∉ Gen.C04.proxyChainNames) := by decide +kernel

/-- **Fidelity for every delay**: whenever the upstream answers — however long it waits before the status line, between
    header and body, between pieces of the body — the client gets the relayed answer (and `c04_response_fidelity` says what
    that is): the relay has no deadline of its own. -/
theorem c04_relay_every_delay (t : Timing) (closeWhenIdle : Bool) (status : Nat) (lines : List (Str × Str)) (body : Str) :
    relayTimed codeDeadlines t closeWhenIdle status lines body = .relayed (relayResponse closeWhenIdle status lines body) := by
  unfold relayTimed
  rw [c04_no_response_deadline.1]

theorem c04_response_fidelity_timed (t : Timing) (closeWhenIdle : Bool) (status : Nat) (lines : List (Str × Str)) (body : Str) :
    ∃ r, relayTimed codeDeadlines t closeWhenIdle status lines body = .relayed r ∧ r.status = status ∧ r.body = body ∧
      ∀ k, r.headers.values k = respHdrExpected (preHeaders closeWhenIdle) (upstreamResponseHeaders lines) k :=
  ⟨_, c04_relay_every_delay t closeWhenIdle status lines body, c04_response_fidelity closeWhenIdle status lines body⟩

/-- For ANY deadlines (what a tree with a response-header time-out would do): every delay below the deadline is relayed in full … -/
theorem c04_relay_below_deadline (dl : Deadlines) (t : Timing) (closeWhenIdle : Bool) (status : Nat) (lines : List (Str × Str)) (body : Str)
    (h : ∀ d, dl.responseHeader = some d → t.beforeStatus < d) :
    relayTimed dl t closeWhenIdle status lines body = .relayed (relayResponse closeWhenIdle status lines body) := by
  unfold relayTimed
  cases hd : dl.responseHeader with
  | none => rfl
  | some d =>
    have := h d hd
    simp only
    rw [if_neg (by omega)]

/-- … and a header that comes at or after the deadline ends the exchange with the gateway's own 502: nothing is relayed
    although the request was forwarded — which is why the property needs `c04_no_response_deadline` -/
theorem c04_relay_deadline_terminates (dl : Deadlines) (t : Timing) (d : Nat) (closeWhenIdle : Bool) (status : Nat)
    (lines : List (Str × Str)) (body : Str) (hd : dl.responseHeader = some d) (h : d ≤ t.beforeStatus) :
    relayTimed dl t closeWhenIdle status lines body = .gatewayError := by
  unfold relayTimed
  rw [hd]
  simp only
  rw [if_pos h]

/-- delays after the header never matter, whatever the deadlines -/
theorem c04_relay_later_delays_irrelevant (dl : Deadlines) (t t' : Timing) (h : t.beforeStatus = t'.beforeStatus)
    (closeWhenIdle : Bool) (status : Nat) (lines : List (Str × Str)) (body : Str) :
    relayTimed dl t closeWhenIdle status lines body = relayTimed dl t' closeWhenIdle status lines body := by
  unfold relayTimed
  rw [h]

/-- non-vacuity: a tree whose transport had `ResponseHeaderTimeout: cfg.Timeout` (5 s) would answer a 201 that comes after 6 s
    with its own 502, and relay one that comes after 4 s -/
example : relayTimed ⟨durationOf "ResponseHeaderTimeout" [("TLSHandshakeTimeout", 10000), ("ResponseHeaderTimeout", 5000)]⟩
    ⟨6000, 0, []⟩ false 201 [] [] = .gatewayError := by decide +kernel
example : relayTimed ⟨durationOf "ResponseHeaderTimeout" [("TLSHandshakeTimeout", 10000), ("ResponseHeaderTimeout", 5000)]⟩
    ⟨4000, 3000, [3000]⟩ false 201 [] [] = .relayed (relayResponse false 201 [] []) := by decide +kernel

/-! ## gateway-terminated answers -/

theorem retryAfter_pos : 0 < Gen.C04.retryAfter := by decide
theorem unavailableRetryAfter_pos : 0 < Gen.C04.unavailableRetryAfter := by decide

theorem c04_dispatcher_table (s : Scenario) : dispatcher s = tableDispatch s := by
  rw [dispatcher, tableDispatch]
  by_cases hr : s.resource = Gen.C04.rateLimitExemptResource
  · rw [if_pos hr, if_neg (not_not_intro hr)]; rfl
  · rw [if_neg hr, if_pos hr]; rfl

/-- the model of the chain computes the closed-form decision table -/
theorem c04_decision_table (s : Scenario) : serve s = table s := by
  -- the table is the nest of gates of `serve_eq`, with the authentication and impersonation rows written twice (IP-literal host or not)
  rw [serve_eq, c04_dispatcher_table, table]
  cases s.hostIsIP <;> cases s.imp <;> rfl

/-- a `Status` object (kind, apiVersion, `status: Failure`) whose code is the HTTP code -/
def wellFormedAnswer (a : Answer) : Prop :=
  a.body.kind = kStatus ∧ a.body.apiVersion = kV1 ∧ a.body.status = kFailure ∧ a.body.code = a.httpCode

/-- every answer the gateway writes through `TerminateWithError` / `ErrorNegotiated` is a well-formed `Status` whose
    code is the HTTP code -/
theorem c04_terminated_wellformed (s : Scenario) (a : Answer) (h : serve s = .terminated a) : wellFormedAnswer a := by
  -- every gate of the chain answers through `errorNegotiated` (`terminateWithError e` unfolds to it), whose Status is well-formed
  have step : ∀ {fail e hdr next}, gate fail (errorNegotiated e hdr) next = .terminated a →
      (next = .terminated a → wellFormedAnswer a) → wellFormedAnswer a :=
    fun h hn => (gate_cases h).elim (fun ha => ha.2 ▸ ⟨rfl, rfl, rfl, rfl⟩) fun hn' => hn hn'.2
  rw [serve_eq] at h
  refine step h fun h => step h fun h => step h fun h => step h fun h => step h fun h => step h fun h => ?_
  split at h
  · cases h
  · rw [dispatcher_eq] at h
    exact step h fun h => step h fun h => step h nofun

/-- … and, seen as an observation with nothing forwarded, satisfies the harness's judges (`matchesRow a (obsOfAnswer a)` holds of
    every `a`, without `h`: `obsOfAnswer` copies the answer; so do the "nothing forwarded" parts of `wellFormed`) -/
theorem c04_terminated_judges (s : Scenario) (a : Answer) (h : serve s = .terminated a) :
    wellFormed (obsOfAnswer a) = true ∧ matchesRow a (obsOfAnswer a) = true := by
  obtain ⟨h1, h2, h3, h4⟩ := c04_terminated_wellformed s a h
  simp [wellFormed, matchesRow, obsOfAnswer, h1, h2, h3, h4]

/-! ### the rows, one by one -/

/-- an unresolvable RequestInfo (`GET /api/v1/proxy`, `/api/v1/watch`) is a 500 `Status`, whatever else holds -/
theorem c04_row_requestinfo_error (s : Scenario) (h0 : s.requestInfoOK = false) :
    ∃ a, serve s = .terminated a ∧ a.httpCode = 500 ∧ a.retryAfter = none ∧ a.body.reason = kInternalError := by
  rw [c04_decision_table]; unfold table; simp [h0]

theorem c04_row_unknown_cluster (s : Scenario) (h0 : s.requestInfoOK = true) (h1 : s.hostIsIP = false) (h2 : s.clusterKnown = false) :
    ∃ a, serve s = .terminated a ∧ a.httpCode = 503 ∧ a.retryAfter = some Gen.C04.unavailableRetryAfter := by
  rw [c04_decision_table]; unfold table tableDispatch; simp [h0, h1, h2]

theorem c04_row_deny_all (s : Scenario) (h0 : s.requestInfoOK = true) (h1 : s.hostIsIP = false) (h2 : s.clusterKnown = true) (h3 : s.denyAll = true) :
    ∃ a, serve s = .terminated a ∧ a.httpCode = 429 ∧ a.retryAfter = none := by
  rw [c04_decision_table]; unfold table tableDispatch; simp [h0, h1, h2, h3]

theorem c04_row_unauthenticated (s : Scenario) (h0 : s.requestInfoOK = true) (h1 : s.hostIsIP = false) (h2 : s.clusterKnown = true)
    (h3 : s.denyAll = false) (h4 : s.authOK = false) :
    ∃ a, serve s = .terminated a ∧ a.httpCode = 401 := by
  rw [c04_decision_table]; unfold table tableDispatch; simp [h0, h1, h2, h3, h4]

/-- malformed impersonation headers (no `Impersonate-User`) are answered with a 500 `Status` (since e67e36e) -/
theorem c04_row_impersonation_malformed (s : Scenario) (h0 : s.requestInfoOK = true) (h1 : s.hostIsIP = false) (h2 : s.clusterKnown = true)
    (h3 : s.denyAll = false) (h4 : s.authOK = true) (h5 : s.imp = .malformed) :
    ∃ a, serve s = .terminated a ∧ a.httpCode = 500 ∧ a.body.reason = kInternalError := by
  rw [c04_decision_table]; unfold table tableDispatch; simp [h0, h1, h2, h3, h4, h5]

theorem c04_row_impersonation_refused (s : Scenario) (h0 : s.requestInfoOK = true) (h1 : s.hostIsIP = false) (h2 : s.clusterKnown = true)
    (h3 : s.denyAll = false) (h4 : s.authOK = true) (h5 : s.imp = .refused) :
    ∃ a, serve s = .terminated a ∧ a.httpCode = 403 := by
  rw [c04_decision_table]; unfold table tableDispatch; simp [h0, h1, h2, h3, h4, h5]

theorem c04_row_no_policy (s : Scenario) (h0 : s.requestInfoOK = true) (h1 : s.hostIsIP = false) (h2 : s.clusterKnown = true)
    (h3 : s.denyAll = false) (h4 : s.authOK = true) (h5 : s.imp = .none ∨ s.imp = .allowed) (h6 : s.policyMatches = false) :
    ∃ a, serve s = .terminated a ∧ a.httpCode = 500 := by
  rw [c04_decision_table]; unfold table tableDispatch
  rcases h5 with h5 | h5 <;> simp [h0, h1, h2, h3, h4, h5, h6]

theorem c04_row_rate_limited (s : Scenario) (h0 : s.requestInfoOK = true) (h1 : s.hostIsIP = false) (h2 : s.clusterKnown = true)
    (h3 : s.denyAll = false) (h4 : s.authOK = true) (h5 : s.imp = .none ∨ s.imp = .allowed) (h6 : s.policyMatches = true)
    (h7 : s.acquireOK = false) :
    ∃ a, serve s = .terminated a ∧ a.httpCode = 429 ∧
      a.retryAfter = (if s.resource = Gen.C04.rateLimitExemptResource then none else some Gen.C04.retryAfter) := by
  rw [c04_decision_table]; unfold table tableDispatch
  rcases h5 with h5 | h5 <;> simp [h0, h1, h2, h3, h4, h5, h6, h7]

theorem c04_row_no_ready_endpoint (s : Scenario) (h0 : s.requestInfoOK = true) (h1 : s.hostIsIP = false) (h2 : s.clusterKnown = true)
    (h3 : s.denyAll = false) (h4 : s.authOK = true) (h5 : s.imp = .none ∨ s.imp = .allowed) (h6 : s.policyMatches = true)
    (h7 : s.acquireOK = true) (h8 : s.popOK = false) :
    ∃ a, serve s = .terminated a ∧ a.httpCode = 503 ∧ a.retryAfter = some Gen.C04.unavailableRetryAfter := by
  rw [c04_decision_table]; unfold table tableDispatch
  rcases h5 with h5 | h5 <;> simp [h0, h1, h2, h3, h4, h5, h6, h7, h8]

/-- a request is forwarded exactly when no row terminates it -/
theorem c04_forward_iff (s : Scenario) :
    serve s = .forward ↔ (s.requestInfoOK = true ∧ s.hostIsIP = false ∧ s.clusterKnown = true ∧ s.denyAll = false ∧ s.authOK = true
      ∧ (s.imp = .none ∨ s.imp = .allowed) ∧ s.policyMatches = true ∧ s.acquireOK = true ∧ s.popOK = true) := by
  rw [serve_eq, dispatcher_eq]
  cases s.hostIsIP <;> cases s.imp <;> simp [gate_eq_iff (o := .forward) nofun]

/-- only an IP-literal Host is handed to the control plane -/
theorem c04_not_proxied_iff (s : Scenario) :
    serve s = .notProxied ↔ (s.requestInfoOK = true ∧ s.hostIsIP = true ∧ s.authOK = true ∧ (s.imp = .none ∨ s.imp = .allowed)) := by
  rw [serve_eq, dispatcher_eq]
  cases s.hostIsIP <;> cases s.imp <;> simp [gate_eq_iff (o := .notProxied) nofun]

/-- **FULL statement (refuted by finding C04-requestinfo-error-plain-500 on the tree before bd02b39): every request is
    forwarded, handed to the control plane (IP-literal Host), or answered with a well-formed API `Status`** — there is no other
    outcome, whether or not the RequestInfo resolves (e67e36e and bd02b39: malformed impersonation and an unresolvable
    RequestInfo get a Status). -/
theorem c04_terminated_status (s : Scenario) :
    serve s = .forward ∨ serve s = .notProxied ∨ ∃ a, serve s = .terminated a ∧ wellFormedAnswer a := by
  cases h : serve s with
  | forward => exact Or.inl rfl
  | notProxied => exact Or.inr (Or.inl rfl)
  | terminated a => exact Or.inr (Or.inr ⟨a, rfl, c04_terminated_wellformed s a h⟩)

theorem c04_every_outcome (s : Scenario) :
    serve s = .forward ∨ serve s = .notProxied ∨ ∃ a, serve s = .terminated a ∧ wellFormedAnswer a :=
  c04_terminated_status s

/-! ## regenerated facts: the structure the models were written against -/

/-- the filter order `serve` composes: request info → termination metrics → extra request info → upstream info →
    reader/writer wrapper → authentication → impersonation → dispatcher, cache control outside -/
theorem c04_chain_order : chainOrderOK Gen.C04.proxyChain = true := by decide +kernel

/-- in `dispatcher.ServeHTTP` every terminating call is immediately followed by `return`, and the proxy call is the
    last step: every early return precedes forwarding, nothing is forwarded on a terminated path -/
theorem c04_dispatcher_early_returns : skeletonOK Gen.C04.dispatcherSteps = true := by decide +kernel

theorem c04_upstreamInfo_early_returns : skeletonOK Gen.C04.upstreamInfoSteps = true := by decide +kernel

/-- the dispatcher and the upstream-info filter still have the shape the model mirrors: the error constructor of every
    branch in order, the position of `TryAcquire`, the deferred `Release`, `Pop` (`shapeOf`: reasons and context guards are
    not compared) -/
theorem c04_dispatcher_shape : shapeOf Gen.C04.dispatcherSteps = shapeOf expectedDispatcherSteps := by decide +kernel
theorem c04_upstreamInfo_shape : shapeOf Gen.C04.upstreamInfoSteps = shapeOf expectedUpstreamInfoSteps := by decide +kernel

/-- `WithRequestInfo` is the gateway's own filter: a resolver error is written with `ErrorNegotiated(NewInternalError)` and
    followed by `return`; the chain hands it the serializer (third argument) -/
theorem c04_requestInfo_shape :
    Gen.C04.requestInfoSteps = expectedRequestInfoSteps ∧ skeletonOK Gen.C04.requestInfoSteps = true ∧
    Gen.C04.requestInfoCallArgs = 3 := by decide +kernel

/-- what `dispatcher.ServeHTTP` hands to the proxy as the escaped path, by role (whatever the helper functions are called and
    however the URL is built): the RawPath of the upstream URL is a same-file function of the incoming RawPath, and that
    function leaves alone letters, digits and the regenerated punctuation — which `c04_escape_table` proves to be net/url's
    own test. (The byte-for-byte behaviour is tied by the end-to-end streams on every run.) -/
theorem c04_location_rawpath : Gen.C04.locationRawPathEscaped = true ∧ Gen.C04.validPathAlnum = true := by decide

/-- end-to-end names that the specification's hop-by-hop list `specHop` (the code's, by `c04_hop_list`) must not hold -/
theorem c04_hop_list_sound :
    ∀ k ∈ [kXFF, kUserAgent, kAuthorization, kContentType, kCacheControl, kAcceptEncoding, kContentLength, kDate],
      k ∉ specHop := by decide +kernel

/-! ## non-vacuity -/

/-- the hypotheses of `c04_request_fidelity` hold of a concrete request with an escaped slash, a query with a
    duplicate key and a malformed pair, a `Connection`-listed header and a `Te` header -/
example :
    let r : Req := { method := [71, 69, 84], target := [47, 97, 37, 50, 70, 98, 63, 98, 61, 50, 38, 97, 61, 49, 38, 97, 61, 37, 122],
                     host := [104], lines := [(kConnection, [120, 45, 102]), ([120, 45, 102], [49]), (kTe, kTrailers)],
                     body := [], remoteIP := some [49] }
    hasPrefixSlash (cut 63 r.target).1 = true ∧ validEncoded (cut 63 r.target).1 = true
      ∧ unescape .path (cut 63 r.target).1 = some [47, 97, 47, 98]
      ∧ isUpgradeRequest (afterAuthentication (parseHeaders r.lines)) = false := by decide +kernel

/-- a forward scenario and a terminated one exist -/
example : serve ⟨true, false, true, false, true, .none, true, true, [], true⟩ = .forward := by decide
example : serve ⟨true, false, true, false, true, .none, true, false, [], true⟩
    = .terminated ⟨429, some 1, ⟨kStatus, kV1, kFailure, kTooManyRequests, 429⟩⟩ := by decide

end KG.Props.C04
