import KG.Lemmas.K8sStore
/-!
# C19 — API-backed limiter store: acknowledged state survives crashes, per shard

Model: `KG.Model.K8sStore` (`pkg/ratelimiter/store/k8s/cache_store.go` over the local cache and an API stand-in with
a fault script consumed call by call; crash points = the API after every call). Judge: `KG.Spec.K8sStore`.

The property, for EVERY history of operations (incl. restarts = crashes between operations), EVERY fault script,
EVERY crash point, every iteration order of the cache (every hint given to `arrange`), every shard function:

* `c19_durable` — at every crash point the API honours every claim the history has made so far
  (`KG.Spec.K8sStore.judge`): a condition whose write-through `Save` was acknowledged is persisted with that spec
  and status until somebody saves/deletes it again (or another writer removes it); after `Stop`/`Flush` answered
  nil every local condition of the shard is persisted; a condition whose `Delete`/`DeleteUpstream` was
  acknowledged is absent — during and after every later flush, save of other conditions, load, restart — until it
  is saved again (no resurrection). Calls of other goroutines landing inside a running flush are part of the
  histories, as far as the store mutex lets them (`allowedHist`; lock facts regenerated from the source:
  `genLocks_good`) — except `Load` and the in-place `saveStored`, which no lock keeps out and the histories leave out by
  assumption (`KG.Spec.K8sStore.allowedIntr`).
* `c19_ack_persisted`, `c19_delete_durable`, `c19_deleteUpstream_durable`, `c19_stop_flushes` — the same facts at the
  moment the operation answers, without any assumption on the state (`Stop`: of a store not yet stopped, on a cache
  that is coherent).
* `c19_load_exact`, `c19_crash_points_nodup` — a fresh store that `Load`s at any crash point holds exactly the
  persisted conditions of its shard (names being unique in the API the history started from); `c19_load_covers` — a
  `Load` into a cache that already holds something.
* `c19_no_resurrection`, `c19_no_resurrection_upstream` — no resurrection once more, for one deleted name and without
  the assumptions of `c19_durable` on the history: any operations and any calls inside flushes that do not save the name.
* `c19_save_inside_flush_refuted`, `c19_delete_inside_flush_refuted` — what the two repairs of `/repo` (53e64a0,
  4930fff) prevent: were a write-through `Save` / a `Delete` able to run inside a flush, the property would fail.
-/
namespace KG.Props.C19
open KG KG.Model.K8sStore KG.Spec.K8sStore KG.Lemmas.K8sStore

/-- The lock facts extracted from the current source: flush, `Delete`, `DeleteUpstream` and the write-through
    `Save` hold the store mutex. (Fails to check when one of these locks is removed.) -/
theorem genLocks_good : GoodLocks genLocks := ⟨rfl, rfl, rfl, rfl⟩

/-- The served API stores the status submitted to the main resource (the control plane registers
    `ratelimitconditions` with `subStatus = false`), as `Api.write` assumes. (Fails to check when the registry wiring
    gives the resource a status-subresource strategy: every acknowledged Save would then lose its status.) -/
theorem api_persists_status : servedKeepsStatus = true := rfl

/-- With these locks, what the histories place inside a running flush is a periodic `Save` (cache only).
    `allowedIntr` is what the mutex lets in less `Load` and `saveStored`: no lock keeps out a `Load` or a periodic
    `saveStored`, the histories leave them out by assumption. -/
theorem c19_only_periodic_saves_inside (wt : Bool) (intr : Op) (h : allowedIntr genLocks wt intr = true) :
    ∃ k c, intr = .save k c ∧ wt = false :=
  allowed_save genLocks_good h

/-- `up` is any function giving the upstream of a condition name (the limiter's names are
    `<upstream>.<instance>` / `<upstream>.state`): every operation uses the condition's upstream as cache key, and
    the API starts with conditions named that way, each listed one being what its name looks up (`ApiWf`). -/
theorem c19_durable (sh : Str → Nat) (up : Str → Str) (L : Locks) (hL : GoodLocks L)
    (shard : Nat) (wt : Bool) (steps : Nat) (api0 : Api) (script : List Fault) (ops : List OpI)
    (hapi : ApiWf up api0) (hops : ∀ op ∈ ops, OpIWf up op) (hallowed : allowedHist L wt ops = true) :
    ∀ p ∈ checkAll sh (newStore shard wt steps) Ghost.empty ⟨api0, script, []⟩ ops, judge p.1 p.2 = true := by
  intro p hp
  rw [judge_iff]
  exact checkAll_ok hL ops (newStore shard wt steps) Ghost.empty ⟨api0, script, []⟩ (Inv.empty hapi) hops hallowed p hp

/-- the main theorem with the lock facts extracted from `/repo` (`genLocks`) -/
theorem c19_durable_repo (sh : Str → Nat) (up : Str → Str)
    (shard : Nat) (wt : Bool) (steps : Nat) (api0 : Api) (script : List Fault) (ops : List OpI)
    (hapi : ApiWf up api0) (hops : ∀ op ∈ ops, OpIWf up op) (hallowed : allowedHist genLocks wt ops = true) :
    ∀ p ∈ checkAll sh (newStore shard wt steps) Ghost.empty ⟨api0, script, []⟩ ops, judge p.1 p.2 = true :=
  c19_durable sh up genLocks genLocks_good shard wt steps api0 script ops hapi hops hallowed

/-! ## At the moment the operation answers (no assumption on the state) -/

/-- Write-through: `Save` answers nil ⇒ the API holds that condition's spec and status (whatever the state,
    the fault script, the retries taken). -/
theorem c19_ack_persisted (sh : Str → Nat) (st st' : Store) (k : Str) (c : Cond) (w w' : World)
    (hwt : st.cfg.writeThrough = true) (h : save sh st k c w = (st', w', .ok)) :
    holdsData w'.api c.name c.data = true := by
  obtain ⟨_, -, -, -, hh⟩ := (save_spec h).2.ok
  exact (holdsData_iff ..).2 (hh hwt)

/-- … and the cache then holds, under that key and name, a condition with that spec and status (its other metadata and
    resourceVersion are those of the object `createOrUpdate` returned). The statement carries `hwt`, which the proof does not
    use: the same holds of a periodic `Save`. -/
theorem c19_ack_cached (sh : Str → Nat) (st st' : Store) (k : Str) (c : Cond) (w w' : World)
    (hwt : st.cfg.writeThrough = true) (h : save sh st k c w = (st', w', .ok)) :
    ∃ c', lget k c.name st'.loc = some c' ∧ c'.data = c.data := by
  obtain ⟨c', -, hc', rfl, -⟩ := (save_spec h).2.ok
  exact ⟨c', by simp [lget, lput, sameKey, hc'.1], hc'.2⟩

/-- The limiter's pattern for conditions it keeps (`<upstream>.state`, reported conditions): `Get` the stored
    pointer, change it in place, `Save` that pointer. Write-through, answer nil ⇒ the API holds the condition AS
    EDITED (the content at the time of the acknowledgement) — a `Save` may not skip the write because the argument
    "equals" what is cached: the cached object IS the argument. -/
theorem c19_ack_persisted_stored (sh : Str → Nat) (st st' : Store) (k n : Str) (a b c : Nat) (w w' : World)
    (hwt : st.cfg.writeThrough = true) (h : step sh st (.saveStored k n a b c) w = (st', w', .ok)) :
    ∃ st1 c', edited st k n a b c = some (st1, c') ∧ c'.name = n ∧ c'.spec = a ∧ c'.status = b ∧
      holdsData w'.api n c'.data = true := by
  rcases saveStored_spec h with ⟨-, -, -, hres⟩ | ⟨c0, c', -, hn0, rfl, hE, hS⟩
  · cases hres
  · exact ⟨_, _, hE, hn0, rfl, rfl, hn0 ▸ c19_ack_persisted sh _ st' k _ w w' (by exact hwt) hS⟩

/-- a `Save` that answers an error (or refuses a condition of another shard) leaves the cache as it was -/
theorem c19_failed_save_not_cached (sh : Str → Nat) (st st' : Store) (k : Str) (c : Cond) (w w' : World) (res : Res)
    (hres : res ≠ .ok) (h : save sh st k c w = (st', w', res)) : st' = st :=
  (save_spec h).2.failed hres

/-- `Delete` answers nil ⇒ the condition is not in the API, nor in the cache under that key -/
theorem c19_delete_durable (st st' : Store) (k n : Str) (w w' : World) (h : delete st k n w = (st', w', .ok)) :
    w'.api.get n = none ∧ lget k n st'.loc = none := by
  obtain ⟨rfl, habs⟩ := (delete_spec h).2.ok
  refine ⟨habs, ?_⟩
  simp only [lget, Option.map_eq_none_iff, List.find?_eq_none]
  intro e he
  simpa [sameKey] using (mem_ldel.1 he).2

/-- `DeleteUpstream` answers nil ⇒ none of its conditions is in the API, and the cache has none under that key -/
theorem c19_deleteUpstream_durable (st st' : Store) (k : Str) (ord : List (Str × Str)) (w w' : World)
    (h : deleteUpstream st k ord w = (st', w', .ok)) :
    (∀ e ∈ llistUp k st.loc, w'.api.get e.2.name = none) ∧ llistUp k st'.loc = [] := by
  obtain ⟨rfl, habs⟩ := (deleteUpstream_spec h).2.ok
  exact ⟨habs, by simp [llistUp, ldelUp, List.filter_filter]⟩

/-- a `Delete` that answers an error leaves the store (cache included) as it was -/
theorem c19_failed_delete_keeps_cache (st st' : Store) (k n : Str) (w w' : World) (e : Err)
    (h : delete st k n w = (st', w', .err e)) : st' = st :=
  (delete_spec h).2.failed nofun

/-- `Stop` of a store that was not stopped answers nil ⇒ every local condition of the shard is persisted with its
    spec and status (write-through or periodic; for every visiting order and fault script). `Coherent`: the cache
    does not hold two different conditions under one name (part of the invariant that the histories of `c19_durable`
    keep: `Inv.coh`). -/
theorem c19_stop_flushes (sh : Str → Nat) (st st' : Store) (ord : List (Str × Str)) (w w' : World)
    (hst : st.stopped = false) (hcoh : Coherent st.loc) (h : stop sh st ord w = (st', w', .ok)) :
    (∀ e ∈ st.loc, sh e.2.upstream = st.cfg.shard → holdsData w'.api e.2.name e.2.data = true) ∧ st'.stopped = true := by
  rcases stop_spec h with ⟨hst', -⟩ | ⟨-, -, ho⟩
  · rw [hst] at hst'; cases hst'
  · obtain ⟨rfl, hok⟩ := ho.ok
    exact ⟨fun e he hown => (holdsData_iff ..).2 (hok hcoh e he hown), rfl⟩

/-- the same for an explicit `Flush` (what the periodic goroutine runs) -/
theorem c19_flush_flushes (sh : Str → Nat) (st st' : Store) (ord : List (Str × Str)) (w w' : World)
    (hcoh : Coherent st.loc) (h : flush sh st ord w = (st', w', .ok)) :
    ∀ e ∈ st.loc, sh e.2.upstream = st.cfg.shard → holdsData w'.api e.2.name e.2.data = true := by
  obtain ⟨-, -, hok⟩ := flush_spec h
  exact fun e he hown => (holdsData_iff ..).2 (hok rfl hcoh e he hown)

/-! ## What the next holder of a shard loads -/

/-- "A server that gains a shard loads exactly the persisted conditions of that shard, and nothing of other
    shards": a fresh store whose `Load` answers nil caches exactly `persistedOf shard` of the API it listed, each
    condition under its upstream. (`ApiNodup`: every crash point of every history has it, `c19_crash_points_nodup`.) -/
theorem c19_load_exact (sh : Str → Nat) (shard : Nat) (wt : Bool) (steps : Nat) (w w' : World) (st' : Store)
    (hn : ApiNodup w.api) (h : load sh (newStore shard wt steps) w = (st', w', .ok)) :
    w'.api = w.api ∧ ∀ e, e ∈ st'.loc ↔ e.1 = e.2.upstream ∧ e.2 ∈ persistedOf sh shard w.api := by
  obtain ⟨-, hsame, ho⟩ := load_spec h
  obtain rfl := ho.ok
  refine ⟨hsame, fun e => ?_⟩
  simp only [newStore]
  rw [mem_loadAll sh shard w.api.objs [] hn, mem_persistedOf]
  constructor
  · rintro (⟨h, -⟩ | ⟨c, hc, hown, rfl⟩)
    · cases h
    · exact ⟨rfl, hc, hown⟩
  · rintro ⟨hk, hc, hown⟩
    exact .inr ⟨e.2, hc, hown, Prod.ext hk rfl⟩

/-- **`Load` wins over what the cache held.** Whatever the store cached before (e.g. a periodic `Save` that reached a
    store handed out before it was loaded — the `startLeading` window), after `Load` answered nil EVERY persisted
    condition of the shard is in the cache exactly as persisted. (That no older entry stays under the same key and name
    to shadow it is the other direction of `mem_loadAll`; it is not part of this statement.) -/
theorem c19_load_covers (sh : Str → Nat) (st st' : Store) (w w' : World)
    (hn : ApiNodup w.api) (h : load sh st w = (st', w', .ok)) :
    ∀ c ∈ persistedOf sh st.cfg.shard w.api, (c.upstream, c) ∈ st'.loc := by
  obtain rfl := (load_spec h).2.2.ok
  intro c hc
  obtain ⟨hc, hown⟩ := mem_persistedOf.1 hc
  exact (mem_loadAll sh st.cfg.shard w.api.objs st.loc hn).2 (.inr ⟨c, hc, hown, rfl⟩)

/-- a `Load` that fails leaves the fresh store empty (the limiter then drops the store) -/
theorem c19_load_failed (sh : Str → Nat) (shard : Nat) (wt : Bool) (steps : Nat) (w w' : World) (st' : Store) (e : Err)
    (h : load sh (newStore shard wt steps) w = (st', w', .err e)) : st'.loc = [] := by
  rw [(load_spec h).2.2.failed nofun]
  rfl

/-- at whatever point the previous holder crashed: every crash point of every history (any operations, any
    intruders, any fault script) keeps names unique, so `c19_load_exact` applies to it -/
theorem c19_crash_points_nodup (sh : Str → Nat) : ∀ (ops : List OpI) (st : Store) (w : World),
    ApiNodup w.api → (∀ p ∈ w.trace, ApiNodup p.api) →
    (∀ p ∈ (runAll sh st w ops).2.trace, ApiNodup p.api) ∧ ApiNodup (runAll sh st w ops).2.api :=
  runAll_crash_points (fun _ it h => nodup_write it h) (fun _ n h => nodup_remove n h)

/-! ## No resurrection, spelled out -/

/-- A flush (any visiting order, any faults) does not create a condition that is neither in the API nor in the
    cache — at none of its crash points. With `c19_delete_durable` and `c19_delete_uncached` (after an acknowledged
    `Delete` by the limiter the condition is in neither) and the store mutex (no deletion lands between the flush's
    snapshot and its writes: `genLocks_good`) this is "a deleted condition is not re-created by a flush";
    `c19_no_resurrection` and `c19_durable` carry it through whole histories. -/
theorem c19_flush_does_not_resurrect (sh : Str → Nat) (st st' : Store) (ord : List (Str × Str)) (w w' : World) (res : Res)
    (n : Str) (hapi : w.api.get n = none) (hloc : ∀ e ∈ st.loc, ¬ e.2.name = n)
    (h : flush sh st ord w = (st', w', res)) :
    (∀ p ∈ newPts w w', p.api.get n = none) ∧ w'.api.get n = none := by
  obtain ⟨-, hr, -⟩ := flush_spec h
  exact path_absent hr.path (fun it ⟨e, he, hit⟩ hn => hloc e he (hit.1.symm.trans hn)) hapi

/-- after an acknowledged `Delete` by the limiter (key = the name's upstream) no cached condition carries the name -/
theorem c19_delete_uncached (up : Str → Str) (st st' : Store) (k n : Str) (w w' : World)
    (hwf : LocWf up st.loc) (hk : k = up n) (h : delete st k n w = (st', w', .ok)) : ∀ e ∈ st'.loc, ¬ e.2.name = n := by
  obtain ⟨rfl, -⟩ := (delete_spec h).2.ok
  exact ldel_uncached hwf hk

/-- **No resurrection, through whole histories.** After `Delete(k, n)` answered nil (issued as the limiter does:
    `k` is the upstream of the name), whatever follows — saves of other conditions, flushes with any visiting order
    (with other goroutines' calls inside them), stops, deletions, loads, restarts, under any fault script — `n` is
    in the API at none of the crash points, as long as nobody saves `n` again. (The deletion itself is an operation
    of the history, not a call inside a flush: that is what the store mutex guarantees, `genLocks_good`.) -/
theorem c19_no_resurrection (sh : Str → Nat) (up : Str → Str) (st st1 : Store) (w w1 : World) (k n : Str) (ops : List OpI)
    (hwf : LocWf up st.loc) (hk : k = up n) (hdel : delete st k n w = (st1, w1, .ok))
    (hnosave : ∀ op ∈ ops, ¬ savesNameI n op) :
    (∀ p ∈ newPts w1 (runAll sh st1 w1 ops).2, p.api.get n = none) ∧ (runAll sh st1 w1 ops).2.api.get n = none :=
  runAll_absent ops st1 w1 (c19_delete_durable st st1 k n w w1 hdel).1 (c19_delete_uncached up st st1 k n w w1 hwf hk hdel)
    hnosave

/-- the same after `DeleteUpstream(k)`, for each of its conditions -/
theorem c19_no_resurrection_upstream (sh : Str → Nat) (up : Str → Str) (st st1 : Store) (w w1 : World) (k : Str)
    (ord : List (Str × Str)) (ops : List OpI) (hwf : LocWf up st.loc)
    (hdel : deleteUpstream st k ord w = (st1, w1, .ok)) (e : Str × Cond) (he : e ∈ llistUp k st.loc)
    (hnosave : ∀ op ∈ ops, ¬ savesNameI e.2.name op) :
    (∀ p ∈ newPts w1 (runAll sh st1 w1 ops).2, p.api.get e.2.name = none) ∧
      (runAll sh st1 w1 ops).2.api.get e.2.name = none := by
  obtain ⟨rfl, hapi⟩ := (deleteUpstream_spec hdel).2.ok
  exact runAll_absent ops _ w1 (hapi e he) (ldelUp_uncached hwf he) hnosave

/-! ## Why the locks are needed: kernel-checked witnesses -/

namespace Witness
def k : Str := [99]                                     -- upstream "c"
def n : Str := [99, 46, 105]                            -- condition "c.i"
def v1 : Cond := ⟨n, k, 1, 1, 0, 0⟩
def v2 : Cond := ⟨n, k, 2, 2, 0, 0⟩
def other : Cond := ⟨[99, 46, 115], k, 7, 7, 0, 0⟩       -- condition "c.s"
def sh : Str → Nat := fun _ => 0
def up : Str → Str := fun _ => k
def empty : Api := ⟨[], 1⟩
/-- write-through: `Save(v1)`; `Stop()` in whose window another goroutine's `Save(v2)` is acknowledged -/
def racingSave : List OpI := [.plain (.save k v1), .stopI [] 0 (.save k v2)]
/-- periodic: `Save(v1)`, `Flush()`; a `Flush()` in whose window another goroutine's `Delete` is acknowledged -/
def racingDelete : List OpI := [.plain (.save k v1), .plain (.flush []), .flushI [] 0 (.delete k n)]
/-- periodic, faults, a crash: allowed by the locks of the current source -/
def allowed : List OpI :=
  [.plain (.save k v1), .plain (.save k other), .flushI [] 1 (.save k v2), .plain (.delete k n), .plain (.flush []),
   .plain (.restart 0 true), .plain .load, .plain (.save k v1), .plain (.saveStored k n 9 9 1), .plain (.stop [])]
def faults : List Fault :=
  [.conflict, .transient, .notFound, .ok, .ok, .ok, .conflict, .ok, .ok, .ok, .ok, .ok, .conflict, .ok, .ok, .ok, .lost]
end Witness

theorem apiWf_empty {up : Str → Str} {n : Nat} : ApiWf up ⟨[], n⟩ :=
  ⟨fun c hc => (by cases hc), fun c hc => (by cases hc)⟩

open Witness in
/-- What 53e64a0 prevents. If a write-through `Save` could land inside a running flush, the property would fail:
    `Save(v1)` acknowledged, `Stop()` snapshots `{v1}`, `Save(v2)` is acknowledged inside the window, the flush
    writes `v1` over it — the acknowledged `v2` is not persisted. -/
theorem c19_save_inside_flush_refuted :
    ApiWf up empty ∧ (∀ op ∈ racingSave, OpIWf up op) ∧
    (checkAll sh (newStore 0 true 5) Ghost.empty ⟨empty, [], []⟩ racingSave).any (fun p => ! judge p.1 p.2) = true :=
  ⟨apiWf_empty, by decide, by decide⟩

open Witness in
/-- … and the locks of the current source do not allow that history -/
theorem c19_racing_save_not_allowed : allowedHist genLocks true Witness.racingSave = false := by decide

open Witness in
/-- What 4930fff prevents. If a `Delete` could land inside a running flush, the flush would re-create the deleted
    condition from its snapshot. -/
theorem c19_delete_inside_flush_refuted :
    ApiWf up empty ∧ (∀ op ∈ racingDelete, OpIWf up op) ∧
    (checkAll sh (newStore 0 false 5) Ghost.empty ⟨empty, [], []⟩ racingDelete).any (fun p => ! judge p.1 p.2) = true :=
  ⟨apiWf_empty, by decide, by decide⟩

open Witness in
theorem c19_racing_delete_not_allowed : allowedHist genLocks false Witness.racingDelete = false := by decide

/-! ## The hypotheses are satisfiable by a non-trivial history (non-vacuity) -/

open Witness in
/-- a history with retries, a lost reply, a vanished object, a periodic `Save` inside a flush, a deletion, a crash,
    a new write-through holder and an in-place edit of a stored condition satisfies every hypothesis of `c19_durable_repo` … -/
example : ApiWf up empty ∧ (∀ op ∈ allowed, OpIWf up op) ∧ allowedHist genLocks false allowed = true :=
  ⟨apiWf_empty, by decide, by decide⟩

open Witness in
/-- … and its claims are not empty: at some crash point both a "persisted" and an "absent" claim are in force, at
    the end the condition re-saved and then edited in place (`saveStored`) is claimed persisted AS EDITED -/
example :
    let pts := checkAll sh (newStore 0 false 5) Ghost.empty ⟨empty, faults, []⟩ allowed
    pts.length = 27 ∧ pts.any (fun p => ! p.1.held.isEmpty && ! p.1.gone.isEmpty) = true ∧
    (pts.getLast?.map (fun p => p.1.held.any (fun h => h.1 == n && h.2.1 == (⟨k, 9, 9⟩ : Data) && h.2.2 == Why.ack))) = some true ∧
    pts.all (fun p => judge p.1 p.2) = true := by
  decide

end KG.Props.C19
