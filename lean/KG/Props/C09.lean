import KG.Model.RemoteLimiter
import KG.Spec.RemoteLimiter
import KG.Lemmas.RemoteLimiter
/-!
# C09 — Gateway never exceeds the global limit; falls back to the local limit on failure

All theorems are about `KG.Model.RemoteLimiter` (the executable model the harness compares with the real
`upstreamLimiter`, wrappers and `clientSets`) and the judge `KG.Spec.RemoteLimiter` (the same function the harness
applies to the implementation's observations).

Quantification: every operation list `ops` whose schema syncs carry schemas accepted by validation
(`validSchema`: one type, `0 ≤ local ≤ global ≤ 2^31-1`) of one type `K`, and whose meter readings have a positive
denominator. EVERYTHING else is arbitrary: any number and order of reconcile halves, answered items of any type,
strategy and value (any `Int`, so in particular every int32), acquire results with any accept flag, limit, error
kind, request time (stale, zero, negative, reordered) and request tokens, heartbeats at arbitrary times, shard-count
changes, limit and strategy changes of the schema — and missing replies (absent operations). In §8 (`AllowedAny`) the
type of the schemas may change between syncs as well.
-/
namespace KG.Props.C09
open KG.Model.RemoteLimiter KG.Spec.RemoteLimiter KG.Lemmas.RemoteLimiter KG.Gen.C09

/-- the operation lists the theorems quantify over -/
def Allowed (K : Kind) (ops : List Op) : Prop :=
  ∀ op ∈ ops, match op with
    | .schema s => validSchema s = true ∧ guessType s = K
    | .meter x => 0 < x.rateDen
    | _ => True

/-- operation lists whose schema syncs carry ANY schema accepted by validation — max-in-flight or token bucket, the
    type, the strategy and the limits may all change between syncs; everything else arbitrary as in `Allowed` -/
def AllowedAny (ops : List Op) : Prop :=
  ∀ op ∈ ops, match op with
    | .schema s => validSchema s = true
    | .meter x => 0 < x.rateDen
    | _ => True

theorem allowed_any {K : Kind} {ops : List Op} (h : Allowed K ops) : AllowedAny ops := by
  intro op hop
  have := h op hop
  cases op <;> first | exact this.1 | exact this | trivial

theorem Allowed.vs {K : Kind} {ops : List Op} {s : Schema} (h : Allowed K ops) (hs : Op.schema s ∈ ops) : VS K s :=
  (h _ hs).2 ▸ VS_of_valid (h _ hs).1

theorem allowedAny_ok {ops : List Op} (h : AllowedAny ops) : ∀ op ∈ ops, OpOK' op := by
  intro op hop
  have := h op hop
  cases op <;> first | exact ⟨_, VS_of_valid this⟩ | exact this

/-! ## 1. the whole judge, for every allowed operation list -/

/-- Whatever is answered, in whatever order: the model never panics, and the judge — every clause
    of the property: capacity within the configured global limit, type, fallback choice, local limit, readiness
    hysteresis, error fallback, recovery, stale replies ignored, granted quota applied — accepts the observation
    made after every single operation. -/
theorem c09_judge (K : Kind) (cfg : Cfg) (ops : List Op) (h : Allowed K ops) :
    (run cfg ops).2 = none ∧ (run cfg ops).1.length = ops.length ∧
      allGood (judgeAll cfg ops (run cfg ops).1) = true :=
  run_inv' ops K (initState cfg) {} (inv_init K cfg) (allowedAny_ok (allowed_any h))

/-! ## 2. capacity: never above the configured global limit -/

/-- every remote limiter ever observed (handed to requests or not) has the schema's type and is within any bound
    `G ≥ 0` that dominates the global limits of all schemas synced -/
theorem c09_cap (K : Kind) (cfg : Cfg) (G : Bound) (ops : List Op) (h : Allowed K ops)
    (hG : ∀ s, Op.schema s ∈ ops → BLe (globalOf s) G) (h0 : BLe {} G) :
    ∀ o ∈ (run cfg ops).1, ∀ l, o.rlim = some l → Lim.leb l G = true ∧ l.kind = K := by
  apply run_cap' (P := (· = K)) ops K (initState cfg) {} (inv_init K cfg) rfl ⟨h0, h0, fun s hs => by cases hs⟩
  intro op hop
  exact ⟨allowedAny_ok (allowed_any h) op hop, fun s hs => ⟨hG s (hs ▸ hop), (h (.schema s) (hs ▸ hop)).2⟩⟩

theorem zero_le_max : (0 : Int) ≤ maxInt32 := by decide

/-- **max-in-flight**: with global max-in-flight limits of at most `g`, the remote limiter's size is always in
    `[0, g]` — for one schema configuration `g` is its `globalMaxRequestsInflight.max` -/
theorem c09_cap_max_inflight (cfg : Cfg) (g : Int) (ops : List Op) (h : Allowed .mi ops)
    (hg : ∀ s, Op.schema s ∈ ops → ∀ x, s.gmi = some x → x ≤ g) (h0 : 0 ≤ g) :
    ∀ o ∈ (run cfg ops).1, ∀ l, o.rlim = some l → ∃ size, l = .mi size ∧ 0 ≤ size ∧ size ≤ g := by
  intro o ho l hl
  have hG : ∀ s, Op.schema s ∈ ops → BLe (globalOf s) ⟨g, maxInt32, maxInt32⟩ := by
    intro s hs
    cases h.vs hs with
    | mi st l0 g0 a0 a1 a2 =>
      exact ⟨by simpa [globalOf, Schema.globalMax] using hg _ hs g0 rfl, Int.le_refl _, Int.le_refl _⟩
  have h00 : BLe {} ⟨g, maxInt32, maxInt32⟩ := ⟨h0, zero_le_max, zero_le_max⟩
  obtain ⟨a, b⟩ := c09_cap .mi cfg _ ops h hG h00 o ho l hl
  cases l with
  | mi size =>
    simp only [Lim.leb, Bool.and_eq_true, decide_eq_true_eq] at a
    exact ⟨size, rfl, a.1, a.2⟩
  | exempt _ => simp [Lim.kind] at b
  | tb _ _ => simp [Lim.kind] at b

/-- **token bucket**: with global buckets of at most `(gq, gb)`, the remote bucket always has
    `0 ≤ qps ≤ gq` and `0 ≤ burst ≤ gb` -/
theorem c09_cap_token_bucket (cfg : Cfg) (gq gb : Int) (ops : List Op) (h : Allowed .tb ops)
    (hg : ∀ s, Op.schema s ∈ ops → ∀ x, s.gtb = some x → x.qps ≤ gq ∧ x.burst ≤ gb) (h0 : 0 ≤ gq) (h1 : 0 ≤ gb) :
    ∀ o ∈ (run cfg ops).1, ∀ l, o.rlim = some l →
      ∃ q u, l = .tb q u ∧ 0 ≤ q ∧ q ≤ gq ∧ 0 ≤ u ∧ u ≤ gb := by
  intro o ho l hl
  have hG : ∀ s, Op.schema s ∈ ops → BLe (globalOf s) ⟨maxInt32, gq, gb⟩ := by
    intro s hs
    cases h.vs hs with
    | tb st q b gq0 gb0 a0 a1 a2 a3 a4 a5 =>
      have := hg _ hs ⟨gq0, gb0⟩ rfl
      exact ⟨Int.le_refl _, by simpa [globalOf, Schema.globalQps] using this.1,
        by simpa [globalOf, Schema.globalBurst] using this.2⟩
  have h00 : BLe {} ⟨maxInt32, gq, gb⟩ := ⟨zero_le_max, h0, h1⟩
  obtain ⟨a, b⟩ := c09_cap .tb cfg _ ops h hG h00 o ho l hl
  cases l with
  | tb q u =>
    simp only [Lim.leb, Bool.and_eq_true, decide_eq_true_eq] at a
    exact ⟨q, u, rfl, a.1.1.1, a.1.1.2, a.1.2, a.2⟩
  | exempt _ => simp [Lim.kind] at b
  | mi _ => simp [Lim.kind] at b

/-- what is handed to a request is the default limiter (no schema yet), the local limiter, or that remote limiter -/
theorem c09_handed (cfg : Cfg) (st : State) :
    (observe cfg st).choice = load cfg st ∧
    ((observe cfg st).choice = .remote → (observe cfg st).lim = (observe cfg st).rlim) ∧
    ((observe cfg st).choice = .loc → (observe cfg st).lim = st.cache.bind (·.loc.fc)) := by
  refine ⟨observe_choice cfg st, ?_, ?_⟩
  · intro h
    rw [observe_choice] at h
    rw [observe_lim, observe_rlim, h]
  · intro h
    rw [observe_choice] at h
    rw [observe_lim, h]

/-! ## 3. fallback to the local limiter -/

/-- `Load` hands out the remote limiter only if the rate limiter type is remote, the strategy is a global one, a
    client set exists, the limiter server is ready and the remote limiter has been synced -/
theorem c09_fallback_choice (cfg : Cfg) (st : State) (h : load cfg st = .remote) :
    ∃ c, st.cache = some c ∧ cfg.rateLimiter = .remote ∧ c.loc.config.strategy ≠ .empty ∧
      c.loc.config.strategy ≠ .loc ∧ cfg.hasCS = true ∧ isReady st = true ∧ c.remote.isSome = true := by
  cases hc : st.cache with
  | none => rw [load_none hc] at h; cases h
  | some c =>
    rw [load_some hc] at h
    split at h
    · exact ⟨c, rfl, ‹_›⟩
    · cases h

/-- … and otherwise (schema known) it hands out the local limiter, never the unlimited default -/
theorem c09_fallback_local (cfg : Cfg) (st : State) (c : Cache) (hc : st.cache = some c)
    (h : cfg.rateLimiter ≠ .remote ∨ c.loc.config.strategy = .empty ∨ c.loc.config.strategy = .loc ∨
         cfg.hasCS = false ∨ isReady st = false ∨ c.remote = none) :
    load cfg st = .loc := by
  rw [load_some hc]
  refine if_neg (fun ⟨c1, c2, c3, c4, c5, c6⟩ => ?_)
  rcases h with h | h | h | h | h | h
  · exact h c1
  · exact c2 h
  · exact c3 h
  · rw [c4] at h; cases h
  · rw [c5] at h; cases h
  · rw [h] at c6; cases c6

/-- the limiter server is unknown (no shard count yet) or its shard has no heartbeat status yet (no heartbeat outcome,
    no leader published): not ready -/
theorem c09_unknown_server_not_ready (st : State) (h : st.shardCount = 0 ∨ st.hb = none) : isReady st = false := by
  unfold isReady
  rcases h with h | h
  · simp [h]
  · simp [h]

/-- in every state reached from the freshly constructed limiter (with the default construction parameters) the local
    limiter enforces exactly the local limit of the schema in force -/
theorem c09_local_limit (K : Kind) (cfg : Cfg) (ops : List Op) (h : Allowed K ops) (st : State)
    (hst : exec {} ops = some st) (c : Cache) (hc : st.cache = some c) :
    validSchema c.loc.config = true ∧ c.loc.fc = some (limOf c.loc.config) := by
  obtain ⟨st', m', K', e1, e2⟩ := exec_inv' ops K (initState {}) {} (inv_init K {}) (allowedAny_ok (allowed_any h))
  rw [show initState {} = {} from rfl, hst] at e1
  cases e1
  rcases e2.cases with ⟨h, -⟩ | ⟨c', s, h, -, hv, hloc, -, -, -⟩
  · rw [hc] at h; cases h
  · cases hc.symm.trans h
    rw [hloc]; exact ⟨(valid_of_VS hv).1, rfl⟩

/-! ## 4. the count strategy: error fallback, recovery, stale replies -/

/-- what the theorems below assume of a max-in-flight count wrapper: the part of `GInv` (for an item within an int32
    bound) that `SetLimit` rests on; a hypothesis, not derived from `Inv` here -/
structure MIWOK (w : MIW) : Prop where
  r0 : 0 ≤ w.reserve
  r1 : w.reserve ≤ w.max
  m1 : w.max ≤ maxInt32
  inner : ∃ sz, w.inner = .mi sz

/-- a fresh error reply (any error but `RequestIDTooOld`, the time-out of `resetCheck` included) while the server was
    considered available resizes to `min(max(observed, local), max)` — within `[0, max]` — and marks the outage -/
theorem c09_error_fallback (w : MIW) (hw : MIWOK w) (loc : Schema) (l obs : Int) (hl : loc.mi = some l) (h0 : 0 ≤ l)
    (r : Reply) (hfresh : ¬ (r.rt > 0 ∧ r.rt ≤ w.lastAcquireTime)) (herr : r.err = .other) (hu : w.unavail = false) :
    ∃ w', w.setLimit loc obs r = .ok w' ∧ w'.unavail = true ∧ w'.inner = .mi (miFallback obs l w.max) ∧
      0 ≤ miFallback obs l w.max ∧ miFallback obs l w.max ≤ w.max ∧ w'.max = w.max := by
  obtain ⟨sz, hin⟩ := hw.inner
  have hf := miFallback_range (obs := obs) h0 (by have := hw.r0; have := hw.r1; omega : 0 ≤ w.max)
  refine ⟨_, miw_setLimit_error loc obs hfresh herr hu, rfl, ?_, hf.1, hf.2, rfl⟩
  simp only [hl, Option.getD_some]
  exact resize_mi_of hin hf.1 (by have := hw.m1; omega)

/-- further errors during the outage, `RequestIDTooOld`, and replies whose request time is not newer than the last
    applied one change nothing -/
theorem c09_stale_ignored (w : MIW) (loc : Schema) (obs : Int) (r : Reply)
    (h : (r.rt > 0 ∧ r.rt ≤ w.lastAcquireTime) ∨ r.err = .tooOld ∨ (r.err = .other ∧ w.unavail = true)) :
    w.setLimit loc obs r = .ok w :=
  miw_setLimit_ignored w loc obs r h

/-- **recovery**: the next fresh accepted reply ends the outage and sets the capacity to the clamp of the granted
    limit to `[reserve, max]` -/
theorem c09_recover (w : MIW) (hw : MIWOK w) (loc : Schema) (obs : Int) (r : Reply)
    (hfresh : ¬ (r.rt > 0 ∧ r.rt ≤ w.lastAcquireTime)) (herr : r.err = .none) (ha : r.accept = true) :
    ∃ w', w.setLimit loc obs r = .ok w' ∧ w'.unavail = false ∧
      w'.inner = .mi (clampAccept r.limit w.reserve w.max) ∧
      w.reserve ≤ clampAccept r.limit w.reserve w.max ∧ clampAccept r.limit w.reserve w.max ≤ w.max ∧
      w'.lastAcquireTime = r.rt := by
  obtain ⟨sz, hin⟩ := hw.inner
  have hc := clampAccept_range (limit := r.limit) hw.r1
  refine ⟨_, miw_setLimit_accept loc obs hfresh herr ha, rfl, ?_, hc.1, hc.2.1, rfl⟩
  exact resize_mi_of hin (by have := hw.r0; omega) (by have := hw.m1; omega)

/-- `min(limit, max)` floored at 0: what a refused report applies -/
def refusedLimit (limit wmax : Int) : Int :=
  if (if limit > wmax then wmax else limit) < 0 then 0 else (if limit > wmax then wmax else limit)

/-- a refused report: the limit is applied bounded to `[0, max]` -/
theorem c09_refusal_bounded (w : MIW) (hw : MIWOK w) (loc : Schema) (obs : Int) (r : Reply)
    (hfresh : ¬ (r.rt > 0 ∧ r.rt ≤ w.lastAcquireTime)) (herr : r.err = .none) (ha : r.accept = false) :
    ∃ w', w.setLimit loc obs r = .ok w' ∧ w'.inner = .mi (refusedLimit r.limit w.max) ∧
      0 ≤ refusedLimit r.limit w.max ∧ refusedLimit r.limit w.max ≤ w.max ∧ w'.unavail = w.unavail := by
  obtain ⟨sz, hin⟩ := hw.inner
  have hn : 0 ≤ refusedLimit r.limit w.max ∧ refusedLimit r.limit w.max ≤ w.max :=
    bound_range r.limit w.max (by have := hw.r0; have := hw.r1; omega)
  refine ⟨_, miw_setLimit_refuse loc obs hfresh herr ha, ?_, hn.1, hn.2, rfl⟩
  show (w.inner.resize (toU32 (refusedLimit r.limit w.max)) 0).1 = _
  exact resize_mi_of hin hn.1 (by have := hw.m1; omega)

/-- token bucket, recovery: an accepted reply during an outage restores the bucket `(m.qps, m.burst)` that was in
    force before it -/
theorem c09_recover_token_bucket (w : TBW) (loc : Schema) (mt : Meter) (r : Reply) (q u : Int)
    (hin : w.inner = .tb q u) (herr : r.err = .none) (ha : r.accept = true) (hu : w.unavail = true) :
    ∃ w' b, w.setLimit loc mt r = .ok (w', b) ∧ w'.unavail = false ∧ w'.inner = .tb w.qps w.burst := by
  have hrec := recover_of_unavail (w := w.noteRequest r) (by simp [hu])
  refine ⟨_, _, tbw_setLimit_accept loc mt herr ha, ?_, ?_⟩
  · simp [TBW.addTokens, hrec]
  · simp [TBW.addTokens, hrec, hin]

/-! ## 5. readiness hysteresis -/

/-- the heartbeat status after a history (latest first), from a missing status -/
def hbFold : List (Bool × Int) → Option HB
  | [] => none
  | (ok, now) :: rest => some (hbStep ((hbFold rest).getD {}) ok now)

theorem hbFold_inv : ∀ h, HBInv (hbFold h) h
  | [] => rfl
  | (ok, now) :: rest => hbStep_inv (hbFold_inv rest) ok now

/-- `setLeaderStatus` computes exactly the declarative readiness `specReady` of the heartbeat history -/
theorem c09_ready_spec (h : List (Bool × Int)) :
    (match hbFold h with | some x => x.ready | none => false) = specReady h := by
  have := hbFold_inv h
  cases hf : hbFold h with
  | none => rw [hf] at this; simp only [HBInv] at this; rw [this]; rfl
  | some x => rw [hf] at this; exact this.2.1

/-- up on the first success -/
theorem c09_ready_up (t : Int) (rest : List (Bool × Int)) : specReady ((true, t) :: rest) = true := rfl

/-- down only after MORE than `ServerHeartBeatTimeout` of consecutive failure: if a failed heartbeat at `now` turns a
    ready status not ready, the current run of failed heartbeats started at some `t0` with `now > t0 + timeout` -/
theorem c09_ready_down_only_after_timeout (now : Int) (rest : List (Bool × Int)) (hup : specReady rest = true)
    (hdown : specReady ((false, now) :: rest) = false) :
    ∃ t0, failRunStart ((false, now) :: rest) = some t0 ∧ now > t0 + serverHeartBeatTimeout := by
  rw [specReady_false, hup] at hdown
  refine ⟨(failRunStart rest).getD now, failRunStart_false now rest, ?_⟩
  simpa using hdown

/-- … and it does go down then, and stays up before -/
theorem c09_ready_down_iff (now : Int) (rest : List (Bool × Int)) (hup : specReady rest = true) :
    specReady ((false, now) :: rest) = false ↔ now > (failRunStart rest).getD now + serverHeartBeatTimeout := by
  rw [specReady_false, hup]; simp

/-- after MORE than the time-out of consecutive failure the status is not ready, whatever it was before -/
theorem c09_not_ready_after_timeout (now t0 : Int) (rest : List (Bool × Int))
    (hrun : failRunStart ((false, now) :: rest) = some t0) (hlong : now > t0 + serverHeartBeatTimeout) :
    specReady ((false, now) :: rest) = false := by
  rw [failRunStart_false] at hrun
  have : (failRunStart rest).getD now = t0 := Option.some.inj hrun
  rw [specReady_false, this]
  simp [hlong]

/-- **a server-info sync that does not change the leader does not touch readiness** (nor the leader): it fails, or
    publishes no endpoint for the cluster's shard, or re-publishes the known leader — the heartbeat status, and with
    it the running time-out of a failing leader, is exactly what it was; only the shard count is taken over -/
theorem c09_sync_same_leader_keeps_status (st : State) (fail : Bool) (n : Nat) (leader : Option Nat) (now : Int)
    (h : fail = true ∨ leader = none ∨ leader = some st.leader) :
    ∃ st', step st (.sync fail n leader now) = .ok st' ∧ st'.hb = st.hb ∧ st'.leader = st.leader ∧
      st'.cache = st.cache ∧ st'.meter = st.meter ∧ (fail = true → st'.shardCount = st.shardCount) ∧
      (fail = false → st'.shardCount = n) := by
  cases fail with
  | true => exact ⟨{ st with clock := now }, rfl, rfl, rfl, rfl, rfl, fun _ => rfl, fun h => (by cases h)⟩
  | false =>
    rcases h with h | h | h
    · cases h
    · subst h; exact ⟨_, rfl, rfl, rfl, rfl, rfl, fun h => (by cases h), fun _ => rfl⟩
    · subst h
      refine ⟨{ st with shardCount := n, clock := now }, by simp [step], rfl, rfl, rfl, rfl, fun h => (by cases h),
        fun _ => rfl⟩

/-- … so the judge's heartbeat history — and every theorem above about it — ignores such syncs, while a CHANGED
    leader is a success at that time (`clientSets.sync` calls `setLeaderStatus(shard, leader, true)` only then) -/
theorem c09_sync_history (m : Mon) (fail : Bool) (n : Nat) (leader : Option Nat) (now : Int) (o : Obs) :
    (m.next (.sync fail n leader now) o).hist =
      (match leader with
       | some l => if fail = false ∧ m.leader ≠ l then (true, now) :: m.hist else m.hist
       | none => m.hist) := by
  show (match leaderChange m (.sync fail n leader now) with
    | some (_, now) => (true, now) :: m.hist | none => m.hist) = _
  cases fail <;> cases leader <;> try rfl
  rename_i l
  show (match (if m.leader ≠ l then some (l, now) else none) with
    | some (_, now) => (true, now) :: m.hist | none => m.hist) = _
  by_cases h : m.leader = l <;> simp [h]

/-- `failRunStart` is the time of the oldest heartbeat of the maximal run of failures at the head of the history:
    every heartbeat since then failed -/
theorem failRun_all_failed : ∀ (h : List (Bool × Int)) (t0 : Int), failRunStart h = some t0 →
    ∃ run rest, h = run ++ rest ∧ run ≠ [] ∧ (∀ x ∈ run, x.1 = false) ∧ (run.getLast?.map (·.2)) = some t0 ∧
      (∀ x, rest.head? = some x → x.1 = true)
  | [], t0, h => by simp [failRunStart] at h
  | (true, t) :: rest, t0, h => by simp [failRunStart] at h
  | (false, t) :: rest, t0, h => by
    rw [failRunStart_false] at h
    cases hr : failRunStart rest with
    | some t1 =>
      obtain ⟨run, rest', e1, e2, e3, e4, e5⟩ := failRun_all_failed rest t1 hr
      rw [hr] at h
      simp only [Option.getD_some, Option.some.injEq] at h
      subst h
      refine ⟨(false, t) :: run, rest', by rw [e1]; rfl, by simp, ?_, ?_, e5⟩
      · intro x hx
        rcases List.mem_cons.1 hx with rfl | hx
        · rfl
        · exact e3 x hx
      · cases run with
        | nil => exact (e2 rfl).elim
        | cons a as => simpa [List.getLast?_cons_cons] using e4
    | none =>
      rw [hr] at h
      simp only [Option.getD_none, Option.some.injEq] at h
      subst h
      refine ⟨[(false, t)], rest, rfl, by simp, by simp, rfl, ?_⟩
      intro x hx
      cases rest with
      | nil => simp at hx
      | cons y ys =>
        simp only [List.head?_cons, Option.some.injEq] at hx
        subst hx
        obtain ⟨ys1, ys2⟩ := y
        cases ys1 with
        | true => rfl
        | false => rw [failRunStart_false] at hr; cases hr

/-! ## 6. the request side: the instance keeps asking, so recovery does happen -/

/-- a count wrapper (the only ones with a counter) -/
def IsCount : GFC → Prop
  | .empty _ => False
  | _ => True

/-- **the instance keeps asking**: more than 2 s (unix seconds) after the counter's last sync a max-in-flight counter
    always sends a request, and a token-bucket counter does unless an event is pending — degraded or not, idle or
    not, reserve full or not (the zero-token resync) -/
theorem c09_request_when_due (g : GFC) (hg : IsCount g) (cnt : Counter) (mt : Meter) (infl now : Int)
    (hdue : unixS now - cnt.lastSync > 2) (hev : (∃ w, g = .miw w) ∨ cnt.event = false) :
    ∃ hits, requestOf g cnt mt infl now = some hits := by
  cases hreq : requestOf g cnt mt infl now with
  | some hits => exact ⟨hits, rfl⟩
  | none =>
    rcases requestOf_due (Int.le_refl _) hdue hreq with ⟨l, rfl⟩ | ⟨⟨w, rfl⟩, he⟩
    · exact hg.elim
    · rcases hev with ⟨w', h⟩ | h
      · cases h
      · rw [h] at he; cases he

theorem recover_unavail (w : TBW) : w.recover.unavail = false := by
  unfold TBW.recover
  cases h : w.unavail <;> simp [h]

theorem setLimit_accept (g : GFC) (hg : IsCount g) (loc : Schema) (mt : Meter) (hits now : Int) (a : TickAnswer)
    (ha : a.accept = true) (he : a.err = .none) :
    ∃ g' b, gfcSetLimit (g.addAcquiring hits) loc mt (tickReply a hits now) = .ok (g', b) ∧ IsCount g' ∧
      (g'.unavail = false ∨ (g'.unavail = g.unavail ∧ ∃ w, g = .miw w ∧ now > 0 ∧ now ≤ w.lastAcquireTime)) := by
  cases g with
  | empty l => exact hg.elim
  | miw w =>
    by_cases hst : now > 0 ∧ now ≤ w.lastAcquireTime
    · exact ⟨.miw w, false, gfcSetLimit_miw (miw_setLimit_ignored w loc _ _ (Or.inl hst)), trivial,
        Or.inr ⟨rfl, w, rfl, hst⟩⟩
    · exact ⟨_, false, gfcSetLimit_miw (miw_setLimit_accept loc _ hst he ha), trivial, Or.inl rfl⟩
  | tbw w => exact ⟨_, _, gfcSetLimit_tbw (tbw_setLimit_accept loc mt he ha), trivial, Or.inl (recover_unavail _)⟩


theorem tick_accept (st : State) (c : Cache) (rm : Remote) (g : GFC) (hc : st.cache = some c)
    (hr : c.remote = some rm) (hf : rm.fc = some g) (hg : IsCount g) (now : Int) (a : TickAnswer)
    (ha : a.accept = true) (he : a.err = .none) :
    ∃ st' c' rm' g', step st (.tick now (some a)) = .ok st' ∧ st'.cache = some c' ∧ c'.remote = some rm' ∧
      rm'.fc = some g' ∧ IsCount g' ∧ st'.meter = st.meter ∧
      ((requestOf g c.cnt st.meter st.inflight now = none ∧ g' = g ∧ c'.cnt = { c.cnt with event := false }) ∨
       ((∃ hits, requestOf g c.cnt st.meter st.inflight now = some hits) ∧
        (g'.unavail = false ∨ (g'.unavail = g.unavail ∧ ∃ w, g = .miw w ∧ now > 0 ∧ now ≤ w.lastAcquireTime)))) := by
  cases hreq : requestOf g c.cnt st.meter st.inflight now with
  | none =>
    exact ⟨tickQuiet st c now, _, rm, g, by simp [step, hc, hr, hf, hreq], rfl, hr, hf, hg, rfl,
      Or.inl ⟨rfl, rfl, rfl⟩⟩
  | some hits =>
    obtain ⟨g', b, h1, h2, h3⟩ := setLimit_accept g hg c.loc.config st.meter hits now a ha he
    exact ⟨tickSent st c rm g' { event := false, lastSync := unixS now } now hits, _, _, g',
      by simp [step, hc, hr, hf, hreq, h1], rfl, rfl, rfl, h2, rfl, Or.inr ⟨⟨hits, rfl⟩, h3⟩⟩

/-- **recovery, as liveness by steps.** From ANY state that holds a count wrapper — degraded, idle, reserve full —:
    if two rounds of the counter manager come more than 2 s (unix seconds) after the counter's last sync and every
    request the instance sends is answered with accept (the first answer not being stale for a max-in-flight wrapper,
    i.e. time moves forward), then after those two rounds the limiter server is considered available again — the
    instance DID send a request (the zero-token resync), at the latest in the second round (a token-bucket counter
    with a pending event and nothing to ask for consumes the event in the first). With `c09_judge` (clause
    `c09.recover-not-applied`) the capacity then is the server-granted one. The worker runs a round at least every
    `MaxIdealDuration` (900 ms), so this is within 3 s + 2 rounds of the server's recovery. -/
theorem c09_recovery_liveness (st : State) (c : Cache) (rm : Remote) (g : GFC) (hc : st.cache = some c)
    (hr : c.remote = some rm) (hf : rm.fc = some g) (hg : IsCount g) (t1 t2 : Int) (a1 a2 : TickAnswer)
    (h1 : a1.accept = true ∧ a1.err = .none) (h2 : a2.accept = true ∧ a2.err = .none)
    (hd1 : unixS t1 - c.cnt.lastSync > 2) (hd2 : unixS t2 - c.cnt.lastSync > 2)
    (hfresh : ∀ w, g = .miw w → ¬ (t1 > 0 ∧ t1 ≤ w.lastAcquireTime)) :
    ∃ st' c' rm' g', exec st [.tick t1 (some a1), .tick t2 (some a2)] = some st' ∧ st'.cache = some c' ∧
      c'.remote = some rm' ∧ rm'.fc = some g' ∧ IsCount g' ∧ g'.unavail = false := by
  obtain ⟨s1, c1, r1, g1, e1, e2, e3, e4, e5, e6, e7⟩ := tick_accept st c rm g hc hr hf hg t1 a1 h1.1 h1.2
  -- after the first round: recovered, or (token bucket with a pending event) unchanged with the event consumed
  have second : (g1.unavail = false) ∨ (g1 = g ∧ c1.cnt = { c.cnt with event := false } ∧ ∃ w, g = .tbw w) := by
    rcases e7 with ⟨hn, hgg, hcnt⟩ | ⟨_, hav | ⟨_, w, hw, hst⟩⟩
    · right
      refine ⟨hgg, hcnt, ?_⟩
      cases g with
      | empty l => exact hg.elim
      | miw w =>
        obtain ⟨hits, hh⟩ := c09_request_when_due (.miw w) hg c.cnt st.meter st.inflight t1 hd1 (Or.inl ⟨w, rfl⟩)
        rw [hn] at hh; cases hh
      | tbw w => exact ⟨w, rfl⟩
    · exact Or.inl hav
    · exact (hfresh w hw hst).elim
  obtain ⟨s2, c2, r2, g2, f1, f2, f3, f4, f5, f6, f7⟩ := tick_accept s1 c1 r1 g1 e2 e3 e4 e5 t2 a2 h2.1 h2.2
  refine ⟨s2, c2, r2, g2, by simp [exec, e1, f1], f2, f3, f4, f5, ?_⟩
  rcases second with hav | ⟨hgg, hcnt, w, hw⟩
  · -- available before the second round: it stays so
    rcases f7 with ⟨_, hgg2, _⟩ | ⟨_, h | ⟨h, _⟩⟩
    · rw [hgg2]; exact hav
    · exact h
    · rw [h]; exact hav
  · -- the second round is due, no event pending: the zero-token resync is sent and answered
    subst hgg hw
    have hdue2 : unixS t2 - c1.cnt.lastSync > 2 := by rw [hcnt]; exact hd2
    obtain ⟨hits, hh⟩ := c09_request_when_due (.tbw w) trivial c1.cnt s1.meter s1.inflight t2 hdue2 (Or.inr (by rw [hcnt]))
    rcases f7 with ⟨hn, _, _⟩ | ⟨_, h | ⟨_, w', hw', _⟩⟩
    · rw [hn] at hh; cases hh
    · exact h
    · cases hw'

/-! ## 7. requests in flight across limit changes; tokens are asked for when there is demand -/

/-- **which syncs rebuild the limiter.** A `remoteWrapper.Sync` whose item has the type and the strategy of the limiter
    inside the wrapper NEVER builds a new limiter, whatever the values (limits, global limits) are: a changed limit is
    applied by resizing in place. (The other direction is `c09_rebuild_cases`.) -/
theorem c09_limit_change_resizes_in_place (r : Remote) (g : GFC) (s : Schema) (i : Item) (hf : r.fc = some g)
    (hk : g.inner.kind = itemType i) (hs : r.strategy = i.strategy)
    (hv : (i.mi.isSome ∧ g.inner.kind = .mi) ∨ (i.tb.isSome ∧ g.inner.kind = .tb)) :
    remoteRecreates r s i = false := by
  rcases remoteSync_cases r s i with ⟨-, -, e, -⟩ | ⟨_, _, _, -, -, -, e, -⟩ | ⟨-, -, hall, -⟩
  · exact e
  · exact e
  · rcases hall g hf with h | h | h
    · exact (h hk).elim
    · exact (h hs).elim
    · rw [← hk] at h
      rcases hv with ⟨-, h'⟩ | ⟨-, h'⟩ <;> rw [h'] at h <;> cases h

/-- a new limiter is built only when there is none yet, or the type or the strategy changes (or the item carries no
    value of its own type) -/
theorem c09_rebuild_cases (r : Remote) (s : Schema) (i : Item) (h : remoteRecreates r s i = true) :
    r.fc = none ∨ ∃ g, r.fc = some g ∧ (g.inner.kind ≠ itemType i ∨ r.strategy ≠ i.strategy ∨
      ¬ ((i.mi.isSome ∧ g.inner.kind = .mi) ∨ (i.tb.isSome ∧ g.inner.kind = .tb))) := by
  cases hf : r.fc with
  | none => exact Or.inl rfl
  | some g =>
    refine Or.inr ⟨g, rfl, ?_⟩
    by_cases hk : g.inner.kind = itemType i
    · by_cases hs : r.strategy = i.strategy
      · refine Or.inr (Or.inr ?_)
        intro hv
        rw [c09_limit_change_resizes_in_place r g s i hf hk hs hv] at h
        cases h
      · exact Or.inr (Or.inl hs)
    · exact Or.inl hk

/-- **a new limiter object (an empty bucket) only when there is none or the TYPE differs**: a changed limit, a changed
    strategy — the schema's or whatever the server answers — never replaces the limiter that counts the requests in
    flight (`newFlowControl` keeps it, resizes it and wraps it anew) -/
theorem c09_new_bucket_cases (r : Remote) (s : Schema) (i : Item) (h : remoteNewBucket r s i = true) :
    r.fc = none ∨ ∃ g, r.fc = some g ∧ g.inner.kind ≠ itemType i := by
  simp only [remoteNewBucket, Bool.and_eq_true] at h
  cases hf : r.fc with
  | none => exact Or.inl rfl
  | some g =>
    rw [hf] at h
    exact Or.inr ⟨g, rfl, by simpa using h.2⟩

/-- **the count survives every sync that keeps the limiter**: resize in place AND rebuild of the same type leave the
    limiter object (`remInner`), its bucket's count (`remCount`) and the wrapper (`remOuter`) alone; after a sync that
    does not rebuild the limiter is the old one, resized at most; only a NEW limiter object (`remoteNewBucket`) has a
    new identity (`remInner + 1`) and an EMPTY bucket -/
theorem c09_sync_flight (c c' : Cache) (i : Item) (nowS : Int) (r : Remote) (hr : c.remote = some r)
    (hg : ∃ g, r.fc = some g) (h : cacheRemoteSync c i nowS = .ok c') :
    (remoteNewBucket r c.loc.config i = false → c'.fl = c.fl) ∧
    (remoteRecreates r c.loc.config i = false → ∃ g, r.fc = some g ∧
        (c'.remote.bind (·.fc) = some g ∨ ∃ n b, c'.remote.bind (·.fc) = some (g.resize n b))) ∧
    (remoteNewBucket r c.loc.config i = true →
        c'.fl = { c.fl with remInner := c.fl.remInner + 1, remCount := 0 }) := by
  unfold cacheRemoteSync at h
  simp only [hr, Option.getD_some, Option.isNone_some] at h
  cases hs : remoteSync r c.loc.config i with
  | error e => simp [hs, bind, Except.bind] at h
  | ok r' =>
    simp only [hs, bind, Except.bind, pure, Except.pure, Except.ok.injEq] at h
    subst h
    refine ⟨fun hn => by simp [hn, flightAfterSync], fun hn => ?_, fun hn => by simp [hn, flightAfterSync]⟩
    obtain ⟨g, k1, k2⟩ := remoteSync_norecreate hn hs (Or.inr hg)
    refine ⟨g, k1, ?_⟩
    rcases k2 with k | ⟨n, b, k⟩
    · exact Or.inl (by simp [k])
    · exact Or.inr ⟨n, b, by simp [k]⟩

/-- the judge's declarative "this operation rebuilds the wrapper" / "puts a new limiter object into it" are the model's
    conditions in every reachable state (`Inv` holds in all of them: `exec_inv'`); there a new object appears only when
    there was no remote wrapper at all -/
theorem c09_rebuilds_spec {K : Kind} {cfg : Cfg} {st : State} {m : Mon} {c : Cache} {s : Schema} {op : Op} {i : Item}
    (hi : Lemmas.RemoteLimiter.Inv K cfg st m) (hcache : st.cache = some c) (hsch : m.schema = some s)
    (heff : effective m op = true) (hitem : syncItem m op = some i) (hT : itemType i = K) :
    rebuilds m op = remoteRecreates (c.remote.getD {}) s i ∧
    newBucket m op = remoteNewBucket (c.remote.getD {}) s i ∧
    (remoteNewBucket (c.remote.getD {}) s i = true → c.remote = none) :=
  ⟨rebuilds_eq hi hcache hsch heff hitem hT, newBucket_eq hi hcache hsch heff hitem hT⟩

/-- **in-flight accounting.** In every reachable state (`Inv`; the monitor `m` has seen the same operations) — no
    exemption: across every resize, limit change, strategy change (the schema's or an answered one), outage and
    recovery — the count of the remote max-in-flight bucket IS the number of unfinished requests it admitted, and a
    new request is admitted by it only if these, the new one included, are within the bound in force (`m.ob`: the
    schema's global limit, or the largest global limit since the outage began). -/
theorem c09_inflight_admission {K : Kind} {cfg : Cfg} {st : State} {m : Mon} (hi : Lemmas.RemoteLimiter.Inv K cfg st m)
    (c : Cache) (hc : st.cache = some c) :
    (c.remote.isSome = true → c.fl.remCount = (st.handles.countP (flagOf c) : Int)) ∧
    ∀ id, st.handles.any (·.id == id) = false → load cfg st = .remote → isMI (observe cfg st).rlim = true →
      (acquireStep st id).lastAdmit = some true → (st.handles.countP (flagOf c) : Int) + 1 ≤ m.ob.mi := by
  refine ⟨(hi.fl.cur c hc).1, ?_⟩
  intro id hnew hld hmi hadm
  obtain ⟨st', h1, _, h3⟩ := step_acquire hi id
  replace h3 := (List.append_eq_nil_iff.1 h3).2
  have hst : st' = acquireStep st id := by
    simp only [step, Except.ok.injEq] at h1; exact h1.symm
  subst hst
  have hany : m.held.any (·.1 == id) = false := by rw [hi.fl.held, heldOf_any]; exact hnew
  simp only [judgeTrans, judgeAcquire, observe_admitted, hadm, hany, hi.prev, observe_choice, hld, hmi,
    Bool.not_false, true_and] at h3
  rw [hi.fl.held, hc, heldOf_countP] at h3
  by_cases hle : (st.handles.countP (flagOf c) : Int) + 1 ≤ m.ob.mi
  · exact hle
  · simp [hle] at h3

/-- **tokens ARE requested when there is demand and room** (any token-bucket count wrapper, any meter): with an event
    pending and `reserve − tokens − tokenInflight > 0` — at least one batch, or the last answer older than
    `batchAcquireMaxDuration` — the round asks for more than zero tokens -/
theorem c09_tokens_requested_on_demand (w : TBW) (cnt : Counter) (mt : Meter) (infl now : Int)
    (hev : cnt.event = true) (hroom : i32sub (i32sub w.reserve w.tokens) w.tokenInflight > 0) (hb : w.tokenBatch ≥ 1)
    (hor : i32sub (i32sub w.reserve w.tokens) w.tokenInflight ≥ w.tokenBatch ∨
      now - w.lastAcquireTime ≥ batchAcquireMaxDuration) :
    ∃ hits, requestOf (.tbw w) cnt mt infl now = some hits ∧ hits > 0 :=
  ⟨_, demand_hits hev ⟨hroom, hb, hor⟩⟩

/-- **every answered request gives its tokens back to the accounting, failed or not**: whatever the answer to a
    request for `hits` tokens is — accept, refusal, any error — `tokenInflight` afterwards is what it was before the
    request (`+hits` by `AddAcquiring`, `−hits` by `SetLimit`); so failed acquires cannot use up the room of
    `c09_tokens_requested_on_demand` -/
theorem c09_answer_returns_tokens (w w' : TBW) (loc : Schema) (mt : Meter) (a : TickAnswer) (hits now : Int) (b : Bool)
    (h : ({ w with tokenInflight := i32add w.tokenInflight hits } : TBW).setLimit loc mt (tickReply a hits now) = .ok (w', b)) :
    w'.tokenInflight = i32add (i32add w.tokenInflight hits) (toI32 (-hits)) := by
  rw [tbw_setLimit_tokenInflight h]
  simp [TBW.noteRequest, tickReply]

/-! ## 8. every (re)configuration between valid schemas: the TYPE may change too -/

/-- For every operation list over valid schemas of ANY type: the model never
    panics — no error reply, time-out or answer in any window after a type change does — and the judge accepts the
    observation after every operation: in particular (`c09.answer-type-mismatch`, `c09.fallback-choice`) no limiter of
    another type than the schema in force is ever handed out, (`c09.inflight-exceeds-global`) the in-flight clause
    holds without exemption, and (`c09.local-limit-not-enforced`) the local limiter is the new schema's at once. -/
theorem c09_judge_any (cfg : Cfg) (ops : List Op) (h : AllowedAny ops) :
    (run cfg ops).2 = none ∧ (run cfg ops).1.length = ops.length ∧
      allGood (judgeAll cfg ops (run cfg ops).1) = true :=
  run_inv' ops .mi (initState cfg) {} (inv_init .mi cfg) (allowedAny_ok h)

/-- … and every remote limiter ever observed is within any bound `G` that dominates the global limits of all the
    schemas synced -/
theorem c09_cap_any (cfg : Cfg) (G : Bound) (ops : List Op) (h : AllowedAny ops)
    (hG : ∀ s, Op.schema s ∈ ops → BLe (globalOf s) G) (h0 : BLe {} G) :
    ∀ o ∈ (run cfg ops).1, ∀ l, o.rlim = some l → Lim.leb l G = true := by
  intro o ho l hl
  refine (run_cap' (P := fun _ => True) ops .mi (initState cfg) {} (inv_init .mi cfg) trivial
    ⟨h0, h0, fun s hs => by cases hs⟩ (fun op hop => ?_) o ho l hl).1
  exact ⟨allowedAny_ok h op hop, fun s hs => ⟨hG s (hs ▸ hop), trivial⟩⟩

/-- **a type change drops the remote limiter**: from a cache whose local limiter is the (valid) schema's, a valid
    schema of another type gives the new schema's local limiter and NO remote wrapper — whatever it held; `Load` hands
    out the local limiter until a remote one of the new type has been built -/
theorem c09_type_change_stops_remote (cfg : Cfg) (st : State) (c : Cache) (s : Schema) (hc : st.cache = some c)
    (hold : validSchema c.loc.config = true) (hfc : c.loc.fc = some (limOf c.loc.config)) (hs : validSchema s = true)
    (hne : guessType s ≠ guessType c.loc.config) :
    ∃ st' c', step st (.schema s) = .ok st' ∧ st'.cache = some c' ∧ c'.remote = none ∧
      c'.loc = { config := s, fc := some (limOf s) } ∧ load cfg st' = .loc := by
  have hstep := step_schema_valid (VS_of_valid hold) (VS_of_valid hs) hc rfl hfc
  have hstop : (decide (s ≠ c.loc.config) && (decide (guessType s ≠ guessType c.loc.config) || !enableGlobal s)) = true := by
    simp only [hne, ne_eq, not_false_eq_true, decide_true, Bool.true_or, Bool.and_true, decide_eq_true_eq]
    exact fun e => hne (by rw [e])
  rw [hstop, if_pos rfl] at hstep
  refine ⟨_, _, hstep, rfl, rfl, rfl, ?_⟩
  simp only [load]
  cases cfg.rateLimiter <;> simp

/-- **no reply can panic**: whatever the local configuration is by now (the schema's type may have changed under the
    wrapper), `SetLimit` of both count wrappers is total -/
theorem c09_setLimit_total (loc : Schema) (mt : Meter) (r : Reply) :
    (∀ w : MIW, ∃ w', w.setLimit loc mt.maxInflight r = .ok w') ∧ (∀ w : TBW, ∃ x, w.setLimit loc mt r = .ok x) := by
  constructor
  · intro w
    rcases reply_cases (r.rt > 0 ∧ r.rt ≤ w.lastAcquireTime) w.unavail r with
      h | ⟨hst, he, hu⟩ | ⟨hst, he, ha⟩ | ⟨hst, he, ha⟩
    · exact ⟨_, miw_setLimit_ignored w loc _ r h⟩
    · exact ⟨_, miw_setLimit_error loc _ hst he hu⟩
    · exact ⟨_, miw_setLimit_accept loc _ hst he ha⟩
    · exact ⟨_, miw_setLimit_refuse loc _ hst he ha⟩
  · intro w
    rcases reply_cases False w.unavail r with h | ⟨-, he, hu⟩ | ⟨-, he, ha⟩ | ⟨-, he, ha⟩
    · exact ⟨_, tbw_setLimit_ignored w loc mt r (h.resolve_left id)⟩
    · exact ⟨_, tbw_setLimit_error loc mt he hu⟩
    · exact ⟨_, tbw_setLimit_accept loc mt he ha⟩
    · exact ⟨_, tbw_setLimit_refuse loc mt he ha⟩

/-! ## non-vacuity: the hypotheses are satisfiable by concrete, non-trivial runs; the judge is not trivially true -/

/-- max-in-flight 10 / global 100, global-count strategy -/
def exSchema : Schema := { strategy := .count, mi := some 10, gmi := some 100 }
def exCfg : Cfg := { rateLimiter := .remote, hasCS := true }

/-- configure, learn the shard count, first heartbeat, reconcile, a granted limit far above the global limit, a
    negative refusal, a server error with 300 observed in flight, a stale reply, recovery, failed heartbeats for longer than the time-out -/
def exOps : List Op :=
  [ .schema exSchema, .shards 1, .hb true 0 false, .reconcileCount,
    .setLimit { accept := true, limit := 5000, rt := 10 },
    .setLimit { accept := false, limit := -300, rt := 11 },
    .meter { maxInflight := 300, rateNum := 0, rateDen := 1 },
    .setLimit { err := .other, rt := 12 },
    .setLimit { accept := true, limit := 7, rt := 5 },
    .setLimit { accept := true, limit := 7, rt := 13 },
    .hb false 1 false, .hb false (serverHeartBeatTimeout + 2) false ]

theorem exOps_allowed : Allowed .mi exOps := by
  intro op hop
  simp only [exOps, List.mem_cons, List.not_mem_nil, or_false] at hop
  rcases hop with rfl | rfl | rfl | rfl | rfl | rfl | rfl | rfl | rfl | rfl | rfl | rfl <;> simp [exSchema, validSchema, guessType, maxInt32]

/-- the run hands out: local (not ready), local, remote with the reserve 2, …, the clamp 100, 0, the fallback 100 with
    the outage flag, unchanged by the stale reply, 7 after recovery, then local again once the heartbeats time out -/
example : (run exCfg exOps).1.map (fun o => (o.choice, o.lim, o.unavail)) =
    [ (.loc, some (.mi 10), false), (.loc, some (.mi 10), false), (.loc, some (.mi 10), false),
      (.remote, some (.mi 2), false), (.remote, some (.mi 100), false), (.remote, some (.mi 0), false),
      (.remote, some (.mi 0), false), (.remote, some (.mi 100), true), (.remote, some (.mi 100), true),
      (.remote, some (.mi 7), false), (.remote, some (.mi 7), false), (.loc, some (.mi 10), false) ] := by decide +kernel

example : allGood (judgeAll exCfg exOps (run exCfg exOps).1) = true := (c09_judge .mi exCfg exOps exOps_allowed).2.2

/-- replace the limiter in the `k`-th observation -/
def tamper (k : Nat) (l : Lim) (obs : List Obs) : List Obs :=
  obs.mapIdx fun i o => if i = k then { o with lim := some l, rlim := some l } else o

/-- the judge is not trivially true: it rejects what the pristine code did — the granted 5000 applied unclamped,
    `uint32(-300)`, an unbounded error fallback (300 in flight), a stale reply applied, and a wrong-typed limiter -/
example : (judgeAll exCfg exOps (tamper 4 (.mi 5000) (run exCfg exOps).1))[4]? = some ["c09.cap-exceeds-global"] := by decide +kernel
/-- … a granted 5000 (global 100) that leaves the instance at 50: the quota did not take effect -/
example : (judgeAll exCfg exOps (tamper 4 (.mi 50) (run exCfg exOps).1))[4]? = some ["c09.recover-not-applied"] := by decide +kernel
example : allGood (judgeAll exCfg exOps (tamper 5 (.mi 4294966996) (run exCfg exOps).1)) = false := by decide +kernel
example : (judgeAll exCfg exOps (tamper 7 (.mi 300) (run exCfg exOps).1))[7]? = some ["c09.cap-exceeds-global"] := by decide +kernel
/-- the error fallback is judged from the property's text — finite, of the schema's type, within the global limit — not
    by the code's formula: exactly the local limit 10 (instead of `min(max(300 observed, 10), 100) = 100`) is accepted,
    no limit at all is not -/
example : (judgeAll exCfg exOps (tamper 7 (.mi 10) (run exCfg exOps).1))[7]? = some [] := by decide +kernel
example : (judgeAll exCfg exOps (tamper 7 (.exempt 0) (run exCfg exOps).1))[7]? = some ["c09.answer-type-mismatch", "c09.error-fallback"] := by decide +kernel
example : (judgeAll exCfg exOps (tamper 8 (.mi 7) (run exCfg exOps).1))[8]? = some ["c09.stale-reply-applied"] := by decide +kernel
example : (judgeAll exCfg exOps (tamper 3 (.tb 1000000 1000000) (run exCfg exOps).1))[3]? = some ["c09.answer-type-mismatch"] := by decide +kernel
example : (judgeAll exCfg exOps (tamper 3 (.exempt 0) (run exCfg exOps).1))[3]? = some ["c09.answer-type-mismatch"] := by decide +kernel

/-- … and handing out the remote limiter while the heartbeats have timed out -/
example : (judgeAll exCfg exOps ((run exCfg exOps).1.mapIdx fun i o => if i = 11 then { o with choice := .remote } else o))[11]?
    = some ["c09.fallback-choice", "c09.fallback-choice"] := by decide +kernel

/-- token bucket, allocate strategy: answers −5/3, 5000/100000 and 0/0 are applied as (0,3), (100,200), (0,0) -/
def exTB : Schema := { strategy := .alloc, tb := some ⟨10, 20⟩, gtb := some ⟨100, 200⟩ }
def exOpsTB : List Op :=
  [ .schema exTB, .shards 2, .hb true 5 false,
    .answer true { strategy := .alloc, tb := some ⟨-5, 3⟩ },
    .answer true { strategy := .alloc, tb := some ⟨5000, 100000⟩ },
    .answer true { strategy := .alloc, mi := some 1000000 },
    .answer true { strategy := .alloc },
    .answer true { strategy := .alloc, tb := some ⟨0, 0⟩ } ]

theorem exOpsTB_allowed : Allowed .tb exOpsTB := by
  intro op hop
  simp only [exOpsTB, List.mem_cons, List.not_mem_nil, or_false] at hop
  rcases hop with rfl | rfl | rfl | rfl | rfl | rfl | rfl | rfl <;> simp [exTB, validSchema, guessType, maxInt32]

example : (run exCfg exOpsTB).1.map (fun o => (o.choice, o.lim)) =
    [ (.loc, some (.tb 10 20)), (.loc, some (.tb 10 20)), (.loc, some (.tb 10 20)),
      (.remote, some (.tb 0 3)), (.remote, some (.tb 100 200)), (.remote, some (.tb 100 200)),
      (.remote, some (.tb 100 200)), (.remote, some (.tb 0 0)) ] := by decide +kernel

/-- partial failure: the leader (1) fails its heartbeats for longer than the time-out while the server info keeps
    publishing it: local limiter again; a new leader (2) is published: ready at once -/
def exOpsSync : List Op :=
  [ .schema exSchema, .sync false 1 (some 1) 0, .reconcileCount,
    .hb false 1 false, .sync false 1 (some 1) 2, .hb false 3 false, .sync false 1 (some 1) (serverHeartBeatTimeout + 1),
    .hb false (serverHeartBeatTimeout + 2) false, .sync false 1 (some 1) (serverHeartBeatTimeout + 3),
    .sync true 0 none (serverHeartBeatTimeout + 4), .sync false 1 (some 2) (serverHeartBeatTimeout + 5) ]

example : (run exCfg exOpsSync).1.map (fun o => (o.choice, o.ready, o.leader)) =
    [ (.loc, false, 0), (.loc, true, 1), (.remote, true, 1), (.remote, true, 1), (.remote, true, 1), (.remote, true, 1),
      (.remote, true, 1), (.loc, false, 1), (.loc, false, 1), (.loc, false, 1), (.remote, true, 2) ] := by decide +kernel

/-- the judge rejects an implementation that stays ready because the sync re-marked the published leader ready -/
example : (judgeAll exCfg exOpsSync ((run exCfg exOpsSync).1.mapIdx fun i o =>
      if i = 7 then { o with ready := true, choice := .remote, lim := o.rlim } else o))[7]?
    = some ["c09.ready-hysteresis", "c09.fallback-choice"] := by decide +kernel

/-- the request side, token bucket 10/20 of global 100/200 under the count strategy: the server fills the reserve (5),
    the instance is idle, the reset check times out (degraded: 10/10), the server is back: the round 1 s later sends
    nothing (not due), the round 12 s after the last answer sends the zero-token resync and recovery follows -/
def exTBCount : Schema := { strategy := .count, tb := some ⟨10, 20⟩, gtb := some ⟨100, 200⟩ }
def exOpsTick : List Op :=
  [ .schema exTBCount, .sync false 1 (some 1) 0, .reconcileCount,
    .tick 3000000000 (some { accept := true, limit := 1000 }),
    .setLimit { err := .other },
    .tick 4000000000 (some { accept := true, limit := 1000 }),
    .tick 15000000000 (some { accept := true, limit := 1000 }),
    .tick 15900000000 (some { accept := true, limit := 1000 }) ]

example : (run exCfg exOpsTick).1.map (fun o => (o.lim, o.unavail, o.tokens, o.req)) =
    [ (some (.tb 10 20), false, 0, none), (some (.tb 10 20), false, 0, none), (some (.tb 100 200), false, 0, none),
      (some (.tb 100 200), false, 5, some 1), (some (.tb 10 10), true, 5, some 1), (some (.tb 10 10), true, 5, none),
      (some (.tb 100 200), false, 10, some 0), (some (.tb 100 200), false, 10, none) ] := by decide +kernel

/-- the judge rejects an instance that stays silent (and degraded) when the resync is due -/
example : (judgeAll exCfg exOpsTick ((run exCfg exOpsTick).1.mapIdx fun i o =>
      if i = 6 then { o with req := none, unavail := true, lim := some (.tb 10 10), rlim := some (.tb 10 10) } else o))[6]?
    = some ["c09.no-request-when-due"] := by decide +kernel

/-- requests in flight across a global-limit change: global 4, the server grants everything, four requests are
    admitted and the fifth refused; the global limit becomes 3 (resized in place: the four stay counted): refused with
    four and with three in flight, admitted again with two -/
def exS4 : Schema := { strategy := .count, mi := some 2, gmi := some 4 }
def exS3 : Schema := { strategy := .count, mi := some 2, gmi := some 3 }
def exOpsFlight : List Op :=
  [ .schema exS4, .sync false 1 (some 1) 0, .reconcileCount, .setLimit { accept := true, limit := 100, rt := 10 },
    .acquire 1, .acquire 2, .acquire 3, .acquire 4, .acquire 5,
    .schema exS3, .reconcileCount, .setLimit { accept := true, limit := 100, rt := 20 },
    .acquire 6, .release 1, .acquire 7, .release 2, .acquire 8 ]

example : (run exCfg exOpsFlight).1.map (fun o => (o.lim, o.admitted)) =
    [ (some (.mi 2), none), (some (.mi 2), none), (some (.mi 1), none), (some (.mi 4), none),
      (some (.mi 4), some true), (some (.mi 4), some true), (some (.mi 4), some true), (some (.mi 4), some true),
      (some (.mi 4), some false), (some (.mi 4), some false), (some (.mi 1), some false), (some (.mi 3), some false),
      (some (.mi 3), some false), (some (.mi 3), some false), (some (.mi 3), some false), (some (.mi 3), some false),
      (some (.mi 3), some true) ] := by decide +kernel

/-- the judge rejects an implementation that forgot the four requests when the limit changed (a rebuilt bucket admits
    the fifth: 5 in flight > global 3) -/
example : (judgeAll exCfg exOpsFlight ((run exCfg exOpsFlight).1.mapIdx fun i o =>
      if i = 12 then { o with admitted := some true } else o))[12]? = some ["c09.inflight-exceeds-global"] := by decide +kernel

/-- failed acquires, then the server is back and refuses more quota: every round with demand keeps asking for a token
    (the failed requests' tokens were returned to the accounting) -/
def exOpsLeak : List Op :=
  [ .schema exTBCount, .sync false 1 (some 1) 0, .reconcileCount,
    .event, .tick 1000000000 (some { err := .other }),
    .event, .tick 2000000000 (some { err := .other }),
    .event, .tick 3000000000 (some { accept := true, limit := 0 }),
    .event, .tick 4000000000 (some { accept := true, limit := 0 }) ]

example : (run exCfg exOpsLeak).1.map (fun o => (o.lim, o.unavail, o.wreserve, o.tokens, o.req)) =
    [ (some (.tb 10 20), false, 0, 0, none), (some (.tb 10 20), false, 0, 0, none),
      (some (.tb 100 200), false, 5, 0, none), (some (.tb 100 200), false, 5, 0, none),
      (some (.tb 10 10), true, 5, 0, some 1), (some (.tb 10 10), true, 5, 0, some 1),
      (some (.tb 10 10), true, 5, 0, some 1), (some (.tb 10 10), true, 5, 0, some 1),
      (some (.tb 100 200), false, 5, 0, some 1), (some (.tb 100 200), false, 5, 0, some 1),
      (some (.tb 100 200), false, 5, 0, some 1) ] := by decide +kernel

/-- the judge rejects an instance that, with demand and room in the reserve, asks for zero tokens or sends nothing -/
example : (judgeAll exCfg exOpsLeak ((run exCfg exOpsLeak).1.mapIdx fun i o =>
      if i = 10 then { o with req := some 0 } else o))[10]? = some ["c09.no-tokens-requested-on-demand"] := by decide +kernel
example : (judgeAll exCfg exOpsLeak ((run exCfg exOpsLeak).1.mapIdx fun i o =>
      if i = 10 then { o with req := none } else o))[10]? = some ["c09.no-tokens-requested-on-demand"] := by decide +kernel

/-- the schema's TYPE changes (max-in-flight 2/4 → token bucket 5/10 → max-in-flight, count): the remote limiter of the
    old type is gone at once (local limiter of the new schema), an old-typed answer is ignored, an answer of the new
    type builds the new remote limiter; an error reply after the last change does not panic (fallback to local 2) -/
def exSA : Schema := { strategy := .alloc, mi := some 2, gmi := some 4 }
def exSB : Schema := { strategy := .alloc, tb := some ⟨5, 5⟩, gtb := some ⟨10, 10⟩ }
def exOpsKind : List Op :=
  [ .schema exSA, .sync false 1 (some 1) 0, .answer true { strategy := .alloc, mi := some 4 },
    .schema exSB, .answer true { strategy := .alloc, mi := some 4 }, .answer true { strategy := .alloc, tb := some ⟨10, 10⟩ },
    .schema { exSA with strategy := .count }, .reconcileCount, .setLimit { err := .other, rt := 5 } ]

theorem exOpsKind_allowed : AllowedAny exOpsKind := by
  intro op hop
  simp only [exOpsKind, List.mem_cons, List.not_mem_nil, or_false] at hop
  rcases hop with rfl | rfl | rfl | rfl | rfl | rfl | rfl | rfl | rfl <;> simp [exSA, exSB, validSchema, maxInt32]

example : (run exCfg exOpsKind).2 = none ∧ (run exCfg exOpsKind).1.map (fun o => (o.choice, o.lim, o.rlim)) =
    [ (.loc, some (.mi 2), none), (.loc, some (.mi 2), none), (.remote, some (.mi 4), some (.mi 4)),
      (.loc, some (.tb 5 5), none), (.loc, some (.tb 5 5), none), (.remote, some (.tb 10 10), some (.tb 10 10)),
      (.loc, some (.mi 2), none), (.remote, some (.mi 1), some (.mi 1)), (.remote, some (.mi 2), some (.mi 2)) ] := by decide +kernel

example : allGood (judgeAll exCfg exOpsKind (run exCfg exOpsKind).1) = true := (c09_judge_any exCfg exOpsKind exOpsKind_allowed).2.2

/-- the judge rejects an implementation that keeps handing out the limiter of the old type after the change -/
example : (judgeAll exCfg exOpsKind ((run exCfg exOpsKind).1.mapIdx fun i o =>
      if i = 3 then { o with choice := .remote, lim := some (.mi 4), rlim := some (.mi 4) } else o))[3]?
    = some ["c09.answer-type-mismatch"] := by decide +kernel

/-- the strategy of the item changes — answered by the server (""), then the schema's own (allocate → count) — with four
    requests in flight under the global limit 4: the limiter is kept, the four stay counted, nothing more is admitted
    until one of them finishes -/
def exOpsStrategy : List Op :=
  [ .schema exSA, .sync false 1 (some 1) 0, .answer true { strategy := .alloc, mi := some 100 },
    .acquire 1, .acquire 2, .acquire 3, .acquire 4, .acquire 5,
    .answer true { strategy := .empty, mi := some 100 }, .acquire 6,
    .schema { exSA with strategy := .count }, .reconcileCount, .setLimit { accept := true, limit := 100, rt := 7 }, .acquire 7,
    .release 1, .acquire 8 ]

example : (run exCfg exOpsStrategy).1.map (fun o => (o.lim, o.admitted)) =
    [ (some (.mi 2), none), (some (.mi 2), none), (some (.mi 4), none),
      (some (.mi 4), some true), (some (.mi 4), some true), (some (.mi 4), some true), (some (.mi 4), some true),
      (some (.mi 4), some false), (some (.mi 4), some false), (some (.mi 4), some false), (some (.mi 4), some false),
      (some (.mi 1), some false), (some (.mi 4), some false), (some (.mi 4), some false), (some (.mi 4), some false),
      (some (.mi 4), some true) ] := by decide +kernel

/-- the judge rejects an implementation whose rebuilt limiter forgot the four (no exemption for strategy changes) -/
example : (judgeAll exCfg exOpsStrategy ((run exCfg exOpsStrategy).1.mapIdx fun i o =>
      if i = 9 then { o with admitted := some true } else o))[9]? = some ["c09.inflight-exceeds-global"] := by decide +kernel
example : (judgeAll exCfg exOpsStrategy ((run exCfg exOpsStrategy).1.mapIdx fun i o =>
      if i = 13 then { o with admitted := some true } else o))[13]? = some ["c09.inflight-exceeds-global"] := by decide +kernel

/-- the heartbeat hypotheses of the hysteresis theorems are satisfiable (whatever the regenerated time-out is): up on a
    success, still up after exactly the time-out of consecutive failure, down one nanosecond later -/
example : specReady [(false, serverHeartBeatTimeout), (false, 1), (false, 0), (true, 0)] = true := by decide +kernel
example : specReady [(false, serverHeartBeatTimeout + 1), (false, 1), (false, 0), (true, 0)] = false := by decide +kernel
example : failRunStart [(false, serverHeartBeatTimeout + 1), (false, 1), (false, 0), (true, 0)] = some 0 := by decide +kernel

end KG.Props.C09
