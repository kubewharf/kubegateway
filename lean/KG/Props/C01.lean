import KG.Lemmas.Match
/-!
# C01 — Routing: first matching dispatch policy, with the documented rule semantics

Every theorem is about `KG.Model.Match` (the mirror of evaluation_helpers.go / matcher.go) and the
declarative `KG.Spec.Match`; they quantify over all byte strings, all lists, all policies. Both sides are equations
over the `reading` of an entry list (`KG.Lemmas.Match`); the field theorems go through `simpleMatches_eq_fieldSpec` (URLs: `filterRules_reading`).
-/
namespace KG.Props.C01
open KG KG.Model.Match KG.Spec.Match KG.Lemmas.Match

theorem fieldSpec_optional (pos : Str → Bool) (E : List Str) :
    fieldSpec true pos E = if E.length == 0 then true else fieldSpec false pos E := by
  cases E with
  | nil => rfl
  | cons x xs => exact fieldSpec_of_ne_nil (List.cons_ne_nil x xs) true false pos

/-! ## each of the seven field matchers computes the documented semantics -/

theorem c01_verb_refines (E : List Str) (q : Str) : verbMatches E q = fieldSpec false (posEq q) E :=
  simpleMatches_eq_fieldSpec (fun p => by simp [posEq]) E

theorem c01_apiGroup_refines (E : List Str) (q : Str) : apiGroupMatches E q = fieldSpec false (posEq q) E :=
  simpleMatches_eq_fieldSpec (fun p => by simp [posEq]) E

theorem c01_resource_refines (E : List Str) (combined sub : Str) :
    resourceMatches E combined sub = fieldSpec false (posResource combined sub) E :=
  simpleMatches_eq_fieldSpec (fun p => by cases sub <;> simp [posResource]) E

theorem c01_resourceName_refines (E : List Str) (q : Str) :
    resourceNameMatches E q = fieldSpec true (posEq q) E := by
  unfold resourceNameMatches
  rw [fieldSpec_optional, simpleMatches_eq_fieldSpec (pos := posEq q) fun p => by simp [posEq]]

theorem c01_userGroup_refines (E : List Str) (groups : List Str) :
    userGroupMatches E groups = fieldSpec true (posGroup groups) E := by
  unfold userGroupMatches
  rw [fieldSpec_optional, simpleMatches_eq_fieldSpec (pos := posGroup groups) fun p => Bool.or_false _]

theorem c01_user_refines (users : List Str) (sas : List SA) (q : Str) :
    userOrSAMatches users sas q = userSpec users sas q := by
  have hsa : (sas.any fun sa => !(sa.ns.length == 0 || sa.name.length == 0) && makeSAUsername sa.ns sa.name == q)
      = saSpec sas q := by
    unfold saSpec; congr 1; funext sa
    cases sa.ns <;> cases sa.name <;> rfl
  unfold userOrSAMatches userSpec
  rw [simpleMatches_eq_fieldSpec (pos := posGlob q) fun p => by simp [posGlob], hsa]
  cases users <;> cases sas <;> cases fieldSpec false (posGlob q) _ <;> rfl

theorem c01_url_refines (E : List Str) (q : Str) : nonResourceURLMatches E q = urlSpec E q := by
  unfold nonResourceURLMatches
  rw [filterRules_reading, urlSpec_reading]
  cases reading E with
  | all => rfl
  | pos P => simp only [List.any_map, Function.comp_def, Bool.not_false, Bool.true_and]; rfl
  | neg R =>
    -- the inverted entries are kept, and each fails `!v.reverse`
    simp only [List.any_map, Function.comp_def, Bool.not_true, Bool.false_and, Bool.false_eq_true, if_false]
    exact List.any_eq_false.2 fun _ _ h => Bool.noConfusion h

private theorem ite_not_false (b x : Bool) : (if !b then false else x) = (b && x) := by
  cases b <;> rfl

/-- **Rule level**: `RuleMatches` is the conjunction of the documented field semantics. -/
theorem c01_rule_refines (a : Attrs) (r : Rule) : ruleMatches a r = ruleSpec a r := by
  unfold ruleMatches ruleSpec
  rw [c01_verb_refines, c01_user_refines, c01_userGroup_refines, c01_apiGroup_refines,
    c01_resource_refines, c01_resourceName_refines, c01_url_refines]
  exact ite_not_false _ _

theorem c01_policy_refines (a : Attrs) (p : Policy) : policyMatches a p = policySpec a p := by
  unfold policyMatches policySpec
  congr 1; funext r; exact c01_rule_refines a r

/-- **First match**: the chosen policy is the first one, in list order, that has a matching rule. -/
theorem c01_first_match (a : Attrs) (ps : List Policy) : matchPolicies a ps = firstMatchSpec a ps := by
  unfold firstMatchSpec
  induction ps with
  | nil => simp [matchPolicies]
  | cons p ps ih =>
    unfold matchPolicies
    rw [List.findIdx?_cons, c01_policy_refines, ih]

/-- the chosen policy has a matching rule and no earlier policy has one -/
theorem c01_first_match_sound (a : Attrs) (ps : List Policy) (i : Nat) (h : matchPolicies a ps = some i) :
    (∃ p, ps[i]? = some p ∧ policySpec a p = true) ∧
    (∀ j, j < i → ∀ q, ps[j]? = some q → policySpec a q = false) := by
  rw [c01_first_match] at h
  unfold firstMatchSpec at h
  rw [List.findIdx?_eq_some_iff_getElem] at h
  obtain ⟨hi, hp, hlt⟩ := h
  refine ⟨⟨ps[i], by simp [hi], hp⟩, ?_⟩
  intro j hj q hq
  have hjl : j < ps.length := Nat.lt_trans hj hi
  have := hlt j hj
  rw [List.getElem?_eq_getElem hjl] at hq
  cases hq
  simpa using this

/-- no policy is chosen (the request is rejected, never forwarded) iff no policy has a matching rule -/
theorem c01_none_iff (a : Attrs) (ps : List Policy) :
    matchPolicies a ps = none ↔ ∀ p ∈ ps, policySpec a p = false := by
  rw [c01_first_match]; unfold firstMatchSpec
  simp [List.findIdx?_eq_none_iff]

/-! ## `MatchAttributes`: rejected iff no policy matches; otherwise routed under the first matching policy -/

/-- the request is rejected (`ErrNoRouterRuleMatches`, never forwarded) iff no policy has a matching rule; it depends
    only on the attributes and the current policy list (not on endpoints or logging) -/
theorem c01_match_attributes_none (a : Attrs) (ps : List PolicyCfg) (all : List Str) (lg : Str) :
    matchAttributes a ps all lg = none ↔ ∀ p ∈ ps, policySpec a p.rules = false := by
  have hnone := c01_none_iff a (ps.map (·.rules))
  rw [List.forall_mem_map] at hnone
  rw [← hnone]
  unfold matchAttributes
  cases h : matchPolicies a (ps.map (·.rules)) with
  | none => exact ⟨fun _ => rfl, fun _ => rfl⟩
  | some i =>
    obtain ⟨⟨q, hq, _⟩, _⟩ := c01_first_match_sound a _ i h
    rw [List.getElem?_map] at hq
    dsimp only
    cases hp : ps[i]? with
    | none => rw [hp] at hq; cases hq
    | some p => exact ⟨nofun, nofun⟩

/-- a routed request is handled under the first policy that has a matching rule, with that policy's flow-control
    schema (default `system-default`), upstream subset (all endpoints when empty) and log switch -/
theorem c01_match_attributes_some (a : Attrs) (ps : List PolicyCfg) (all : List Str) (lg : Str) (pk : Picker)
    (h : matchAttributes a ps all lg = some pk) :
    ∃ p, ps[pk.policy]? = some p ∧ policySpec a p.rules = true ∧
      (∀ j, j < pk.policy → ∀ q, ps[j]? = some q → policySpec a q.rules = false) ∧
      pk.flowControlName = (if p.flowControlSchemaName = [] then systemDefault else p.flowControlSchemaName) ∧
      pk.upstreams = (if p.upstreamSubset = [] then all else p.upstreamSubset) ∧
      pk.enableLog = isLogEnabled lg p.logMode := by
  unfold matchAttributes at h
  cases hm : matchPolicies a (ps.map (·.rules)) with
  | none => rw [hm] at h; cases h
  | some i =>
    rw [hm] at h
    dsimp only at h
    obtain ⟨⟨q, hq, hmq⟩, hlt⟩ := c01_first_match_sound a _ i hm
    rw [List.getElem?_map] at hq
    cases hp : ps[i]? with
    | none => rw [hp] at hq; cases hq
    | some p =>
      rw [hp] at hq h
      cases hq
      cases h
      refine ⟨p, hp, hmq, fun j hj r hr => hlt j hj r.rules (by rw [List.getElem?_map, hr]; rfl), ?_, ?_, rfl⟩
      · cases p.flowControlSchemaName <;> rfl
      · cases p.upstreamSubset <;> rfl

/-- the documented log-switch table -/
theorem c01_log_table (u p : Str) :
    isLogEnabled u p = true ↔ (u ≠ logOff ∧ p ≠ logOff ∧ (u = logOn ∨ p = logOn)) := by
  unfold isLogEnabled
  simp only [Bool.or_eq_true, beq_iff_eq, ← and_assoc, ← not_or, ne_eq]
  split
  · next h => simp [h]
  · next h => simp [h]

/-! ## the documented semantics, spelled out as consequences of `fieldSpec` -/

/-- `"*"` matches everything, whatever else is in the list -/
theorem c01_star (E reqs : List Str) (extra : Str → Bool) (h : star ∈ E) : simpleMatches E reqs extra = true := by
  rw [simpleMatches_spec, fieldSpec_star h]

/-- `-` entries are ignored once a positive entry is present (or a `"*"` entry decides by itself) -/
theorem c01_positive_wins (E reqs : List Str) (extra : Str → Bool) :
    positives E ≠ [] → simpleMatches E reqs extra = simpleMatches (positives E) reqs extra ∨ star ∈ E := by
  intro hp
  obtain hs | hs := star_mem_or_not E
  · exact Or.inr hs
  · left
    rw [simpleMatches_spec, simpleMatches_spec, fieldSpec_nostar hs, fieldSpec_nostar (star_not_mem_positives hs),
      positives_idem]
    cases hP : positives E with
    | nil => exact absurd hP hp
    | cons p ps => rfl

/-- A list made only of `-` entries (whose stripped forms are plain entries: not `"*"`, not themselves `-`-prefixed)
    matches exactly the requests the corresponding positive list does not match. -/
theorem c01_inverted_complement (E reqs : List Str) (extra : Str → Bool)
    (hne : E ≠ []) (hall : ∀ x ∈ E, inverted x = true)
    (hplain : ∀ x ∈ E, strip x ≠ star ∧ inverted (strip x) = false) :
    simpleMatches E reqs extra = !simpleMatches (E.map strip) reqs extra := by
  have hs : star ∉ E := fun h => Bool.noConfusion (star_not_inverted ▸ hall star h)
  have hs' : star ∉ E.map strip := fun h => by
    obtain ⟨x, hx, e⟩ := List.mem_map.1 h
    exact (hplain x hx).1 e
  have hpos : positives E = [] := List.filter_eq_nil_iff.2 fun x hx => by rw [hall x hx]; decide
  have hneg : negatives E = E.map strip := by rw [negatives, List.filter_eq_self.2 hall]
  have hpos' : positives (E.map strip) = E.map strip := List.filter_eq_self.2 fun y hy => by
    obtain ⟨x, hx, rfl⟩ := List.mem_map.1 hy
    rw [(hplain x hx).2]; rfl
  rw [simpleMatches_spec, simpleMatches_spec, fieldSpec_nostar hs, fieldSpec_nostar hs', hpos, hneg, hpos']
  cases E with
  | nil => exact absurd rfl hne
  | cons x xs => rfl

/-- an empty optional field matches everything; an empty required field matches nothing -/
theorem c01_empty_optional (pos : Str → Bool) : fieldSpec true pos [] = true ∧ fieldSpec false pos [] = false :=
  ⟨rfl, rfl⟩

/-- `*/sub` matches that subresource of any resource -/
theorem c01_all_subresource (res sub : Str) (hsub : sub ≠ []) :
    resourceMatches [star ++ [slash] ++ sub] (res ++ [slash] ++ sub) sub = true := by
  rw [c01_resource_refines, fieldSpec_singleton (fun h => by cases h) rfl]
  simp [posResource, hsub]

/-- trailing-`*` globs apply to users: `p*` matches every user with prefix `p` -/
theorem c01_user_glob (p q : Str) (hp : hasPrefix q p = true) (hstar : 42 ∉ p) (hpne : inverted p = false) :
    userOrSAMatches [p ++ star] [] q = true := by
  rw [c01_user_refines]
  unfold userSpec
  cases p with
  | nil => rw [fieldSpec_star (List.mem_cons_self : star ∈ [[] ++ star])]; rfl
  | cons c cs =>
    have hne : c :: cs ++ star ≠ star := fun h => by cases cs <;> cases h
    rw [fieldSpec_singleton hne hpne, posGlob, globMatch_append_star hstar, hp, Bool.or_true]
    rfl

end KG.Props.C01
