import KG.Lemmas.AuthCache
/-!
# C12 — Authentication and authorization decisions never cross clusters

Model: `KG.Model.AuthCache` (small-step: every access of a request to shared state is one step, so manager events,
clean-up goroutines, evictions, clock ticks and other requests interleave arbitrarily). Judge: `KG.Spec.AuthCache`.

The theorems about caches and answers quantify over EVERY list of small steps from `init` (`pre`; the two main ones,
`c12_token` and `c12_sar`, over every state with the invariant, which every such list reaches), i.e. every history and
interleaving, every oracle behaviour (`env.tokO`, `env.sarO` arbitrary functions of instance, key and time) and every TTL
configuration; the single-step ones (`c12_*_review_target`, `c12_error_not_cached_*`) hold of any state, reachable or not.

Everything rests on one invariant of the caches and the pending requests (`c12_invariant`) and on the fact that the answers
of any run go to the requests pending at its start or to ids handed out later (`run_outOK`), used after a request's first
step, which hands out its id (`c12_token`, `c12_sar`);
`Pipeline` is the statement for the filter chain, where the request is bound to a cluster before it is authenticated.
-/
namespace KG.Props.C12
open KG KG.Model.AuthCache KG.Spec.AuthCache KG.Lemmas.AuthCache

/-- a state reached by some history -/
def reach (env : Env) (pre : List Step) : State := (runSteps env init pre).1

theorem c12_invariant (env : Env) (pre : List Step) : Inv env (reach env pre) := inv_runSteps pre (inv_init env)

/-! ## the caches -/

/-- every entry of a token cache object created for `(host, C)` is the answer `C`'s own oracle gave for that token, stored at a
    past time, expiring one TTL later; an error is never in a cache -/
theorem c12_token_cache_provenance (env : Env) (pre : List Step) (cid : CacheId) (tok : Str) (e : TokEntry)
    (h : (cid, tok, e) ∈ (reach env pre).tokEntries) :
    e.ans = env.tokO cid.inst tok e.storedAt ∧ e.storedAt ≤ (reach env pre).clock ∧
      e.expiry = e.storedAt + tokTTL env.cfg e.ans ∧ e.ans ≠ .err := by
  have hx := (c12_invariant env pre).tokE _ h
  exact ⟨hx.1, hx.2.1, hx.2.2.1, hx.ne_err⟩

/-- the same for the decision caches (an oracle error has no status, so it cannot be an entry) -/
theorem c12_sar_cache_provenance (env : Env) (pre : List Step) (cid : CacheId) (spec : Spec) (e : SarEntry)
    (h : (cid, spec, e) ∈ (reach env pre).sarEntries) :
    env.sarO cid.inst spec e.storedAt = .status e.st ∧ e.storedAt ≤ (reach env pre).clock ∧
      e.expiry = e.storedAt + sarTTL env.cfg e.st :=
  (c12_invariant env pre).sarE _ h

/-- a request in flight only ever reads / writes a cache object created for its own host and the cluster it resolved to -/
theorem c12_pending_uses_own_cache (env : Env) (pre : List Step) :
    (∀ p ∈ (reach env pre).tokPend, ∀ cid, tokCid? p.stage = some cid → cid.host = p.host ∧ cid.inst = p.inst) ∧
    (∀ p ∈ (reach env pre).sarPend, ∀ cid, sarCid? p.stage = some cid → cid.host = p.host ∧ cid.inst = p.inst) :=
  ⟨fun p hp => ((c12_invariant env pre).tokP p hp).2, fun p hp => ((c12_invariant env pre).sarP p hp).2⟩

/-! ## the answers -/

/-- **Token authentication, every interleaving.** A token request starts in any state that satisfies the invariant, so in
    any reachable state (`c12_invariant`), by `tokBegin` with a fresh id (`up` is the cluster WithUpstreamInfo bound it to,
    if any); after it ANY steps follow (its own, other requests', alias moves, deletes, re-creations, endpoint changes,
    clean-ups, evictions, ticks). Every answer given to
    this request is for the request's host and token and satisfies the judge with respect to the cluster the host
    resolved to when the request started; and an answer that is not an error, or for which a review was sent, is only
    given when that cluster is not different from the cluster the request is bound to (if binding is checked). -/
theorem c12_token {env : Env} {s : State} (hinv : Inv env s) (post : List Step) (rid : Rid) (host tok : Str) (ch : Nat)
    (up : Option Inst) (hfresh : s.nextRid ≤ rid) (t : TokOut)
    (ht : Out.tok t ∈ (runSteps env s (.tokBegin rid host tok ch up :: post)).2) (hr : t.rid = rid) :
    t.host = host ∧ t.tok = tok ∧ t.upstream = up ∧ t.inst = mgrGet s.mgr host ∧
      TokJudge env ⟨mgrGet s.mgr host, ownReady s host, tok, t.res, t.time, t.ep.isSome⟩ ∧
      ((t.res.isError = false ∨ t.ep.isSome = true) →
        ∃ c, mgrGet s.mgr host = some c ∧ ownReady s host = true ∧ boundElsewhere env.cfg.bindTok up c = false) := by
  -- the first step hands out the id, and no request left over from `s` has it: no answer to it goes to one of those
  have hleft : ¬ OutOK env { s with nextRid := rid + 1 } (.tok t) := fun h =>
    h.elim (fun hf => Nat.not_succ_le_self _ (hr ▸ hf)) fun ⟨p, hp, e0, _⟩ =>
      Nat.not_lt_of_le hfresh (hr ▸ e0 ▸ (hinv.tokP p hp).1)
  -- the first step is computed (`tokBegin_eq`); a later answer goes to a request pending after it (`run_outOK`)
  have hlater := run_outOK post (inv_step hinv (.tokBegin rid host tok ch up)) (.tok t)
  replace ht := List.mem_append.1 ht
  simp only [step, tokBegin_eq env hfresh] at ht hlater
  cases hent : enter s host ch env.cfg.bindTok up with
  | error ik =>
    -- refused: nothing was added, so the refusal is the only answer
    simp only [hent] at ht hlater
    obtain ⟨hi, _, hj⟩ := enter_error hent
    cases List.mem_singleton.1 (ht.resolve_right fun h1 => hleft (hlater h1))
    exact ⟨rfl, rfl, rfl, hi, hj (fun e => ⟨e ▸ rfl, rfl⟩) (fun _ e => ⟨e ▸ rfl, rfl⟩) fun _ e => .inl ⟨rfl, e ▸ nofun⟩,
      fun hx => nomatch hx⟩
  | ok ce =>
    -- let in: the first step is silent, and the answer goes to the request it added
    simp only [hent] at ht hlater
    obtain ⟨hg, hready, _, hbe⟩ := enter_ok hent
    rcases hlater (ht.resolve_left nofun) with hf | ⟨p, hpm, hx⟩
    · exact absurd (hr ▸ hf) (Nat.not_succ_le_self _)
    · rcases mem_put hpm with rfl | h2
      · obtain ⟨_, e1, e2, e3, e4, hj⟩ := hx
        refine ⟨e1, e2, e4, e3.trans hg.symm, ?_, fun _ => ⟨_, hg, hready, hbe⟩⟩
        rw [hg, hready]
        exact hj
      · exact absurd (.inr ⟨p, h2, hx⟩) hleft

/-- **Authorization (incl. the impersonation check), every interleaving.** As `c12_token`, for
    `MultiClusterSubjectAccessReviewAuthorizer.Authorize`. -/
theorem c12_sar {env : Env} {s : State} (hinv : Inv env s) (post : List Step) (rid : Rid) (host : Str) (attrs : Attrs) (ch : Nat)
    (up : Option Inst) (hfresh : s.nextRid ≤ rid) (t : SarOut)
    (ht : Out.sar t ∈ (runSteps env s (.sarBegin rid host attrs ch up :: post)).2) (hr : t.rid = rid) :
    t.host = host ∧ t.attrs = attrs ∧ t.upstream = up ∧ t.inst = mgrGet s.mgr host ∧
      SarJudge env ⟨mgrGet s.mgr host, ownReady s host, attrs, t.res, t.time, t.ep.isSome⟩ ∧
      ((t.res.err = none ∨ t.ep.isSome = true) →
        ∃ c, mgrGet s.mgr host = some c ∧ ownReady s host = true ∧ boundElsewhere env.cfg.bindSar up c = false) := by
  have hleft : ¬ OutOK env { s with nextRid := rid + 1 } (.sar t) := fun h =>
    h.elim (fun hf => Nat.not_succ_le_self _ (hr ▸ hf)) fun ⟨p, hp, e0, _⟩ =>
      Nat.not_lt_of_le hfresh (hr ▸ e0 ▸ (hinv.sarP p hp).1)
  have hlater := run_outOK post (inv_step hinv (.sarBegin rid host attrs ch up)) (.sar t)
  replace ht := List.mem_append.1 ht
  simp only [step, sarBegin_eq env hfresh] at ht hlater
  cases hent : enter s host ch env.cfg.bindSar up with
  | error ik =>
    simp only [hent] at ht hlater
    obtain ⟨hi, _, hj⟩ := enter_error hent
    cases List.mem_singleton.1 (ht.resolve_right fun h1 => hleft (hlater h1))
    exact ⟨rfl, rfl, rfl, hi, ⟨fun _ => sarErr_deny _,
      hj (fun e => ⟨e ▸ rfl, rfl⟩) (fun _ e => ⟨e ▸ rfl, rfl⟩) fun _ e => .inl (e ▸ rfl)⟩, fun hx => hx.elim nofun nofun⟩
  | ok ce =>
    simp only [hent] at ht hlater
    obtain ⟨hg, hready, _, hbe⟩ := enter_ok hent
    rcases hlater (ht.resolve_left nofun) with hf | ⟨p, hpm, hx⟩
    · exact absurd (hr ▸ hf) (Nat.not_succ_le_self _)
    · rcases mem_put hpm with rfl | h2
      · obtain ⟨_, e1, e2, e3, e4, hj⟩ := hx
        refine ⟨e1, e2, e4, e3.trans hg.symm, ?_, fun _ => ⟨_, hg, hready, hbe⟩⟩
        rw [hg, hready]
        exact hj
      · exact absurd (.inr ⟨p, h2, hx⟩) hleft

/-- what the harness evaluates on the REAL answers (`tokJudgeR`/`sarJudgeR`, sound for `TokJudgeR`/`SarJudgeR`) is implied by
    what is proved about the model: it keeps only what the property demands (refusals beyond it are allowed) -/
theorem c12_judge_applied_to_code_is_implied (env : Env) :
    (∀ o, TokJudge env o → TokJudgeR env o) ∧ (∀ o, SarJudge env o → SarJudgeR env o) :=
  ⟨fun _ h => h.relax, fun _ h => h.relax⟩

/-! ## consequences spelled out -/

/-- fail closed: unknown host or no ready endpoint ⇒ every answer to the request is the fixed error, not authenticated -/
theorem c12_token_fail_closed (env : Env) (pre post : List Step) (rid : Rid) (host tok : Str) (ch : Nat) (up : Option Inst)
    (hfresh : (reach env pre).nextRid ≤ rid) (t : TokOut)
    (ht : Out.tok t ∈ (runSteps env (reach env pre) (.tokBegin rid host tok ch up :: post)).2) (hr : t.rid = rid)
    (hno : ownReady (reach env pre) host = false) :
    (t.res = .error .notFound ∨ t.res = .error .noReady) ∧ t.ep = none := by
  obtain ⟨_, _, _, _, hj, _⟩ := c12_token (c12_invariant env pre) post rid host tok ch up hfresh t ht hr
  obtain ⟨h1, h2⟩ := hj.fail_closed hno
  exact ⟨h1, Option.eq_none_of_isNone (Option.isSome_eq_false_iff.1 h2)⟩

/-- fail closed: unknown host or no ready endpoint ⇒ deny with an error, nothing asked -/
theorem c12_sar_fail_closed (env : Env) (pre post : List Step) (rid : Rid) (host : Str) (attrs : Attrs) (ch : Nat) (up : Option Inst)
    (hfresh : (reach env pre).nextRid ≤ rid) (t : SarOut)
    (ht : Out.sar t ∈ (runSteps env (reach env pre) (.sarBegin rid host attrs ch up :: post)).2) (hr : t.rid = rid)
    (hno : ownReady (reach env pre) host = false) :
    t.res.decision = .deny ∧ (t.res.err = some .notFound ∨ t.res.err = some .noReady) ∧ t.ep = none := by
  obtain ⟨_, _, _, _, hj, _⟩ := c12_sar (c12_invariant env pre) post rid host attrs ch up hfresh t ht hr
  obtain ⟨h1, h2, h3⟩ := hj.fail_closed hno
  exact ⟨h1, h2, Option.eq_none_of_isNone (Option.isSome_eq_false_iff.1 h3)⟩

/-- an authenticated / unauthenticated (non-error) answer always comes from the oracle of the request's own cluster -/
theorem c12_token_answer_from_own_cluster (env : Env) (pre post : List Step) (rid : Rid) (host tok : Str) (ch : Nat) (up : Option Inst)
    (hfresh : (reach env pre).nextRid ≤ rid) (t : TokOut)
    (ht : Out.tok t ∈ (runSteps env (reach env pre) (.tokBegin rid host tok ch up :: post)).2) (hr : t.rid = rid)
    (hne : t.res.isError = false) :
    ∃ c, mgrGet (reach env pre).mgr host = some c ∧ ∃ t', t' ≤ t.time ∧ t.res = (env.tokO c tok t').res ∧
      (t' = t.time ∨ t.time < t' + tokTTL env.cfg (env.tokO c tok t')) := by
  obtain ⟨_, _, _, _, hj, _⟩ := c12_token (c12_invariant env pre) post rid host tok ch up hfresh t ht hr
  exact hj.own_answer hne

/-- an allow (or any error-free decision) always comes from the oracle of the request's own cluster -/
theorem c12_sar_answer_from_own_cluster (env : Env) (pre post : List Step) (rid : Rid) (host : Str) (attrs : Attrs) (ch : Nat) (up : Option Inst)
    (hfresh : (reach env pre).nextRid ≤ rid) (t : SarOut)
    (ht : Out.sar t ∈ (runSteps env (reach env pre) (.sarBegin rid host attrs ch up :: post)).2) (hr : t.rid = rid)
    (hne : t.res.err = none) :
    ∃ c, mgrGet (reach env pre).mgr host = some c ∧ ∃ t', t' ≤ t.time ∧ ∃ st, env.sarO c (specOf attrs) t' = .status st ∧
      t.res = decideStatus st ∧ t.time ≤ t' + sarTTL env.cfg st := by
  obtain ⟨_, _, _, _, hj, _⟩ := c12_sar (c12_invariant env pre) post rid host attrs ch up hfresh t ht hr
  exact hj.own_answer hne

/-! ## sequences of requests: an uninterrupted request is answered exactly once -/

/-- A whole `AuthenticateToken` call with nothing in between, from any reachable state, gives exactly one answer —
    to which `c12_token` (with `post` = the rest of the call) applies. (The two together say that in a sequence of whole
    requests and events each request gets one answer and it is the judge's; that composition is not stated as a theorem.) -/
theorem c12_token_answered_once (env : Env) (pre : List Step) (rid : Rid) (host tok : Str) (ch1 ch2 : Nat) (up : Option Inst)
    (hfresh : (reach env pre).nextRid ≤ rid) :
    ∃ t, (runSteps env (reach env pre) (tokSteps rid host tok ch1 ch2 up)).2 = [.tok t] ∧ t.rid = rid :=
  tok_answered_once (c12_invariant env pre) hfresh host tok ch1 ch2 up

theorem c12_sar_answered_once (env : Env) (pre : List Step) (rid : Rid) (host : Str) (attrs : Attrs) (ch : Nat) (up : Option Inst)
    (hfresh : (reach env pre).nextRid ≤ rid) :
    ∃ t, (runSteps env (reach env pre) (sarSteps rid host attrs ch up)).2 = [.sar t] ∧ t.rid = rid :=
  sar_answered_once (c12_invariant env pre) hfresh host attrs ch up

/-- what the correspondence harness compares the real code with (`runMacros`: requests with events and nested
    requests scheduled between their steps) is a small-step run from `init`, so every theorem above applies to it -/
theorem c12_scheduled_runs_are_small_step_runs (env : Env) (ms : List Macro) :
    runSteps env init (runMacros env ⟨init, [], []⟩ ms).steps =
      ((runMacros env ⟨init, [], []⟩ ms).s, (runMacros env ⟨init, [], []⟩ ms).outs) :=
  runOK_macros env ms _ (runOK_init env)

/-! ## the filter chain: a request is decided only by the cluster it is bound to

`WithUpstreamInfo` binds a request to `info.UpstreamCluster = manager.Get(host)` — the cluster the dispatcher proxies it
to — BEFORE the authentication and impersonation filters run, and those resolve the host again. `Pipeline env` is the
full statement at that level: whatever happens between the binding and the authenticator's / authorizer's own
`ClientFor` (e.g. the server name moves to another live cluster) and afterwards, a request bound to `u` for which a
review is sent gets what `u`'s oracle says then (the review goes through an endpoint of the request's own cluster:
`c12_*_review_target`), and it only ever gets an answer that is not an error from `u`'s own oracle. It holds exactly because the
two functions refuse a request whose bound cluster differs from the cluster resolved now (fix 45e3360) and because the
dispatcher proxies to the bound cluster instead of resolving the host once more; the model reads from the source whether
they do: `KG.Gen.C12.bindsTokenToUpstream`, `bindsSarToUpstream`, `dispatcherUsesBoundCluster`. -/

def Pipeline (env : Env) : Prop :=
  (∀ (pre post : List Step) (rid : Rid) (host tok : Str) (ch : Nat) (u : Inst) (t : TokOut),
    (reach env pre).nextRid ≤ rid →
    Out.tok t ∈ (runSteps env (reach env pre) (.tokBegin rid host tok ch (some u) :: post)).2 → t.rid = rid →
    (t.res.isError = false ∨ t.ep.isSome = true) →
      TokJudge env ⟨some u, true, tok, t.res, t.time, t.ep.isSome⟩) ∧
  (∀ (pre post : List Step) (rid : Rid) (host : Str) (attrs : Attrs) (ch : Nat) (u : Inst) (t : SarOut),
    (reach env pre).nextRid ≤ rid →
    Out.sar t ∈ (runSteps env (reach env pre) (.sarBegin rid host attrs ch (some u) :: post)).2 → t.rid = rid →
    (t.res.err = none ∨ t.ep.isSome = true) →
      SarJudge env ⟨some u, true, attrs, t.res, t.time, t.ep.isSome⟩) ∧
  -- last stage: the cluster that receives the proxied request is the cluster the request is bound to — hence (two
  -- clauses above) the cluster whose oracle produced its authentication and every authorization used for it
  (∀ (pre : List Step) (host : Str) (u : Inst) (ch : Nat) (d : DispOut) (c : Inst),
    Out.disp d ∈ (step env (reach env pre) (.dispatch host (some u) ch)).2 → d.proxied = some c →
      c = u ∧ (readyOf (reach env pre) u ≠ []))

/-- with the two checks and the dispatcher's use of the bound cluster in place the full statement holds, for every oracle behaviour, TTL configuration and history -/
theorem c12_pipeline_of_binding (env : Env) (h1 : env.cfg.bindTok = true) (h2 : env.cfg.bindSar = true)
    (h3 : env.cfg.bindDisp = true) : Pipeline env := by
  refine ⟨?_, ?_, ?_⟩
  rotate_left 2
  · intro pre host u ch d c hd hp
    simp only [step, dispatch, h3, if_true, List.mem_singleton] at hd
    cases hd
    obtain ⟨e, hpk, rfl⟩ := Option.map_eq_some_iff.1 hp
    exact ⟨rfl, List.ne_nil_of_mem (pickOne_mem hpk)⟩
  · intro pre post rid host tok ch u t hfresh ht hr hne
    obtain ⟨_, _, _, _, hj, hb⟩ := c12_token (c12_invariant env pre) post rid host tok ch (some u) hfresh t ht hr
    obtain ⟨c, hg, hready, hbe⟩ := hb hne
    obtain rfl := boundElsewhere_false (h1 ▸ hbe)
    rw [hg, hready] at hj
    exact hj
  · intro pre post rid host attrs ch u t hfresh ht hr hne
    obtain ⟨_, _, _, _, hj, hb⟩ := c12_sar (c12_invariant env pre) post rid host attrs ch (some u) hfresh t ht hr
    obtain ⟨c, hg, hready, hbe⟩ := hb hne
    obtain rfl := boundElsewhere_false (h2 ▸ hbe)
    rw [hg, hready] at hj
    exact hj

/-- the configuration of the source: the three flags as the extractor reads them from /repo on every run -/
def fromSource (env : Env) : Env :=
  { env with cfg := { env.cfg with bindTok := KG.Gen.C12.bindsTokenToUpstream, bindSar := KG.Gen.C12.bindsSarToUpstream,
                                   bindDisp := KG.Gen.C12.dispatcherUsesBoundCluster } }

/-- **the current tree**: the full statement, unconditionally (this is the configuration the correspondence harness
    runs the model with; it stops checking the moment one of the three facts disappears from the source) -/
theorem c12_pipeline (env : Env) : Pipeline (fromSource env) :=
  c12_pipeline_of_binding (fromSource env)
    (show KG.Gen.C12.bindsTokenToUpstream = true by decide) (show KG.Gen.C12.bindsSarToUpstream = true by decide)
    (show KG.Gen.C12.dispatcherUsesBoundCluster = true by decide)

/-! ## where reviews go -/

/-- The review closure: either the host still resolves to the request's own cluster `p.inst` and the review goes
    through one of ITS ready endpoints, or the request ends here with an error that is not an upstream error
    (unknown host, no ready endpoint, or "moved": the host now belongs to another cluster) and nothing is sent. -/
theorem c12_token_review_target (s : State) (rid : Rid) (ch : Nat) (p : TokPend) (cid : Option CacheId)
    (hf : findTok s rid = some p) (hst : p.stage = .missed cid) :
    (∃ e, mgrGet s.mgr p.host = some p.inst ∧ (p.inst, e) ∈ s.eps ∧ e.isReady = true ∧
        tokReview s rid ch = (setTok s { p with stage := .inFlight cid e.name (readyNames s p.inst) }, [])) ∨
    (∃ k, k ≠ ErrKind.upstream ∧ tokReview s rid ch = (delTok s rid, [tokOutErr s rid p.host p.tok (some p.inst) p.upstream k])) := by
  unfold tokReview
  simp only [hf, hst]
  cases hcf : clientFor s p.host ch with
  | error k =>
    exact .inr ⟨k, clientFor_err_ne_upstream hcf, rfl⟩
  | ok ce =>
    obtain ⟨cur, e⟩ := ce
    obtain ⟨hg, _, hm⟩ := clientFor_ok hcf
    by_cases hcur : cur = p.inst
    · left
      subst hcur
      obtain ⟨h1, h2⟩ := mem_readyOf hm
      refine ⟨e, hg, h1, h2, ?_⟩
      simp
    · right
      refine ⟨.moved, (by intro e; cases e), ?_⟩
      simp [hcur]

/-- `Authorize`: cluster, cache key and client come from ONE `ClientFor`, in `sarBegin`: the request is let in holding a
    ready endpoint of the cluster the host resolves to (which is the cluster the request is bound to, when binding is
    checked) — the endpoint `sarFinish` reports the review through — or it is denied at once. -/
theorem c12_sar_review_target (env : Env) (s : State) (rid : Rid) (host : Str) (attrs : Attrs) (ch : Nat) (up : Option Inst)
    (hn : s.nextRid ≤ rid) :
    (∃ c e, mgrGet s.mgr host = some c ∧ (c, e) ∈ s.eps ∧ e.isReady = true ∧ boundElsewhere env.cfg.bindSar up c = false ∧
        findSar (sarBegin env s rid host attrs ch up).1 rid = some ⟨rid, host, attrs, c, up, e.name, readyNames s c, .resolved⟩ ∧
        (sarBegin env s rid host attrs ch up).2 = []) ∨
    (∃ k t, (k = ErrKind.notFound ∨ k = ErrKind.noReady ∨ k = ErrKind.moved) ∧
        (sarBegin env s rid host attrs ch up).2 = [.sar t] ∧ t.res = sarErr k ∧ t.ep = none ∧
        (sarBegin env s rid host attrs ch up).1.sarPend = s.sarPend) := by
  rw [sarBegin_eq env hn]
  cases hent : enter s host ch env.cfg.bindSar up with
  | error ik =>
    exact .inr ⟨ik.2, _, (enter_error hent).2.1, rfl, rfl, rfl, rfl⟩
  | ok ce =>
    obtain ⟨hg, _, hm, hbe⟩ := enter_ok hent
    exact .inl ⟨ce.1, ce.2, hg, (mem_readyOf hm).1, (mem_readyOf hm).2, hbe, findSar_setSar _ _, rfl⟩

/-! ## errors are not cached: an oracle error ends the request with an error / deny and stores nothing -/

theorem c12_error_not_cached_token (env : Env) (s : State) (rid : Rid) (p : TokPend) (cid : Option CacheId) (ep : Str)
    (ready : List Str) (hf : findTok s rid = some p) (hst : p.stage = .inFlight cid ep ready)
    (herr : env.tokO p.inst p.tok s.clock = .err) :
    (tokFinish env s rid).1.tokEntries = s.tokEntries ∧
      ∃ t, (tokFinish env s rid).2 = [.tok t] ∧ t.res = .error .upstream := by
  unfold tokFinish
  simp only [hf, hst, herr]
  cases cid with
  | none => exact ⟨rfl, _, rfl, rfl⟩
  | some c =>
    simp only [cacheErrs_false, and_self, if_true]
    exact ⟨rfl, _, rfl, rfl⟩

theorem c12_error_not_cached_sar (env : Env) (s : State) (rid : Rid) (p : SarPend) (cid : CacheId)
    (hf : findSar s rid = some p) (hst : p.stage = .inFlight cid)
    (herr : env.sarO p.inst (specOf p.attrs) s.clock = .err) :
    (sarFinish env s rid).1.sarEntries = s.sarEntries ∧
      ∃ t, (sarFinish env s rid).2 = [.sar t] ∧ t.res.decision = .deny ∧ t.res.err = some .upstream := by
  unfold sarFinish
  simp only [hf, hst, herr]
  exact ⟨rfl, _, rfl, sarErr_deny _, rfl⟩

/-! ## the shape of the source the model relies on (regenerated from /repo on every run) -/

theorem c12_source_shape :
    -- ONE shared table of caches per component, keyed by a (host string, cluster instance pointer) pair
    KG.Gen.C12.tokenCacheKeyTypes = ["*clusters.ClusterInfo", "string"] ∧
    KG.Gen.C12.sarCacheKeyTypes = ["*clusters.ClusterInfo", "string"] ∧
    -- the authenticator resolves the host twice (first `ClientFor`, review closure), the authorizer once
    KG.Gen.C12.tokenClientForSites = 2 ∧ KG.Gen.C12.sarClientForSites = 1 ∧
    -- errors are not cached; errors deny
    KG.Gen.C12.tokenCacheErrs = "false" ∧ KG.Gen.C12.decisionOnError = "authorizer.DecisionDeny" := by
  decide +kernel

/-- position of a filter in the shipped chain (innermost = 0); `none` unless it occurs exactly once -/
def chainPos (n : String) : Option Nat :=
  if KG.Gen.C12.proxyChain.count n = 1 then KG.Gen.C12.proxyChain.idxOf? n else none

/-- the order of stages `Macro.pipe` (and `Pipeline`) assume is the order the shipped wiring builds: the request is
    bound (WithUpstreamInfo, after WithExtraRequestInfo made the Hostname) BEFORE it is authenticated, the impersonation
    check runs after authentication, the dispatcher last. (The harness drives the chain built by the shipped
    `buildProxyHandlerChainFunc` itself; this pins the same fact for the proofs.) -/
theorem c12_chain_order :
    (do let d ← chainPos "WithDispatcher"
        let i ← chainPos "WithNoLoggingImpersonation"
        let a ← chainPos "WithAuthentication"
        let u ← chainPos "WithUpstreamInfo"
        let e ← chainPos "WithExtraRequestInfo"
        pure (decide (d < i) && decide (i < a) && decide (a < u) && decide (u < e))) = some true := by
  decide +kernel

/-! ## non-vacuity: concrete histories (kernel-evaluated)

Two live clusters: instance 0 accepts every token as user "A" and allows everything, instance 1 rejects / denies.
Alias `x` first belongs to 0, is used (answer cached, TTL 100), then moves to 1 while 0 stays alive. -/

def exEnv : Env :=
  { cfg := { successTTL := 100, failureTTL := 100, allowTTL := 100, denyTTL := 100 },
    tokO := fun c _ _ => if c = 0 then .ok [65] else .no,
    sarO := fun c _ _ => if c = 0 then .status ⟨true, false, [65]⟩ else .status ⟨false, true, [66]⟩ }

def hostX : Str := [120]
def exAttrs : Attrs := ⟨none, [103], [], [], [], [112], [], [], [], true⟩

def exSetup : List Step :=
  [.ev (.setEndpoint 0 [101] true false), .ev (.setEndpoint 1 [102] true false), .ev (.addWithKey hostX 0)]

def exMove : List Step := [.ev (.addWithKey hostX 1), .ev (.tick 1)]

def tokResOf : Out → Option (TokRes × Src)
  | .tok t => some (t.res, t.src)
  | _ => none

def sarResOf : Out → Option (Decision × Src)
  | .sar t => some (t.res.decision, t.src)
  | _ => none

/-- alias moved between two requests: the second answer is cluster 1's own, not the cached answer of cluster 0 -/
example : (runSteps exEnv init (exSetup ++ tokSteps 0 hostX [116] 0 0 ++ exMove ++ tokSteps 1 hostX [116] 0 0)).2.map tokResOf =
    [some (.authenticated [65], .fresh), some (.unauthenticated, .fresh)] := by decide +kernel

example : (runSteps exEnv init (exSetup ++ sarSteps 0 hostX exAttrs 0 ++ exMove ++ sarSteps 1 hostX exAttrs 0)).2.map sarResOf =
    [some (.allow, .fresh), some (.deny, .fresh)] := by decide +kernel

/-- the hypotheses of `c12_token` are met by that history (fresh id 1; an answer to request 1 exists) -/
example : (reach exEnv (exSetup ++ tokSteps 0 hostX [116] 0 0 ++ exMove)).nextRid ≤ 1 ∧
    ∃ t, Out.tok t ∈ (runSteps exEnv (reach exEnv (exSetup ++ tokSteps 0 hostX [116] 0 0 ++ exMove))
        (.tokBegin 1 hostX [116] 0 none :: (tokSteps 1 hostX [116] 0 0).tail)).2 ∧ t.rid = 1 ∧ t.res = .unauthenticated := by
  refine ⟨by decide +kernel, ⟨1, hostX, [116], some 1, none, .unauthenticated, 1, .fresh, some [102], [[102]]⟩, by decide +kernel, rfl, rfl⟩

/-- same host, no move: the second answer comes from the cache of the SAME cluster, within the TTL … -/
example : (runSteps exEnv init (exSetup ++ tokSteps 0 hostX [116] 0 0 ++ [.ev (.tick 99)] ++ tokSteps 1 hostX [116] 0 0)).2.map tokResOf =
    [some (.authenticated [65], .fresh), some (.authenticated [65], .cached 0 100)] := by decide +kernel

/-- … and is asked again once the TTL has passed -/
example : (runSteps exEnv init (exSetup ++ tokSteps 0 hostX [116] 0 0 ++ [.ev (.tick 100)] ++ tokSteps 1 hostX [116] 0 0)).2.map tokResOf =
    [some (.authenticated [65], .fresh), some (.authenticated [65], .fresh)] := by decide +kernel

/-- the host changes hands between the request's first `ClientFor` and the review closure: refused, nothing cached -/
example : (runSteps exEnv init (exSetup ++ [.tokBegin 0 hostX [116] 0 none, .tokCache 0, .tokLookup 0, .ev (.addWithKey hostX 1),
      .tokReview 0 0, .tokFinish 0])).2.map tokResOf = [some (.error .moved, .none)] ∧
    (runSteps exEnv init (exSetup ++ [.tokBegin 0 hostX [116] 0 none, .tokCache 0, .tokLookup 0, .ev (.addWithKey hostX 1),
      .tokReview 0 0, .tokFinish 0])).1.tokEntries = [] := by decide +kernel

/-- unknown host, and a cluster whose only endpoint is unhealthy: refused / denied without asking anybody -/
example : (runSteps exEnv init ([.ev (.setEndpoint 0 [101] false false), .ev (.addWithKey hostX 0)] ++
      tokSteps 0 [121] [116] 0 0 ++ tokSteps 1 hostX [116] 0 0 ++ sarSteps 2 hostX exAttrs 0)).2.map
        (fun o => (tokResOf o, sarResOf o)) =
    [(some (.error .notFound, .none), none), (some (.error .noReady, .none), none), (none, some (.deny, .none))] := by decide +kernel

/-- delete-and-stop, clean-up, re-create under the same name: the new instance starts with an empty cache -/
example : (runSteps exEnv init (exSetup ++ sarSteps 0 hostX exAttrs 0 ++
      [.ev (.deleteWithStop hostX), .ev .dropStopped, .ev (.addWithKey hostX 1), .ev (.tick 1)] ++ sarSteps 1 hostX exAttrs 0)).2.map sarResOf =
    [some (.allow, .fresh), some (.deny, .fresh)] := by decide +kernel

/-! ### the filter-chain window

`exEnv` does NOT check the binding (`bindTok = bindSar = false`, the tree before fix 45e3360). The request for `x`
is bound to cluster 1 (which rejects the token and denies), then `x` moves to cluster 0 before the authenticator
resolves it: the request — which will be proxied to cluster 1 — is authenticated / allowed by cluster 0. -/

def exSetup1 : List Step :=
  [.ev (.setEndpoint 0 [101] true false), .ev (.setEndpoint 1 [102] true false), .ev (.addWithKey hostX 1),
   .ev (.addWithKey hostX 0)]   -- bound to 1 (first), then the name moves to 0

example : (runSteps exEnv init (exSetup1 ++ tokSteps 0 hostX [116] 0 0 (some 1))).2.map tokResOf =
    [some (.authenticated [65], .fresh)] := by decide +kernel

/-- kernel-checked refutation of the full statement for a tree WITHOUT the two comparisons -/
theorem c12_pipeline_refuted_without_binding : ∃ env : Env, env.cfg.bindTok = false ∧ env.cfg.bindSar = false ∧ ¬ Pipeline env := by
  refine ⟨exEnv, rfl, rfl, fun h => ?_⟩
  have hj := h.1 exSetup1 (tokSteps 0 hostX [116] 0 0 (some 1)).tail 0 hostX [116] 0 1
    ⟨0, hostX, [116], some 0, some 1, .authenticated [65], 0, .fresh, some [101], [[101]]⟩
    (by decide +kernel) (by decide +kernel) rfl (Or.inl rfl)
  have hj' : TokRes.authenticated [65] = (exEnv.tokO 1 [116] 0).res := by simpa [TokJudge] using hj
  exact absurd hj' (by decide)

/-- … and with the comparisons the same history is refused (`moved`), for the token and for the impersonation check -/
example : (runSteps (fromSource exEnv) init (exSetup1 ++ tokSteps 0 hostX [116] 0 0 (some 1) ++ sarSteps 1 hostX exAttrs 0 (some 1))).2.map
      (fun o => (tokResOf o, sarResOf o)) =
    [(some (.error .moved, .none), none), (none, some (.deny, .none))] := by decide +kernel

/-- a dispatcher that resolves the host again at dispatch time: the request, authenticated and authorized by the cluster
    it is bound to (1), is proxied to the cluster the name has moved to meanwhile (0) — kernel-checked refutation of the
    last clause of the full statement, with both other checks in place -/
theorem c12_pipeline_refuted_without_dispatch_binding :
    ∃ env : Env, env.cfg.bindTok = true ∧ env.cfg.bindSar = true ∧ env.cfg.bindDisp = false ∧ ¬ Pipeline env := by
  refine ⟨{ exEnv with cfg := { exEnv.cfg with bindTok := true, bindSar := true } }, rfl, rfl, rfl, fun h => ?_⟩
  have := (h.2.2 exSetup1 hostX 1 0 ⟨hostX, some 1, some 0, some 0, 0⟩ 0 (by decide +kernel) rfl).1
  cases this

/-- the whole chain as the harness schedules it (`Macro.pipe`), current source: bound to 0, the name moves to 1 after the
    impersonation check and before the dispatcher: still proxied to 0, the cluster that authenticated and authorized -/
example : ((runMacros (fromSource exEnv) ⟨init, [], []⟩
      [.ev (.setEndpoint 0 [101] true false), .ev (.setEndpoint 1 [102] true false), .ev (.addWithKey hostX 0),
       .pipe hostX [116] (some [97]) [] [] [] [] [] [.ev (.addWithKey hostX 1)]]).outs.map
        (fun o => match o with | .disp d => (d.upstream, d.proxied) | _ => (none, none))) =
    [(none, none), (none, none), (some 0, some 0)] := by decide +kernel

/-- a bound request whose host did not move is served -/
example : (runSteps (fromSource exEnv) init (exSetup ++ tokSteps 0 hostX [116] 0 0 (some 0))).2.map tokResOf =
    [some (.authenticated [65], .fresh)] := by decide +kernel

end KG.Props.C12
