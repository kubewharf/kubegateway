import KG.Lemmas.GlobalCount
/-!
# C08 — Global count: the server never grants beyond the global limit; accounting is exact

Model: `KG.Model.GlobalCount` (current, repaired tree). Judge / invariants: `KG.Spec.GlobalCount`.

`SetState` is ONE critical section of `f.lock` (shape fact re-read from the source on every check:
`KG.Gen.C08.setStateOneCriticalSection`), so one call is one atomic step (`setState`); every interleaving of
calls issued by any number of instances/threads is therefore a sequence of `Op`s, and the sequential theorems
below, which quantify over ALL op lists, are the interleaving theorems (`c08_conc_*` make that explicit; the
`Fine` system with the lock and every atomic as its own step is related to it in section 5).
Exclusion of `sync.RWMutex.Lock` / `sync.Mutex.Lock` is trusted.
-/
namespace KG.Props.C08
open KG KG.Model.GlobalCount KG.Spec.GlobalCount KG.Lemmas.GlobalCount

/-! ## 0. the shape facts the atomic-step models rest on (regenerated from /repo; `rfl` breaks if they change) -/

theorem c08_shape_setstate_one_critical_section : KG.Gen.C08.setStateOneCriticalSection = true := rfl
theorem c08_shape_tryacquire_reads_clock_under_lock : KG.Gen.C08.tryAcquireSerialized = true := rfl

/-! ## 1. one operation

The `c08_seq_*` of this section speak of ONE `SetState` from any state; what follows for sequences is section 2. -/

/-- every operation keeps `count = Σ states` as `int32`s (what `DebugInfo` shows as `count` vs `total`),
    whatever the values: no hypothesis besides "arguments are `int32`s" -/
theorem c08_step_total_mod (g : G) (op : Op) (h : ModInv g) (hop : OpI32 op) : ModInv (step g op) := by
  cases op with
  | set i r c => exact setState_modInv i r c h hop
  | resize n =>
    rw [step_resize]
    exact ⟨⟨hop, h.1.count, h.1.states, h.1.nodup⟩, h.2⟩

/-- exact accounting and the bound, for one `SetState` under `Pre`: the total stays exactly `Σ states`, and
    `count' ≤ max(count, limit)`; the limit is untouched -/
theorem c08_setState_exact (g : G) (inst : Str) (rid cur : Int) (h : Inv g) (hc : InI32 cur)
    (hpre : 0 ≤ cur → Pre g inst cur) :
    Inv (setState g inst rid cur).1 ∧
    ((setState g inst rid cur).1.count ≤ g.count ∨ (setState g inst rid cur).1.count ≤ g.max) ∧
    (setState g inst rid cur).1.max = g.max := by
  have hmod := setState_modInv inst rid cur ⟨h.1, by rw [h.2, wrap32_id (h.2 ▸ h.1.count)]⟩ hc
  have ho := oldCount_ok inst h.1
  have key : (setState g inst rid cur).1.count = sumStates (setState g inst rid cur).1.states ∧
      ((setState g inst rid cur).1.count ≤ g.count ∨ (setState g inst rid cur).1.count ≤ g.max) := by
    rw [setState_spec inst rid h hc hpre]
    split
    · exact ⟨by show _ = sumStates (erase inst g.states); rw [sum_erase, h.2],
        Or.inl (by show g.count - oldCount g inst ≤ g.count; omega)⟩
    · split
      · exact ⟨h.2, Or.inl (Int.le_refl _)⟩
      · split
        · refine ⟨?_, Or.inl (Int.le_refl _)⟩
          show g.count = sumStates (put inst _ g.states)
          rw [sum_put, h.2]
          show _ = sumStates g.states - oldCount g inst + oldCount g inst
          omega
        · refine ⟨?_, ?_⟩
          · show _ = sumStates (put inst _ g.states)
            rw [sum_put, h.2]
          · show g.count - oldCount g inst + cur ≤ g.count ∨ g.count - oldCount g inst + cur ≤ g.max
            omega
  exact ⟨⟨hmod.1, key.1⟩, key.2, setState_max g inst rid cur⟩

/-- **A report that does not raise the instance's count is always applied** (unless its request id is stale) —
    also while the total is above a lowered limit (the repaired defect), for any limit and any total, wrapped or not. -/
theorem c08_seq_decrease (g : G) (inst : Str) (rid cur : Int) (s : Inst) (h : WF g)
    (hf : find inst g.states = some s) (h0 : 0 ≤ cur) (hle : cur ≤ s.count)
    (hns : ¬ (0 < rid ∧ rid ≤ s.requestId)) :
    find inst (setState g inst rid cur).1.states = some ⟨cur, newId s rid⟩ ∧
    (setState g inst rid cur).2.latest = cur ∧ (setState g inst rid cur).2.err = .none ∧
    (setState g inst rid cur).1.count = wrap32 (g.count - (s.count - cur)) := by
  have := setState_decrease inst (rid := rid) h h0 (by rw [oldCount_of_find hf]; exact hle)
    (fun hs => hns (by rw [← stateOf_of_find hf]; exact (stale_stateOf g inst rid).1 hs))
  rwa [oldCount_of_find hf, stateOf_of_find hf] at this

/-- with exact accounting the total drops by exactly the difference -/
theorem c08_seq_decrease_exact (g : G) (inst : Str) (rid cur : Int) (s : Inst) (h : Inv g)
    (hf : find inst g.states = some s) (h0 : 0 ≤ cur) (hle : cur ≤ s.count)
    (hns : ¬ (0 < rid ∧ rid ≤ s.requestId)) :
    (setState g inst rid cur).1.count = g.count - (s.count - cur) := by
  obtain ⟨-, -, -, hcnt⟩ := c08_seq_decrease g inst rid cur s h.1 hf h0 hle hns
  rw [hcnt]
  have := allOk_find h.1.states hf
  have := find_le_sum h.1.states hf
  have hc := h.1.count
  have := h.2
  exact wrap32_id (by unfold InI32 at hc ⊢; omega)

/-- **A report whose (positive) request id is not newer than the one stored for the instance is refused**
    with `RequestIDTooOld`, and nothing changes. -/
theorem c08_seq_reqid_refused (g : G) (inst : Str) (rid cur : Int) (s : Inst)
    (hf : find inst g.states = some s) (h0 : 0 ≤ cur) (hid : 0 < rid ∧ rid ≤ s.requestId) :
    setState g inst rid cur = (g, ⟨false, cur, .requestIDTooOld⟩) := by
  exact setState_stale h0 ((stale_iff g inst rid).2 ⟨s, hf, hid⟩)

/-- `RequestIDTooOld` is answered only for stale ids -/
theorem c08_seq_reqid_only_stale (g : G) (inst : Str) (rid cur : Int)
    (he : (setState g inst rid cur).2.err = .requestIDTooOld) :
    0 ≤ cur ∧ ∃ s, find inst g.states = some s ∧ 0 < rid ∧ rid ≤ s.requestId := by
  obtain ⟨cnt, k, a, l, e⟩ := setState_shape g inst rid cur
  rw [e] at he
  split at he
  · cases he
  · split at he
    · exact ⟨by omega, (stale_iff g inst rid).1 ‹stale g inst rid = true›⟩
    · cases he

/-- **Stored request ids only grow**: after any `SetState` of a registered instance that does not remove it,
    the stored id is not smaller than before, and a report with `rid > 0` that is processed stores exactly `rid`,
    which is strictly larger. -/
theorem c08_seq_reqid_monotone (g : G) (inst : Str) (rid cur : Int) (s : Inst)
    (hf : find inst g.states = some s) (h0 : 0 ≤ cur) :
    ∃ s', find inst (setState g inst rid cur).1.states = some s' ∧ s.requestId ≤ s'.requestId ∧
      ((setState g inst rid cur).2.err = .none → 0 < rid → s'.requestId = rid ∧ s.requestId < rid) := by
  obtain ⟨cnt, k, a, l, e⟩ := setState_shape g inst rid cur
  rw [e, if_neg (Int.not_lt.2 h0)]
  by_cases hs : stale g inst rid = true
  · rw [if_pos hs]; exact ⟨s, hf, Int.le_refl _, nofun⟩
  · have hns : ¬ (0 < rid ∧ rid ≤ s.requestId) := fun hh => hs ((stale_iff g inst rid).2 ⟨s, hf, hh⟩)
    rw [if_neg hs, stateOf_of_find hf]
    refine ⟨_, find_put_self _ _ _, ?_, fun _ hr => ?_⟩
    · show s.requestId ≤ newId s rid
      unfold newId; split <;> omega
    · show newId s rid = rid ∧ s.requestId < rid
      unfold newId; rw [if_pos hr]; omega

/-- operations of other instances, and `Resize`, leave an instance's entry alone -/
theorem c08_seq_others_untouched (g : G) (op : Op) (j : Str)
    (h : match op with | .set i _ _ => j ≠ i | .resize _ => True) :
    find j (step g op).states = find j g.states := by
  cases op with
  | set i r c => exact setState_find_other g i j r c h
  | resize n => rw [step_resize]

/-- **The server never accepts beyond the limit** (under `Pre`; without it: the `example`s of section 6): an accepted
    report is registered as reported and leaves the total within the limit (strictly below it unless the instance
    reported 0). -/
theorem c08_seq_accept (g : G) (inst : Str) (rid cur : Int) (h : Inv g) (hc : InI32 cur)
    (hpre : 0 ≤ cur → Pre g inst cur) (hacc : (setState g inst rid cur).2.accept = true) :
    0 ≤ cur ∧ (setState g inst rid cur).1.count ≤ g.max ∧
    (cur ≠ 0 → (setState g inst rid cur).1.count < g.max) ∧
    (setState g inst rid cur).2 = ⟨true, cur, .none⟩ ∧
    (find inst (setState g inst rid cur).1.states).map (·.count) = some cur := by
  have e := setState_spec inst rid h hc hpre
  split at e
  · rw [e] at hacc; cases hacc
  · split at e
    · rw [e] at hacc; cases hacc
    · split at e
      · rw [e] at hacc; cases hacc
      · rw [e] at hacc ⊢
        have hd := of_decide_eq_true hacc
        refine ⟨by omega, ?_, ?_, ?_, ?_⟩
        · show g.count - oldCount g inst + cur ≤ g.max
          omega
        · intro hne
          show g.count - oldCount g inst + cur < g.max
          omega
        · show (⟨_, cur, .none⟩ : Reply) = ⟨true, cur, .none⟩
          congr 1
        · show (find inst (put inst _ g.states)).map (·.count) = some cur
          rw [find_put_self]; rfl

/-! ## 2. every sequence of operations (= every interleaving of atomic calls) -/

/-- **`count = Σ per-instance counts` after every op sequence** (as `int32`s: exactly what `DebugInfo` prints as
    `count` and `total`), for all limits, instances, request ids and counts, removals included. -/
theorem c08_seq_total_mod (m : Int) (ops : List Op) (hm : InI32 m) (hops : ∀ op ∈ ops, OpI32 op) :
    ModInv (run (G.init m) ops) :=
  run_inv (fun g op hop h => c08_step_total_mod g op h (hops op hop)) (init_modInv m hm)

/-- **One operation** that is `OpOk` where it is applied keeps the accounting exact and satisfies
    `count' ≤ max(count, max')` (the step of `c08_seq_total`; `c08_seq_bounded` is about whole runs). -/
theorem c08_seq_bound (g : G) (op : Op) (h : Inv g) (hop : OpOk g op) :
    Inv (step g op) ∧ ((step g op).count ≤ g.count ∨ (step g op).count ≤ (step g op).max) := by
  cases op with
  | set i r c =>
    obtain ⟨h1, h2, h3⟩ := c08_setState_exact g i r c h hop.1 hop.2
    refine ⟨h1, ?_⟩
    rw [step_set, h3]; exact h2
  | resize n =>
    rw [step_resize]
    exact ⟨⟨⟨hop.2, h.1.count, h.1.states, h.1.nodup⟩, h.2⟩, Or.inl (Int.le_refl _)⟩

/-- **Exact accounting after every op sequence**: `count = Σ per-instance counts` as integers, whenever no
    `int32` overflow can interfere (`SafeRun`: see `Pre`). From a state within its limit, and while the limit is
    unchanged, exactness needs no such hypothesis (`c08_seq_limit_unchanged`); `SafeRun` holds of every run with
    limits and counts below 2^30 (`c08_seq_bounded`). -/
theorem c08_seq_total (g : G) (ops : List Op) (h : Inv g) (hs : SafeRun g ops) : Inv (run g ops) := by
  induction ops generalizing g with
  | nil => exact h
  | cons op rest ih => exact ih (step g op) (c08_seq_bound g op h hs.1).1 hs.2

/-- **While the limit is unchanged the registered counts sum to at most the limit**, and the total is exact:
    from any state within its (non-negative) limit, after ANY sequence of reports and removals by any
    instances with any request ids and any `int32` counts. No other hypothesis. -/
theorem c08_seq_limit_unchanged (g : G) (ops : List Op) (h : Inv g) (hm : 0 ≤ g.max) (hle : g.count ≤ g.max)
    (hops : ∀ op ∈ ops, ∃ i r c, op = .set i r c ∧ InI32 c) :
    Inv (run g ops) ∧ (run g ops).max = g.max ∧ (run g ops).count ≤ g.max ∧
    sumStates (run g ops).states ≤ g.max := by
  have := run_inv (P := fun g' => Inv g' ∧ g'.max = g.max ∧ g'.count ≤ g.max) (ops := ops)
    (fun g' op hop ⟨h', hm', hle'⟩ => by
      obtain ⟨i, r, c, rfl, hc⟩ := hops op hop
      have hpre : 0 ≤ c → Pre g' i c := fun _ => ⟨by rw [hm']; exact hm, Or.inl (by rw [← h'.2, hm']; exact hle')⟩
      obtain ⟨h1, h2, h3⟩ := c08_setState_exact g' i r c h' hc hpre
      exact ⟨h1, h3.trans hm', by show (setState g' i r c).1.count ≤ g.max; omega⟩)
    ⟨h, rfl, hle⟩
  exact ⟨this.1, this.2.1, this.2.2, by rw [← this.1.2]; exact this.2.2⟩

/-- the same from a freshly created flow control -/
theorem c08_seq_limit_unchanged_init (m : Int) (ops : List Op) (hm : 0 ≤ m) (hm' : InI32 m)
    (hops : ∀ op ∈ ops, ∃ i r c, op = .set i r c ∧ InI32 c) :
    (run (G.init m) ops).count = sumStates (run (G.init m) ops).states ∧
    sumStates (run (G.init m) ops).states ≤ m := by
  have := c08_seq_limit_unchanged (G.init m) ops (init_inv m hm') hm (by simp [G.init]; exact hm) hops
  exact ⟨this.1.2, this.2.2.2⟩

/-- **Every run of values below 2^30**, limit changes included: if every configured limit and every reported count is
    below 2^30, then for EVERY op sequence the accounting is exact and every op is `OpOk` where it is applied, hence
    (`c08_seq_bound`) satisfies `count' ≤ max(count, max')`: a total above a lowered limit can only come down, and
    `count ≤ max` is preserved while `max` is unchanged. -/
theorem c08_seq_bounded (m : Int) (ops : List Op) (hm : 0 ≤ m ∧ m < 1073741824) (hops : ∀ op ∈ ops, Bounded op) :
    Inv (run (G.init m) ops) ∧ SafeRun (G.init m) ops := by
  refine (safeRun_inv (P := fun g => Inv g ∧ 0 ≤ g.max ∧ g.max < 1073741824 ∧ g.count < 1073741824)
    (fun g op hop ⟨h, hm0, hm1, hc⟩ => ?_) ⟨init_inv m (by unfold InI32; omega), hm.1, hm.2, by show (0 : Int) < 1073741824; decide⟩).imp_left (·.1)
  have hb := hops op hop
  have hok : OpOk g op := by
    cases op with
    | set i r c =>
      have := sum_nonneg h.1.states
      have := h.2
      have := oldCount_ok i h.1
      exact ⟨hb.1, fun _ => ⟨hm0, Or.inr (by have := hb.2; omega)⟩⟩
    | resize n => exact ⟨hb.1, bounded_opI32 hb⟩
  obtain ⟨h1, h2⟩ := c08_seq_bound g op h hok
  have hmax : 0 ≤ (step g op).max ∧ (step g op).max < 1073741824 := by
    cases op with
    | set i r c =>
      rw [step_set, setState_max]; exact ⟨hm0, hm1⟩
    | resize n => rw [step_resize]; exact hb
  exact ⟨hok, h1, hmax.1, hmax.2, by omega⟩

/-- **Equal (or older) request ids are processed at most once**: once a report with id `rid` has been processed
    for an instance, then after ANY further operations (of any instances, in any order) that do not remove the
    instance, a report of it with a positive id `≤ rid` is refused and changes nothing. -/
theorem c08_seq_same_id_once (g : G) (inst : Str) (rid cur : Int) (ops : List Op) (rid' cur' : Int)
    (h0 : 0 ≤ cur) (hr : 0 < rid) (hproc : (setState g inst rid cur).2.err = .none)
    (hno : ∀ op ∈ ops, ¬ Removes inst op) (h0' : 0 ≤ cur') (hr' : 0 < rid' ∧ rid' ≤ rid) :
    (setState (run (setState g inst rid cur).1 ops) inst rid' cur').2 = ⟨false, cur', .requestIDTooOld⟩ ∧
    (setState (run (setState g inst rid cur).1 ops) inst rid' cur').1 = run (setState g inst rid cur).1 ops := by
  have hstart : ∃ s, find inst (setState g inst rid cur).1.states = some s ∧ rid ≤ s.requestId := by
    obtain ⟨_, k, hk⟩ := setState_processed h0 hproc
    exact ⟨_, hk, by show rid ≤ newId _ rid; unfold newId; rw [if_pos hr]; exact Int.le_refl _⟩
  have hkeep : ∃ s, find inst (run (setState g inst rid cur).1 ops).states = some s ∧ rid ≤ s.requestId := by
    refine run_inv (P := fun g1 => ∃ s, find inst g1.states = some s ∧ rid ≤ s.requestId)
      (fun g1 op hop ⟨s, hs, hle⟩ => ?_) hstart
    cases op with
    | resize n => exact ⟨s, by rw [c08_seq_others_untouched g1 (.resize n) inst trivial]; exact hs, hle⟩
    | set i r c =>
      by_cases hi : i = inst
      · subst hi
        have hc : 0 ≤ c := Int.not_lt.1 fun hc => hno _ hop ⟨rfl, hc⟩
        obtain ⟨s', h1, h2, _⟩ := c08_seq_reqid_monotone g1 i r c s hs hc
        exact ⟨s', h1, by omega⟩
      · exact ⟨s, by rw [c08_seq_others_untouched g1 (.set i r c) inst (fun e => hi e.symm)]; exact hs, hle⟩
  obtain ⟨s, hs, hle⟩ := hkeep
  rw [c08_seq_reqid_refused _ inst rid' cur' s hs h0' ⟨hr'.1, by omega⟩]
  exact ⟨rfl, rfl⟩

/-! ### interleavings of the atomic calls of any number of threads -/

/-- **Reports and removals racing with each other**: whatever the threads (any number, any instances, equal
    request ids included) and however their atomic calls interleave, the running total equals the `int32` sum
    of the registered per-instance counts — at quiescence and after every prefix. -/
theorem c08_conc_total_mod (m : Int) (ts : List (List Op)) (l : List Op) (hm : InI32 m)
    (hts : ∀ t ∈ ts, ∀ op ∈ t, OpI32 op) (hl : Interleave ts l) (k : Nat) :
    ModInv (run (G.init m) (l.take k)) :=
  c08_seq_total_mod m _ hm (interleave_take hl hts k)

/-- … exactly, and within the limit, while the limit is unchanged (threads only report and remove) -/
theorem c08_conc_total (m : Int) (ts : List (List Op)) (l : List Op) (hm : 0 ≤ m) (hm' : InI32 m)
    (hts : ∀ t ∈ ts, ∀ op ∈ t, ∃ i r c, op = .set i r c ∧ InI32 c) (hl : Interleave ts l) (k : Nat) :
    (run (G.init m) (l.take k)).count = sumStates (run (G.init m) (l.take k)).states ∧
    sumStates (run (G.init m) (l.take k)).states ≤ m :=
  c08_seq_limit_unchanged_init m _ hm hm' (interleave_take hl hts k)

/-- … and with limit changes racing too, for bounded limits and counts -/
theorem c08_conc_bounded (m : Int) (ts : List (List Op)) (l : List Op) (hm : 0 ≤ m ∧ m < 1073741824)
    (hts : ∀ t ∈ ts, ∀ op ∈ t, Bounded op) (hl : Interleave ts l) (k : Nat) :
    Inv (run (G.init m) (l.take k)) ∧ SafeRun (G.init m) (l.take k) :=
  c08_seq_bounded m _ hm (interleave_take hl hts k)

/-! ## 3. the judge the harness applies to the real code is satisfied by every step of the model

For `SetState` the judge of the real code is `c08_judge_sound`, the model-level facts `c08_model_step_facts(_list)`; for a
limit change the judge is `c08_judge_sound_limit_change`, model-level `c08_judge_sound_resize`; for grants (section 4)
the judge is `c08_judge_sound_grant_text`, model-level `c08_judge_sound_grant`. -/

/-- the model-level step facts (more than the property says; the judge of the real code is `judgeViolations`,
    `c08_judge_sound`): on every state satisfying `ModInv` (the representation invariant `WF` and the `int32` total) and
    every `int32` argument, the model's `SetState` breaks none of the clauses of `KG.Spec.GlobalCount.violations` (total, exact total and bound under `Pre`,
    accept within the limit, decrease applied, stale id refused and state unchanged, ids increase, removal, latest,
    other instances untouched). -/
theorem c08_model_step_facts (others : List Str) (g : G) (i : Str) (r c : Int) (h : ModInv g) (hc : InI32 c) :
    clTotal g i r c (setState g i r c).2 (setState g i r c).1 = true ∧
    clExact g i r c (setState g i r c).2 (setState g i r c).1 = true ∧
    clBound g i r c (setState g i r c).2 (setState g i r c).1 = true ∧
    clAccept g i r c (setState g i r c).2 (setState g i r c).1 = true ∧
    clDecrease g i r c (setState g i r c).2 (setState g i r c).1 = true ∧
    clStale g i r c (setState g i r c).2 (setState g i r c).1 = true ∧
    clIds g i r c (setState g i r c).2 (setState g i r c).1 = true ∧
    clRemoval g i r c (setState g i r c).2 (setState g i r c).1 = true ∧
    clLatest g i r c (setState g i r c).2 (setState g i r c).1 = true ∧
    clOthers others g i r c (setState g i r c).2 (setState g i r c).1 = true := by
  have hmod := setState_modInv i r c h hc
  have hInv : g.count = sumStates g.states → Inv g := fun e => ⟨h.1, e⟩
  refine ⟨?_, ?_, ?_, ?_, ?_, ?_, ?_, ?_, ?_, ?_⟩
  · unfold clTotal; exact decide_eq_true hmod.2
  · unfold clExact; apply decide_eq_true
    intro hp he
    exact (c08_setState_exact g i r c (hInv he) hc hp).1.2
  · unfold clBound
    rw [Bool.and_eq_true]
    refine ⟨decide_eq_true (setState_max g i r c), decide_eq_true ?_⟩
    intro hp he
    obtain ⟨-, hbound, hmax⟩ := c08_setState_exact g i r c (hInv he) hc hp
    rw [hmax]; exact hbound
  · unfold clAccept; apply decide_eq_true
    intro ha hp he
    obtain ⟨-, hle, -, hrep, hfind⟩ := c08_seq_accept g i r c (hInv he) hc (fun h0 => hp h0) ha
    rw [setState_max]
    refine ⟨hle, ?_, ?_, hfind⟩
    · rw [hrep]
    · rw [hrep]
  · unfold clDecrease; apply decide_eq_true
    intro h0 hle hst
    obtain ⟨a, b, d, _⟩ := setState_decrease i h.1 h0 hle (Bool.not_eq_true _ ▸ hst)
    exact ⟨by rw [a]; rfl, b, d⟩
  · unfold clStale; apply decide_eq_true
    intro h0 hst
    rw [setState_stale h0 hst]
    exact ⟨rfl, rfl⟩
  · unfold clIds
    rw [Bool.and_eq_true]
    constructor
    · apply decide_eq_true
      intro _ he
      obtain ⟨_, s, hs, hid⟩ := c08_seq_reqid_only_stale g i r c he
      exact (stale_iff g i r).2 ⟨s, hs, hid⟩
    · split
      · rename_i hh
        obtain ⟨h0, he⟩ := hh
        obtain ⟨hns, k, hk⟩ := setState_processed h0 he
        rw [hk]
        simp only
        rw [Bool.and_eq_true]
        constructor
        · exact decide_eq_true fun hr => if_pos hr
        · cases hf : find i g.states with
          | none => rfl
          | some s0 =>
            have : ¬ (0 < r ∧ r ≤ s0.requestId) := fun hh => hns ((stale_iff g i r).2 ⟨s0, hf, hh⟩)
            rw [stateOf_of_find hf]
            simp only
            apply decide_eq_true
            unfold newId
            split <;> omega
      · rfl
  · unfold clRemoval; apply decide_eq_true
    intro hneg
    obtain ⟨cnt, k, a, l, e⟩ := setState_shape g i r c
    rw [e, if_pos hneg]
    exact ⟨find_erase_self h.1.nodup, rfl⟩
  · unfold clLatest; apply decide_eq_true
    intro h0 he
    exact setState_latest g i r c h.1 hc h0 he
  · exact others_all others fun j hj => decide_eq_true (setState_find_other g i j r c hj)

/-- the same as the list the driver evaluates -/
theorem c08_model_step_facts_list (others : List Str) (g : G) (i : Str) (r c : Int) (h : ModInv g) (hc : InI32 c) :
    violations others g i r c (setState g i r c).2 (setState g i r c).1 = [] := by
  obtain ⟨cl1, cl2, cl3, cl4, cl5, cl6, cl7, cl8, cl9, cl10⟩ := c08_model_step_facts others g i r c h hc
  unfold violations clauses
  simp only [List.filterMap_cons, List.filterMap_nil, cl1, cl2, cl3, cl4, cl5, cl6, cl7, cl8, cl9, cl10, if_true]

/-- **Soundness of the judge** (the clauses of the property's text that the harness applies to the real code): on
    every state satisfying `ModInv` and every `int32` argument, the model's `SetState` breaks
    none of them — with the ghost "newest id already processed for the instance" being the id the model stores. -/
theorem c08_judge_sound (others : List Str) (g : G) (i : Str) (r c : Int) (h : ModInv g) (hc : InI32 c) :
    judgeViolations others ((find i g.states).map (·.requestId)) g i r c (setState g i r c).2 (setState g i r c).1 = [] := by
  obtain ⟨cl1, cl2, cl3, cl4, cl5, cl6, _, cl8, _, cl10⟩ := c08_model_step_facts (i :: others) g i r c h hc
  have hst : staleG ((find i g.states).map (·.requestId)) r = stale g i r := by
    unfold staleG stale; cases find i g.states <;> rfl
  unfold judgeViolations
  refine failed_nil ?_
  simp only [List.forall_mem_cons]
  refine ⟨cl1, cl2, cl3, ?_, ?_, ?_, ?_, ?_, nofun⟩
  · unfold jcAccept; apply decide_eq_true
    intro ha h0 hp he
    have := of_decide_eq_true cl4 ha (fun _ => hp) he
    exact ⟨this.1, oldCount_of_map this.2.2.2⟩
  · unfold jcDecrease; apply decide_eq_true
    intro h0 hle hs
    rw [hst] at hs
    exact oldCount_of_map (of_decide_eq_true cl5 h0 hle hs).1
  · unfold jcStale; apply decide_eq_true
    intro h0 hs
    rw [hst] at hs
    obtain ⟨e1, e2⟩ := of_decide_eq_true cl6 h0 hs
    rw [e1, e2]
    exact ⟨rfl, rfl, fun _ _ => rfl⟩
  · unfold jcRemoval; apply decide_eq_true
    intro hneg
    exact (of_decide_eq_true cl8 hneg).1
  · exact others_all others fun j hj => decide_eq_true (by unfold oldCount; rw [setState_find_other g i j r c hj])

/-- a limit change of the model leaves the accounting alone -/
theorem c08_judge_sound_limit_change (g : G) (n : Int) : jcResize g (resize g n).1 = [] := by
  unfold jcResize
  rw [resize_fst]
  exact if_pos ⟨rfl, fun _ _ => rfl⟩

/-- model-level (only the limit changes, and it becomes `n`); the judge of the real code is `jcResize` above -/
theorem c08_judge_sound_resize (g : G) (n : Int) : resizeViolations g n (resize g n).1 = [] := by
  unfold resizeViolations
  rw [resize_fst, if_pos rfl, if_pos ⟨rfl, rfl⟩]
  rfl

/-! ## 4. `DoAcquire` and the token-bucket schemas -/

/-- **Each grant lies between 0 and the amount asked**; nothing is granted without `accept`; a grant is the ask
    halved 0, 1, 2 or 3 times (`n, n/2, n/4, n/8`); no error is reported. (Token-bucket arm of `DoAcquire`,
    any bucket state, any clock readings.) -/
theorem c08_tokens_grant (st : Store) (inst name : Str) (rid tokens : Int) (nows : List Int) (b : Bucket)
    (hf : findFC name st.fcs = some (.tb b)) (h0 : 0 ≤ tokens) :
    let r := (acquireOne st inst rid name tokens nows).2
    r.err = .none ∧ 0 ≤ r.limit ∧ r.limit ≤ tokens ∧ (r.accept = false → r.limit = 0) ∧
    (r.accept = true → r.limit = tokens ∨ r.limit = tokens / 2 ∨ r.limit = tokens / 2 / 2 ∨
      r.limit = tokens / 2 / 2 / 2) := by
  have hn : ¬ tokens < 0 := by omega
  simp only [acquireOne, hf, hn, if_false]
  have hrange := tbLoop_range (nows.take KG.Gen.C08.tbTries) b tokens h0
  refine ⟨trivial, hrange.1, hrange.2.1, hrange.2.2, ?_⟩
  intro hacc
  obtain ⟨k, hk, e⟩ := tbLoop_accept_halving _ b tokens hacc
  have hlen : (nows.take KG.Gen.C08.tbTries).length ≤ 4 := by
    rw [List.length_take]; exact Nat.min_le_left _ _
  rw [e]
  have hk4 : k < 4 := by omega
  match k, hk4 with
  | 0, _ => left; rfl
  | 1, _ => right; left; simp [halve, KG.Gen.C08.tbDivisor]
  | 2, _ => right; right; left; simp [halve, KG.Gen.C08.tbDivisor]
  | 3, _ => right; right; right; simp [halve, KG.Gen.C08.tbDivisor]

/-- **Negative asks are refused** (both schema types): an error, nothing granted, nothing changed. -/
theorem c08_tokens_negative (st : Store) (inst name : Str) (rid tokens : Int) (nows : List Int) (fc : FC)
    (hf : findFC name st.fcs = some fc) (hneg : tokens < 0) :
    acquireOne st inst rid name tokens nows = (st, ⟨false, 0, .negativeTokens⟩) := by
  simp only [acquireOne, hf, hneg, if_true]

/-- the max-in-flight arm of `DoAcquire` maps `(accept, latest, err)` of `SetState` to the reply:
    error ⇒ refused with the error; accept ⇒ `limit = ask`; otherwise `limit = latest` -/
theorem c08_acquire_mif (st : Store) (inst name : Str) (rid tokens : Int) (nows : List Int) (g : G)
    (hf : findFC name st.fcs = some (.mif g)) (h0 : 0 ≤ tokens) :
    let s := setState g inst rid tokens
    acquireOne st inst rid name tokens nows =
      ({ st with fcs := putFC name (.mif s.1) st.fcs },
       match s.2.err with
       | .requestIDTooOld => ⟨false, 0, .requestIDTooOld⟩
       | .none => if s.2.accept then ⟨true, tokens, .none⟩ else ⟨false, s.2.latest, .none⟩) := by
  have hn : ¬ tokens < 0 := by omega
  simp only [acquireOne, hf, hn, if_false]
  cases (setState g inst rid tokens).2.err with
  | none => simp only []; split <;> rfl
  | requestIDTooOld => rfl

/-- the model-level grant facts (`grantViolations`: error kind, halving set) hold of every token-bucket acquisition of
    the model -/
theorem c08_judge_sound_grant (st : Store) (inst name : Str) (rid tokens : Int) (nows : List Int) (b : Bucket)
    (hf : findFC name st.fcs = some (.tb b)) :
    grantViolations tokens (acquireOne st inst rid name tokens nows).2 = [] := by
  by_cases hneg : tokens < 0
  · rw [c08_tokens_negative st inst name rid tokens nows _ hf hneg]
    have : ¬ 0 ≤ tokens := by omega
    simp [grantViolations, hneg, this]
  · have h0 : 0 ≤ tokens := by omega
    obtain ⟨a1, a2, a3, a4, a5⟩ := c08_tokens_grant st inst name rid tokens nows b hf h0
    unfold grantViolations
    rw [if_pos (fun h => absurd h hneg), if_pos (fun _ _ => ⟨a2, a3⟩), if_pos (fun _ _ h => a5 h),
      if_pos (fun _ _ h => a4 h)]
    rfl

/-- the grant judge applied to the real code (`grantJudge`) is satisfied by every token-bucket acquisition of the model -/
theorem c08_judge_sound_grant_text (st : Store) (inst name : Str) (rid tokens : Int) (nows : List Int) (b : Bucket)
    (hf : findFC name st.fcs = some (.tb b)) :
    grantJudge tokens (acquireOne st inst rid name tokens nows).2 = [] := by
  by_cases hneg : tokens < 0
  · rw [c08_tokens_negative st inst name rid tokens nows _ hf hneg]
    have : ¬ 0 ≤ tokens := by omega
    simp [grantJudge, this]
  · have h0 : 0 ≤ tokens := by omega
    obtain ⟨_, a2, a3, _, _⟩ := c08_tokens_grant st inst name rid tokens nows b hf h0
    unfold grantJudge
    rw [if_pos (fun h => absurd h hneg), if_pos (fun _ _ => ⟨a2, a3⟩)]
    rfl

/-- **Σ grants in any interval ≤ burst + qps·T.** From ANY bucket state with non-negative parameters and tokens (so:
    for any interval of any longer history), a sequence of acquisitions whose clock readings are in order is granted
    in total at most `burst + qps·(t_last − t0)`, `t0` being any instant not before the limiter's last reading and
    not after the first reading of the interval (e.g. the first reading itself). -/
theorem c08_tokens_rate (reqs : List (List Int × Int)) (b : Bucket) (t0 : Int) (hq : 0 ≤ b.qps) (hb : 0 ≤ b.burst)
    (htok : 0 ≤ b.tokens) (hm : Mono b t0) (hok : TimesOk t0 reqs) :
    (((runAcq b reqs).2 : Int) : Rat) ≤ (b.burst : Rat) + tokensFromNs b.qps (endTime t0 reqs - t0) :=
  pays_bound (runAcq_pays reqs b t0 hq hm hok) hq hb htok

/-- the same for an interval in the middle of a history that started with a new limiter -/
theorem c08_tokens_rate_interval (qps burst : Int) (pre reqs : List (List Int × Int)) (t0 : Int)
    (hq : 0 ≤ qps) (hb : 0 ≤ burst) (hpre : TimesOk t0 pre) (hok : TimesOk (endTime t0 pre) reqs) :
    (((runAcq (runAcq (Bucket.init qps burst) pre).1 reqs).2 : Int) : Rat) ≤
      (burst : Rat) + tokensFromNs qps (endTime (endTime t0 pre) reqs - endTime t0 pre) := by
  have hp := runAcq_pays pre (Bucket.init qps burst) t0 hq (mono_init qps burst t0) hpre
  have := c08_tokens_rate reqs (runAcq (Bucket.init qps burst) pre).1 (endTime t0 pre)
    (hp.qps ▸ hq) (hp.burst ▸ hb) (hp.tokens (Rat.le_refl)) hp.mono hok
  rw [hp.qps, hp.burst] at this
  exact this

/-- **A `Resize` to the parameters the bucket already has is the identity on the bucket** (tokens and clock kept):
    re-syncing a cluster's spec after an edit of ANOTHER schema must not refill this bucket. -/
theorem c08_tokens_resize_same_params (b : Bucket) : bucketResize b b.qps b.burst = (b, false) :=
  bucketResize_same b

/-- hence acquisitions interleaved with any number of such `Resize` calls are granted exactly what they are
    granted without them … -/
theorem c08_tokens_resize_transparent (ops : List TBOp) (b : Bucket)
    (hres : ∀ op ∈ ops, match op with | .resize q bu => q = b.qps ∧ bu = b.burst | .acquire .. => True) :
    runTBOps b ops = runAcq b (acquisitions ops) := by
  induction ops generalizing b with
  | nil => rfl
  | cons op rest ih =>
    cases op with
    | acquire nows ask =>
      have hp := tbLoop_params nows b ask
      have := ih (tbLoop b ask nows).1 (by rw [hp.1, hp.2]; exact fun o ho => hres o (List.mem_cons_of_mem _ ho))
      simp only [runTBOps, acquisitions, runAcq, this]
    | resize q bu =>
      have hs : q = b.qps ∧ bu = b.burst := hres (.resize q bu) (List.mem_cons_self ..)
      simp only [runTBOps, acquisitions, hs.1, hs.2, bucketResize_same]
      exact ih b (fun o ho => hres o (List.mem_cons_of_mem _ ho))

/-- … so **the bound spans them**: Σ grants ≤ burst + qps·T over any interval in which the bucket's parameters
    do not really change, however often it is re-synced in between. -/
theorem c08_tokens_rate_across_resize (ops : List TBOp) (b : Bucket) (t0 : Int) (hq : 0 ≤ b.qps) (hb : 0 ≤ b.burst)
    (htok : 0 ≤ b.tokens) (hm : Mono b t0)
    (hres : ∀ op ∈ ops, match op with | .resize q bu => q = b.qps ∧ bu = b.burst | .acquire .. => True)
    (hok : TimesOk t0 (acquisitions ops)) :
    (((runTBOps b ops).2 : Int) : Rat) ≤
      (b.burst : Rat) + tokensFromNs b.qps (endTime t0 (acquisitions ops) - t0) := by
  rw [c08_tokens_resize_transparent ops b hres]
  exact c08_tokens_rate (acquisitions ops) b t0 hq hb htok hm hok

/-! ### every interleaving of concurrent callers (granularity: one `TryAcquireN` = one atomic step that reads
    the clock itself, as in the fixed code; exclusion of `globalTokenBucket.lock` trusted) -/

/-- **Every interleaving**: whatever callers do whatever `TryAcquireN` calls in whatever order, with time
    passing in between and with `Resize` calls that do not change the bucket's parameters anywhere in between,
    the tokens granted between two instants are at most `burst + qps·T`. -/
theorem c08_tokens_rate_conc (steps : List TBStep) (s : TBSys) (hq : 0 ≤ s.b.qps) (hb : 0 ≤ s.b.burst)
    (htok : 0 ≤ s.b.tokens) (hm : Mono s.b s.clock) (hres : ∀ st ∈ steps, SameParams s.b.qps s.b.burst st) :
    ((tbRun s steps).granted : Rat) ≤
      (s.granted : Rat) + (s.b.burst : Rat) + tokensFromNs s.b.qps ((tbRun s steps).clock - s.clock) := by
  have := pays_bound (tbRun_pays steps s hq hm hres) hq hb htok
  rw [Rat.intCast_sub] at this
  grind

/-- the invariants `c08_tokens_rate_conc` starts from hold in every reachable state of a new limiter -/
theorem c08_tokens_conc_reachable (qps burst t0 : Int) (steps : List TBStep) (hq : 0 ≤ qps)
    (hres : ∀ st ∈ steps, SameParams qps burst st) :
    let s := tbRun ⟨t0, Bucket.init qps burst, 0⟩ steps
    s.b.qps = qps ∧ s.b.burst = burst ∧ 0 ≤ s.b.tokens ∧ Mono s.b s.clock := by
  have hp := tbRun_pays steps ⟨t0, Bucket.init qps burst, 0⟩ hq (mono_init qps burst t0) hres
  exact ⟨hp.qps, hp.burst, hp.tokens Rat.le_refl, hp.mono⟩

/-! ### why the clock has to be read inside the critical section (regression witness of the repaired defect
    `C08-stale-clock-overgrant`): the model of `rate.Limiter` itself, fed a stale reading, over-grants -/

/-- `qps = 100, burst = 1`: calls at 9058 ms (1 token), then a reading that is 2 ms STALE (9056 ms, refused, but the
    limiter's clock moves back), then 9067 ms (1 token): two tokens within 9 ms, more than `1 + 100·0.009`. -/
theorem c08_tokens_stale_reading_overgrants :
    let b0 := Bucket.init 100 1
    let r1 := allowN b0 9058000000 1
    let r2 := allowN r1.1 9056000000 2
    let r3 := allowN r2.1 9067000000 1
    r1.2 = true ∧ r2.2 = false ∧ r3.2 = true ∧
    ¬ ((2 : Rat) ≤ (1 : Rat) + tokensFromNs 100 (9067000000 - 9058000000)) := by
  have e1 : ((1:Rat) - 1) = 0 := by grind
  have e2 : ¬ ((0:Rat) + 11000000 * 100 / 1000000000 < 1) := by grind
  have s1 : allowN (Bucket.init 100 1) 9058000000 1 =
      ({ qps := 100, burst := 1, tokens := 0, last := some 9058000000 }, true) := by
    simp [allowN, advance, Bucket.init, e1]
  have s2 : allowN { qps := 100, burst := 1, tokens := 0, last := some 9058000000 } 9056000000 2 =
      ({ qps := 100, burst := 1, tokens := 0, last := some 9056000000 }, false) := by
    simp [allowN, advance, ratMin, tokensFromNs, nsPerSec]
  have s3 : (allowN { qps := 100, burst := 1, tokens := 0, last := some 9056000000 } 9067000000 1).2 = true := by
    simp [allowN, advance, ratMin, tokensFromNs, nsPerSec, e2, e1]
  simp only [s1, s2, s3, true_and]
  simp only [tokensFromNs, nsPerSec]
  grind

/-! ## 5. the fine-grained system: the lock and every shared-memory access of `SetState` / `Resize` as steps -/

/-- **Accounting in every fine-grained interleaving.** Any number of threads run `SetState` and `Resize` calls
    (any instances, request ids, `int32` counts and limits); a step is one shared-memory access (`Lock`, map
    lookup/insert/delete, each `atomic.*`, `Unlock`; `Resize`'s read and store of `max` are NOT under the lock and
    may fall anywhere). In every reachable state in which no thread is inside `SetState`'s critical section —
    in particular at quiescence — the running total is the `int32` sum of the registered per-instance counts,
    every registered count is a non-negative `int32` and no instance is registered twice. Only the exclusion of
    `sync.RWMutex.Lock` is assumed. -/
theorem c08_fine_total (m : Int) (threads : Nat) (sched : List (Nat × Option Op)) (s : Fine)
    (hcalls : ∀ e ∈ sched, ∀ op, e.2 = some op → OpI32 op)
    (hr : fineRun (fineInit m threads) sched = some s) (hfree : s.owner = none) :
    s.g.count = wrap32 (sumStates s.g.states) ∧ AllOk s.g.states ∧ (keys s.g.states).Nodup := by
  have h := (fine_refines (fun _ h => h) m threads sched s hcalls hr).1
  exact ⟨h.free hfree, h.allOk, h.nodup⟩

/-- mutual exclusion as the model has it: a thread whose pc is inside the critical section owns the lock -/
theorem c08_fine_exclusion (m : Int) (threads : Nat) (sched : List (Nat × Option Op)) (s : Fine)
    (hcalls : ∀ e ∈ sched, ∀ op, e.2 = some op → OpI32 op)
    (hr : fineRun (fineInit m threads) sched = some s) (t t' : Nat) (pc pc' : Pc)
    (h1 : s.pcs[t]? = some pc) (h2 : s.pcs[t']? = some pc') (i1 : inside pc = true) (i2 : inside pc' = true) :
    t = t' := by
  have h := (fine_refines (fun _ h => h) m threads sched s hcalls hr).1
  have a := h.excl t pc h1 i1
  have b := h.excl t' pc' h2 i2
  rw [a] at b; cases b; rfl

/-- **The reduction (fine-grained ⟶ atomic).** For every run of the fine-grained system there is a list `lin` of
    atomic operations, each of them a call that was issued, such that the atomic system after `lin` has the same
    limit and — whenever no thread is inside the critical section, in particular at quiescence — is in exactly
    the same state (limit, running total, every instance's count and request id). The linearization point of a
    call is the step that decides it: the lookup for a removal, the id load for a stale report, the
    `LoadInt32(&f.max)` after the add for every other report, the store for a `Resize`. So what the theorems above
    say of `run` after every list of calls of some kind holds of the fine-grained system in its lock-free states
    (`fine_transport`; the two theorems below). `lin` is not shown to hold every decided call once and in program
    order, and replies are not tracked; the harness compares them on the real code. -/
theorem c08_fine_reduction (m : Int) (threads : Nat) (sched : List (Nat × Option Op)) (s : Fine)
    (hcalls : ∀ e ∈ sched, ∀ op, e.2 = some op → OpI32 op)
    (hr : fineRun (fineInit m threads) sched = some s) :
    ∃ lin : List Op, (∀ op ∈ lin, op ∈ sched.filterMap (·.2)) ∧ (run (G.init m) lin).max = s.g.max ∧
      (s.owner = none → run (G.init m) lin = s.g) := by
  obtain ⟨_, lin, hlin, hsim⟩ := fine_refines (P := (· ∈ sched.filterMap (·.2)))
    (fun op hm => let ⟨e, he, heo⟩ := List.mem_filterMap.1 hm; hcalls e he op heo) m threads sched s
    (fun e he op heo => List.mem_filterMap.2 ⟨e, he, heo⟩) hr
  exact ⟨lin, hlin, hsim.1, sim_free hsim⟩

/-- hence, e.g.: reports and removals racing at the granularity of single atomics keep the total exact and within
    the (unchanged) limit in every state in which the lock is free -/
theorem c08_fine_limit_unchanged (m : Int) (threads : Nat) (sched : List (Nat × Option Op)) (s : Fine)
    (hm : 0 ≤ m) (hm' : InI32 m)
    (hcalls : ∀ e ∈ sched, ∀ op, e.2 = some op → ∃ i r c, op = .set i r c ∧ InI32 c)
    (hr : fineRun (fineInit m threads) sched = some s) (hfree : s.owner = none) :
    s.g.count = sumStates s.g.states ∧ sumStates s.g.states ≤ m :=
  fine_transport (Q := fun g => g.count = sumStates g.states ∧ sumStates g.states ≤ m)
    (fun _ ⟨_, _, _, e, hc⟩ => e ▸ hc) (fun lin => c08_seq_limit_unchanged_init m lin hm hm') hcalls hr hfree

/-- … and with limit changes racing too (limits and counts below 2^30): exact total at every lock-free state -/
theorem c08_fine_bounded (m : Int) (threads : Nat) (sched : List (Nat × Option Op)) (s : Fine)
    (hm : 0 ≤ m ∧ m < 1073741824) (hcalls : ∀ e ∈ sched, ∀ op, e.2 = some op → Bounded op)
    (hr : fineRun (fineInit m threads) sched = some s) (hfree : s.owner = none) : Inv s.g :=
  fine_transport (fun _ => bounded_opI32) (fun lin hlin => (c08_seq_bounded m lin hm hlin).1) hcalls hr hfree

/-! ## 6. non-vacuity: the hypotheses are met by concrete, non-trivial states, and the branches are live -/

example : run (G.init 100) demoOps = { max := 50, count := 70, states := [(i1, ⟨40, 2⟩), (i2, ⟨30, 1⟩)] } := by decide
example : SafeRun (G.init 100) demoOps := (c08_seq_bounded 100 demoOps (by decide) (by
  intro op h
  simp only [demoOps, List.mem_cons, List.mem_nil_iff, or_false] at h
  rcases h with rfl | rfl | rfl | rfl <;> (unfold Bounded InI32; omega))).2
/-- the decrease is applied although the total (90, then 70) is above the lowered limit 50 … -/
example : (setState (run (G.init 100) (demoOps.take 3)) i1 2 40).2 = ⟨false, 40, .none⟩ := by decide
/-- … an increase is rolled back … -/
example : setState (run (G.init 100) demoOps) i2 2 31 =
    ({ max := 50, count := 70, states := [(i1, ⟨40, 2⟩), (i2, ⟨30, 2⟩)] }, ⟨false, 30, .none⟩) := by decide
/-- … a stale id is refused … -/
example : (setState (run (G.init 100) demoOps) i2 1 5).2 = ⟨false, 5, .requestIDTooOld⟩ := by decide
/-- … exactly at the limit is "applied, not accepted", below it is accepted … -/
example : (setState (G.init 100) i1 1 100).2 = ⟨false, 100, .none⟩ := by decide
example : (setState (G.init 100) i1 1 99).2 = ⟨true, 99, .none⟩ := by decide
/-- … a removal -/
example : (setState (run (G.init 100) demoOps) i1 (-1) (-1)).1 =
    { max := 50, count := 30, states := [(i2, ⟨30, 1⟩)] } := by decide
/-- `Pre` really is needed for exactness: with counts near 2^31 above a lowered limit the `int32` total wraps
    and a raise is accepted (the modular total still holds: `c08_seq_total_mod`) -/
example : setState { max := 0, count := 2147483647, states := [(i1, ⟨2147483647, 1⟩)] } i2 1 2147483647 =
    ({ max := 0, count := -2, states := [(i1, ⟨2147483647, 1⟩), (i2, ⟨2147483647, 1⟩)] }, ⟨true, 2147483647, .none⟩) := by
  decide
example : ¬ Pre { max := 0, count := 2147483647, states := [(i1, ⟨2147483647, 1⟩)] } i2 2147483647 := by decide
/-- interleavings exist: two racing removals and a report -/
example : Interleave [[.set i1 (-1) (-1)], [.set i1 (-1) (-1), .set i1 5 7]]
    [.set i1 (-1) (-1), .set i1 (-1) (-1), .set i1 5 7] :=
  .step _ 1 _ [.set i1 5 7] _ rfl (.step _ 0 _ [] _ rfl (.step _ 1 _ [] _ rfl (.done _ (by decide))))
/-- the fine-grained system runs: thread 0 reports 10 for `i1` (limit 100) while thread 1 lowers the limit to 5
    between the add and the load of `max`: the report is rolled back (9 + 2 + 2 steps), quiescent at the end -/
example : fineRun (fineInit 100 2)
    [(0, some (.set i1 1 10)), (0, none), (0, none), (0, none), (0, none), (0, none), (0, none),
     (1, some (.resize 5)), (1, none), (0, none), (0, none), (0, none), (0, none)] =
    some ⟨⟨5, 0, [(i1, ⟨0, 1⟩)]⟩, none, [.idle, .idle]⟩ := by decide
/-- a second `SetState` cannot enter while the lock is held: the step is not enabled -/
example : fineRun (fineInit 100 2) [(0, some (.set i1 1 10)), (0, none), (1, some (.set i1 2 20)), (1, none)] = none := by
  decide
/-- token side: the hypotheses of `c08_tokens_rate` hold for a new limiter and an ordered history -/
example : TimesOk 0 [([0, 0, 1, 2], 25), ([5, 5, 5, 5], 3)] := by simp [TimesOk, Chain, lastFrom]
example : Mono (Bucket.init 10 10) 0 := mono_init 10 10 0

end KG.Props.C08

