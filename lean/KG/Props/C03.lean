import KG.Lemmas.Endpoints
import KG.Gen.C03
/-!
# C03 — Endpoint selection: only enabled, healthy endpoints of the policy get traffic

All theorems are about `KG.Model.Endpoints` (mirror of clusterinfo.go / endpoint.go) and quantify over **every op list**
from the initial state: spec updates (`sync`), health reports (`updateStatus`, `probeFire`), `TriggerHealthCheck`,
`EnsureGatewayHealthCheck`, and requests split into `matchAttrs` and `pop` so that anything can happen in between.
The property itself is `KG.Spec.Endpoints.judgeTrace`, a judge over the observable trace that knows nothing of the
model's machinery; the same judge is evaluated by the harness on the trace of the real code.
-/
namespace KG.Props.C03
open KG KG.Model.Endpoints KG.Spec.Endpoints KG.Lemmas.Endpoints

/-! every theorem holds whether or not `MatchAttributes` gives each dispatch policy its own cursor scope (`ps`): the cursors
    decide WHICH eligible endpoint is picked, never whether an ineligible one can be -/
variable (ps : Bool)

/-- the state the model reaches on a history -/
def stateOf (ops : List Op) : State := (run (initScoped ps) ops).1
/-- the abstract (spec-level) state the same history leads to -/
def absOf (ops : List Op) : Abs := absRun Abs.init (modelTrace (initScoped ps) ops)

/-- **C03, trace form**: for every history, every observable output of the model passes the judge: a request is
    answered with an endpoint only if it is in its policy's upstream list, in the current server list, enabled, and
    healthy by the last report; "no ready endpoints" only if no such endpoint exists; a probe is sent only to a
    current, enabled server. -/
theorem c03_trace_judged (ops : List Op) : judgeTrace Abs.init (modelTrace (initScoped ps) ops) = true :=
  (sim_run (sim_initScoped ps) ops).1

/-- every reachable state is in simulation with the abstract state of its history -/
theorem c03_reachable_sim (ops : List Op) : Sim (stateOf ps ops) (absOf ps ops) := (sim_run (sim_initScoped ps) ops).2

/-- every step from a reachable state passes the judge -/
theorem c03_step_judged (ops : List Op) (op : Op) : judgeStep (absOf ps ops) op (step (stateOf ps ops) op).2 = true :=
  (sim_step (c03_reachable_sim ps ops) op).1

/-- the names stored in the endpoint map are exactly the servers of the last spec -/
theorem c03_endpoints_are_servers (ops : List Op) (n : Name) :
    (load (stateOf ps ops).eps n).isSome = (serverNames (absOf ps ops).servers).contains n :=
  (c03_reachable_sim ps ops).dom n

/-- **pick soundness** in every reachable state, for every request in flight (also one matched before later Syncs):
    the endpoint handed out is in the upstream list its policy gave the request, in the cluster's current server list,
    not marked disabled there, healthy by the last report since it entered the list, and is the current object. -/
theorem c03_pick_sound (ops : List Op) (j : Nat) (n : Name) (g : Nat)
    (h : (step (stateOf ps ops) (.pop j)).2 = .popped (.picked n g)) :
    ∃ us, (absOf ps ops).pickers[j]? = some (some us) ∧ n ∈ us ∧
      n ∈ serverNames (absOf ps ops).servers ∧ specDisabled (absOf ps ops).servers n = false ∧
      (absOf ps ops).healthy n = true ∧ g = (absOf ps ops).bornAt n := by
  obtain ⟨us, hp, hn, he, hg⟩ := judge_popped.1 (h ▸ c03_step_judged ps ops (.pop j))
  obtain ⟨h1, h2, h3⟩ := eligible_iff.1 he
  exact ⟨us, hp, hn, h1, h2, h3, hg⟩

/-- in model terms: what `Pop` returns is present in the map and `IsReady()` at that moment -/
theorem c03_pick_ready (eps : List EP) (lb : List (Key × Nat)) (us : List Name) (n : Name) (g : Nat)
    (h : (pop eps lb us).1 = .picked n g) :
    ∃ e, load eps n = some e ∧ e.gen = g ∧ n ∈ us ∧ e.disabled = false ∧ e.healthy = true := by
  obtain ⟨e, h1, h2, h3, h4⟩ := pop_sound h
  simp only [EP.isReady, Bool.and_eq_true, Bool.not_eq_true'] at h4
  exact ⟨e, h1, h2, h3, h4.1, h4.2⟩

/-- **completeness**: the request gets an endpoint iff an eligible one exists in its upstream list; otherwise the
    answer is exactly "no ready endpoints" (`ErrNoReadyEndpoints`), which the dispatcher maps to 503. -/
theorem c03_pick_complete (ops : List Op) (j : Nat) (us : List Name)
    (hp : (absOf ps ops).pickers[j]? = some (some us)) :
    ((∃ n, n ∈ us ∧ (absOf ps ops).eligible n = true) → ∃ n g, (step (stateOf ps ops) (.pop j)).2 = .popped (.picked n g)) ∧
    ((∀ n, n ∈ us → (absOf ps ops).eligible n = false) → (step (stateOf ps ops) (.pop j)).2 = .popped .noReady) := by
  have hj := c03_step_judged ps ops (.pop j)
  obtain ⟨r, hr⟩ : ∃ r, (step (stateOf ps ops) (.pop j)).2 = .popped r := by
    simp only [step, (c03_reachable_sim ps ops).pickers, hp]
    exact ⟨_, rfl⟩
  rw [hr] at hj ⊢
  obtain ⟨us', hp', hj⟩ := judge_popped.1 hj
  cases hp.symm.trans hp'
  cases r with
  | picked n g => exact ⟨fun _ => ⟨n, g, rfl⟩, fun hall => absurd hj.2.1 (by rw [hall n hj.1]; exact Bool.false_ne_true)⟩
  | noReady => exact ⟨fun ⟨n, hn, he⟩ => absurd he (by rw [hj n hn]; exact Bool.false_ne_true), fun _ => rfl⟩
  | panic => exact hj.elim

/-- `Pop` never indexes out of range -/
theorem c03_pop_never_panics (eps : List EP) (lb : List (Key × Nat)) (us : List Name) : (pop eps lb us).1 ≠ .panic :=
  pop_never_panics eps lb us

/-- what a request may be sent to: the policy's subset when it has one, otherwise every server of the current list
    (each once) and nothing else -/
theorem c03_upstreams_of_request (ops : List Op) (policy : Nat) (order us : List Name)
    (h : (step (stateOf ps ops) (.matchAttrs policy order)).2 = .matched us) :
    ∃ subset, (absOf ps ops).policies[policy]? = some subset ∧
      ((subset ≠ [] ∧ us = subset) ∨ (subset = [] ∧ us.Perm (dedup (serverNames (absOf ps ops).servers)))) := by
  obtain ⟨subset, hp, h'⟩ := judge_matched.1 (h ▸ c03_step_judged ps ops (.matchAttrs policy order))
  exact ⟨subset, hp, h'.imp_right fun ⟨h1, _, h3⟩ => ⟨h1, h3⟩⟩

/-- **disabled ⇒ not probed, enabled ⇒ probed**, in every reachable state (in particular after every Sync): an endpoint
    object is marked disabled exactly when the last spec marks its server disabled, and a health-check worker is alive
    for it exactly when it is enabled. -/
theorem c03_probing_iff_enabled (ops : List Op) (n : Name) (e : EP) (h : load (stateOf ps ops).eps n = some e) :
    e.disabled = specDisabled (absOf ps ops).servers n ∧ e.probing = !specDisabled (absOf ps ops).servers n := by
  have hs := c03_reachable_sim ps ops
  exact ⟨hs.disabled_eq h, by rw [hs.probing_eq h, hs.disabled_eq h]⟩

/-- after every Sync, from every reachable state: every server of the spec just synced has an object, which is marked
    disabled iff the spec says so and is probed iff it is enabled -/
theorem c03_after_sync (ops : List Op) (servers : List Server) (pols : List (List Name)) (n : Name)
    (hn : n ∈ serverNames servers) :
    ∃ e, load (step (stateOf ps ops) (.sync servers pols)).1.eps n = some e ∧
      e.disabled = specDisabled servers n ∧ e.probing = !specDisabled servers n := by
  -- the simulation after this Sync: `dom` gives the object, `ep` its marks
  have hs := sim_sync (c03_reachable_sim ps ops) servers pols
  obtain ⟨e, he⟩ := Option.isSome_iff_exists.1 ((hs.dom n).trans (List.contains_iff_mem.2 hn))
  exact ⟨e, he, hs.disabled_eq he, by rw [hs.probing_eq he, hs.disabled_eq he]; rfl⟩

/-- a probe that fires goes to a current, enabled server (a disabled endpoint receives no probe) -/
theorem c03_probe_only_enabled (ops : List Op) (n : Name) (hv : Bool) (n' : Name) (g : Nat)
    (h : (step (stateOf ps ops) (.probeFire n hv)).2 = .fired n' g) :
    n' = n ∧ n ∈ serverNames (absOf ps ops).servers ∧ specDisabled (absOf ps ops).servers n = false := by
  obtain ⟨h1, h2, _⟩ := judge_fired.1 (h ▸ c03_step_judged ps ops (.probeFire n hv))
  exact ⟨h1, enabled_iff.1 h2⟩

/-- an endpoint that (re)enters the server list has no health report yet: it gets no traffic before its first healthy report -/
theorem c03_new_server_not_eligible (ops : List Op) (servers : List Server) (pols : List (List Name)) (n : Name)
    (hnew : (absOf ps ops).inServers n = false) :
    (absStep (absOf ps ops) (.sync servers pols) .none).eligible n = false := by
  unfold Abs.eligible Abs.healthy
  rw [report_sync, (c03_reachable_sim ps ops).rep n hnew, ite_self]
  exact Bool.and_false _

/-- the dispatcher (regenerated shape facts of dispatcher.ServeHTTP): `Pop()` is called once per request; its error is
    answered with `errors.NewServiceUnavailable` (503, checked on the real helper by the harness) under the reason
    `no_ready_endpoints` and the handler returns, so nothing is forwarded; otherwise the target URL and the transports
    are those of the picked endpoint. -/
theorem c03_dispatcher_shape :
    Gen.C03.popCalls = 1 ∧ Gen.C03.popErrorHelper = "errors.NewServiceUnavailable" ∧
    Gen.C03.popErrorReason = "statusReasonNoReadyEndpoints" ∧ Gen.C03.popErrorReturns = true ∧
    Gen.C03.forwardHostFromPicked = true ∧ Gen.C03.transportFromPicked = true :=
  ⟨rfl, rfl, rfl, rfl, rfl, rfl⟩

/-! ## what "healthy" is: the decision of `controllers.GatewayHealthCheck` -/

/-- **only the answer `200` marks an endpoint healthy** (whatever the body): 201–206 pass the rest client without error but are
    not `http.StatusOK`; every other status, a timeout and any transport error are errors of the rest client. -/
theorem c03_probe_decision (a : ProbeAnswer) : gatewayHealthCheck a = true ↔ ∃ b, a = .status 200 b := by
  cases a with
  | status code b =>
    simp only [gatewayHealthCheck, restClientError, Bool.and_eq_true, beq_iff_eq, ProbeAnswer.status.injEq]
    constructor
    · rintro ⟨_, h⟩; exact ⟨b, h, rfl⟩
    · rintro ⟨b', h, _⟩; subst h; exact ⟨by decide, rfl⟩
  | timeout => simp [gatewayHealthCheck]
  | transportError => simp [gatewayHealthCheck]

/-- the shape of `GatewayHealthCheck` the decision function mirrors (regenerated from the source on every run): one
    `UpdateStatus(true, …)`, guarded by `statusCode == http.StatusOK`, in the else branch of `err != nil`, `statusCode` read
    from the response -/
theorem c03_health_check_shape :
    Gen.C03.healthTrueCalls = 1 ∧ Gen.C03.healthTrueGuard = "statusCode == http.StatusOK" ∧
    Gen.C03.healthTrueElseOf = "err != nil" ∧ Gen.C03.healthTrueInElse = true ∧ Gen.C03.healthReadsStatusCode = true :=
  ⟨rfl, rfl, rfl, rfl, rfl⟩

/-- the regenerated fact behind **no probe starts after the disable** (finding C03-probe-starts-after-disable, fixed by b321377):
    the code's worker, which used to choose at random between a queued tick and its cancellation, re-checks its context after
    taking a tick.  That is what the model takes for granted: its worker fires only while `probing`, and `probing` is false from
    the Sync that disables the endpoint on (`c03_probing_iff_enabled`, `c03_probe_only_enabled`).  The code itself is judged by
    the harness's disable stream, without grace. -/
theorem c03_worker_rechecks_ctx : Gen.C03.healthWorkerRechecksCtx = true := rfl

private theorem run_append (s : State) (xs ys : List Op) :
    run s (xs ++ ys) = ((run (run s xs).1 ys).1, (run s xs).2 ++ (run (run s xs).1 ys).2) := by
  induction xs generalizing s with
  | nil => simp [run]
  | cons x xs ih => simp [run, ih]

private theorem run_length (s : State) (xs : List Op) : (run s xs).2.length = xs.length := by
  induction xs generalizing s with
  | nil => simp [run]
  | cons x xs ih => simp [run, ih]

theorem stateOf_snoc (ops : List Op) (op : Op) : stateOf ps (ops ++ [op]) = (step (stateOf ps ops) op).1 := by
  simp [stateOf, run_append, run]

theorem absOf_snoc (ops : List Op) (op : Op) :
    absOf ps (ops ++ [op]) = absStep (absOf ps ops) op (step (stateOf ps ops) op).2 := by
  unfold absOf modelTrace absRun
  rw [run_append]
  simp only
  rw [List.zip_append (by rw [run_length])]
  simp [run, stateOf]

/-- **an endpoint whose last probe answer is not the healthy answer is never picked**: after a probe of `n` that was answered
    anything but `200`, no request in flight can be handed `n` (until a later report says otherwise) -/
theorem c03_unhealthy_answer_not_picked (ops : List Op) (n : Name) (ans : ProbeAnswer) (hans : ∀ b, ans ≠ .status 200 b)
    (n' : Name) (g' : Nat) (hf : (step (stateOf ps ops) (.probeFire n (gatewayHealthCheck ans))).2 = .fired n' g')
    (j : Nat) (g : Nat) :
    (step (stateOf ps (ops ++ [.probeFire n (gatewayHealthCheck ans)])) (.pop j)).2 ≠ .popped (.picked n g) := by
  intro hp
  obtain ⟨_, _, _, _, _, hh, _⟩ := c03_pick_sound ps _ j n g hp
  have hfalse : gatewayHealthCheck ans = false := by
    cases hd : gatewayHealthCheck ans with
    | false => rfl
    | true => obtain ⟨b, hb⟩ := (c03_probe_decision ans).1 hd; exact absurd hb (hans b)
  rw [absOf_snoc, hf, hfalse] at hh
  simp [absStep, Abs.healthy] at hh

/-! ## requests racing with a Sync that changes the server set — finding C03-lb-reset-race (fixed by bb51c11)

The theorems above treat `sync` and `pop` as atomic ops.  On the real code a `Pop` can run *while* `syncEndpoints` resets
the load-balancer map.  Full statement: no interleaving of pickers with resets makes the process die (`NoFatal`).  It was
**false** of the tree while the reset was the assignment `c.loadbalancer = sync.Map{}` (witness below; on the real code
`fatal error: sync: unlock of unlocked mutex`, findings/C03-lb-reset-race).  The tree now empties the map in place; that this
is so is read from the source on every run (`Gen.C03.lbResetAssignsNewMap = false`), and `c03_no_fatal` is the full statement
about the current tree, unconditionally: it stops checking if the assignment comes back. -/

/-- the full statement for a reset of the given kind -/
def NoFatal (inPlace : Bool) : Prop := ∀ acts : List RaceAct, (raceRun inPlace acts).fatal = false

/-- the statement about the code as it is now -/
def CodeNoFatal : Prop := NoFatal (!Gen.C03.lbResetAssignsNewMap)

/-- refutation by witness: picker locks, Sync overwrites the map, picker unlocks -/
theorem c03_lb_reset_by_assignment_is_fatal : ¬ NoFatal false := by
  intro h
  have := h [.popLock 0, .syncReset, .popUnlock 0]
  revert this
  decide

/-- the repair (`Range` + `Delete` in place) satisfies the full statement -/
theorem c03_lb_reset_in_place_is_safe : NoFatal true :=
  fun acts => (raceRun_ok true acts (Or.inl rfl)).1

/-- partial: whatever the reset does, histories in which no reset runs concurrently with the pickers never die -/
theorem c03_no_fatal_partial (inPlace : Bool) (acts : List RaceAct) (h : RaceAct.syncReset ∉ acts) :
    (raceRun inPlace acts).fatal = false :=
  (raceRun_ok inPlace acts (Or.inr h)).1

/-- where the current code stands: the full statement holds of it exactly when the reset is no longer an assignment -/
theorem c03_code_no_fatal_iff : CodeNoFatal ↔ Gen.C03.lbResetAssignsNewMap = false :=
  iff_eq_of_bool (P := fun b => NoFatal (!b)) (v := false) c03_lb_reset_in_place_is_safe c03_lb_reset_by_assignment_is_fatal _

/-- **the full statement holds of the current tree** (the regenerated fact says: the reset is in place) -/
theorem c03_no_fatal : CodeNoFatal := c03_code_no_fatal_iff.2 rfl

/-! ## non-vacuity: concrete histories on which the hypotheses hold non-trivially -/

section NonVacuous
def a : Name := [97]
def b : Name := [98]
def c : Name := [99]

/-- servers a, b(disabled), c; a and c probed healthy/unhealthy; policy 0 = {b, c, a}, policy 1 = all -/
def h1 : List Op :=
  [.sync [⟨a, false⟩, ⟨b, true⟩, ⟨c, false⟩] [[b, c, a], []], .probeFire a true, .probeFire c false,
   .matchAttrs 0 [], .matchAttrs 1 [c, a, b]]

example : (step (stateOf false h1) (.pop 0)).2 = .popped (.picked a 0) := by decide +kernel
example : (absOf false h1).pickers[0]? = some (some [b, c, a]) := by decide +kernel
example : (step (stateOf false h1) (.pop 1)).2 = .popped (.picked a 0) := by decide +kernel
/-- b is disabled: triggering a health check does not make a probe fire -/
example : (step (stateOf true (h1 ++ [.trigger b])) (.probeFire b true)).2 = .notFired := by decide +kernel
/-- a becomes unhealthy: nothing is eligible, the request is answered "no ready endpoints" -/
example : (step (stateOf true (h1 ++ [.updateStatus a false])) (.pop 0)).2 = .popped .noReady := by decide +kernel
example : ∀ n, n ∈ [b, c, a] → (absOf true (h1 ++ [.updateStatus a false])).eligible n = false := by decide +kernel
/-- b re-enabled and healthy: with two ready endpoints the cursor alternates -/
def h2 : List Op := h1 ++ [.sync [⟨a, false⟩, ⟨b, false⟩, ⟨c, false⟩] [[b, c, a], []], .probeFire b true]
example : (step (stateOf false h2) (.pop 0)).2 = .popped (.picked a 0) := by decide +kernel
example : (step (step (stateOf false h2) (.pop 0)).1 (.pop 0)).2 = .popped (.picked b 0) := by decide +kernel
/-- a removed and re-added: a new object (gen 3, the number of the Sync that re-added it) that is not eligible before its first healthy report; the request matched
    before the change is still answered soundly -/
def h3 : List Op := h2 ++ [.sync [⟨b, false⟩] [[a, b]], .sync [⟨a, false⟩, ⟨b, false⟩] [[a, b]]]
example : (step (stateOf false h3) (.pop 0)).2 = .popped (.picked b 0) := by decide +kernel
example : (step (stateOf true (h3 ++ [.probeFire a true])) (.pop 0)).2 = .popped (.picked a 3) := by decide +kernel
example : (step (stateOf false h1) (.probeFire a true)).2 = .notFired := by decide +kernel
example : (step (stateOf true (h1 ++ [.trigger a])) (.probeFire a true)).2 = .fired a 0 := by decide +kernel
/-- a probe answered 204 fires, reports unhealthy, and the endpoint is not handed out any more -/
example : (step (stateOf true (h1 ++ [.trigger a])) (.probeFire a (gatewayHealthCheck (.status 204 true)))).2 = .fired a 0 := by decide +kernel
example : (step (stateOf true (h1 ++ [.trigger a, .probeFire a (gatewayHealthCheck (.status 204 true))])) (.pop 0)).2 = .popped .noReady := by decide +kernel
example : gatewayHealthCheck (.status 200 false) = true ∧ gatewayHealthCheck (.status 206 true) = false ∧
    gatewayHealthCheck (.status 503 true) = false ∧ gatewayHealthCheck .timeout = false := by decide +kernel
end NonVacuous

end KG.Props.C03
