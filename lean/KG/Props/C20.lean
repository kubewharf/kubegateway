import KG.Lemmas.Strategy
import KG.Gen.C20
/-!
# C20 — Control-plane objects: spec/status separation and generation conventions

Statement (properties.jsonl): "Through the control-plane API, updating the status subresource never changes an
object's spec or labels, updating the main resource never changes its status, and creation clears status and
sets generation to 1. The generation increases by one exactly when the spec or the annotations change, and
stays the same otherwise." — for every pair (stored object, submitted object) of every kind served with a
status subresource.

Everything below is about `KG.Model.Strategy` (the strategies of apiserver-runtime wrapped by k8s
`BeforeCreate`/`BeforeUpdate`) for ARBITRARY field-group types, metadata rules, stored and submitted objects and
for every rendering `sem` under which the code compares (`semanticEqual`).
Hypotheses used, each discharged for the registrations of rest.go by `c20_registrations_*` below:
* `WellShaped r`: the Go type has ObjectMeta, a `Spec` and a `Status` field;
* `Consistent r`: a kind served with a status subresource uses a main strategy built with `subStatus = true`.
The generation rule also needs the stored generation to be an `int64` (`isI64 old.generation`: the bump must not wrap);
every state a client can reach has it (`genOk_run`, used in `c20_history`).

"Change" is read in the API's view (`KG.Spec.Strategy.View`): spec and annotations as they render
(`{}`/`[]`/`""` = missing), which since `933b50c` is also how the code compares them. The statements with
`v.obj` are therefore the API-level ones; specialising `sem` to the identity gives the DeepEqual ones.
-/
namespace KG.Props.C20
open KG.Model.Strategy KG.Spec.Strategy KG.Lemmas.Strategy

def WellShaped (r : Reg) : Prop := r.shape.hasMeta = true ∧ r.shape.hasSpec = true ∧ r.shape.hasStatus = true
def Consistent (r : Reg) : Prop := r.served = true → r.subStatus = true

instance (r : Reg) : Decidable (WellShaped r) := by unfold WellShaped; infer_instance
instance (r : Reg) : Decidable (Consistent r) := by unfold Consistent; infer_instance

section
variable {L A M S T A' S' : Type} [DecidableEq S'] [DecidableEq A']

/-! ## Creation -/

omit [DecidableEq S'] [DecidableEq A'] in
/-- Creation (exactly what the code does): generation 1; status is the zero value iff the main strategy was
    built with `subStatus` (and the type has a Status); spec, labels, annotations as submitted. -/
theorem c20_create_exact (r : Reg) (mr : MetaRules L A M S T) (zero : T) (o o' : Obj L A M S T)
    (h : beforeCreate r mr zero o = .ok o') :
    o'.generation = 1 ∧
    o'.status = (if r.subStatus && r.shape.hasStatus then zero else o.status) ∧
    o'.spec = o.spec ∧ o'.labels = o.labels ∧ o'.annotations = o.annotations := by
  obtain ⟨_, rfl⟩ := beforeCreate_ok h
  exact ⟨rfl, rfl, rfl, rfl, rfl⟩

omit [DecidableEq S'] [DecidableEq A'] in
/-- **C20 (creation)**: for a kind served with a status subresource, creation clears status and sets
    generation to 1 — whatever status and generation the client submitted. -/
theorem c20_create (r : Reg) (hc : Consistent r) (mr : MetaRules L A M S T) (zero : T) (o o' : Obj L A M S T)
    (hserved : r.served = true) (h : beforeCreate r mr zero o = .ok o') :
    o'.generation = 1 ∧ o'.status = zero := by
  obtain ⟨hg, hst, _⟩ := c20_create_exact r mr zero o o' h
  rw [hc hserved, (Bool.and_eq_true_iff.1 hserved).2] at hst
  exact ⟨hg, hst⟩

/-! ## What the two update strategies do to an object of a well-shaped kind -/

theorem updatePrepare_main (sem : Sem A S A' S') {r : Reg} (hw : WellShaped r) (obj old : Obj L A M S T) :
    updatePrepare sem r .main obj old =
      { obj with
        status := if r.subStatus then old.status else obj.status,
        generation :=
          if sem.spec obj.spec ≠ sem.spec old.spec ∨ sem.annotations obj.annotations ≠ sem.annotations old.annotations
          then toI64 (old.generation + 1) else obj.generation } := by
  obtain ⟨hm, hs, ht⟩ := hw
  simp only [updatePrepare, prepareForUpdate_eq, hm, hs, ht, Bool.true_and, Bool.and_self, true_and]

theorem updatePrepare_status (sem : Sem A S A' S') {r : Reg} (hw : WellShaped r) (obj old : Obj L A M S T) :
    updatePrepare sem r .status obj old = { obj with spec := old.spec, labels := old.labels } := by
  obtain ⟨hm, hs, ht⟩ := hw
  simp only [updatePrepare, statusPrepareForUpdate_eq, hm, hs, ht, Bool.and_self, if_true]

/-! ## Status subresource -/

/-- **C20 (status subresource)**: an accepted update through the status endpoint leaves spec, labels and
    generation as stored (the very values, not just their renderings); status and annotations are the
    submitted ones. -/
theorem c20_status_update (sem : Sem A S A' S') (r : Reg) (hw : WellShaped r) (mr : MetaRules L A M S T)
    (sub old o' : Obj L A M S T) (h : beforeUpdate sem r .status mr sub old = .ok o') :
    o'.spec = old.spec ∧ o'.labels = old.labels ∧ o'.generation = old.generation ∧
    o'.status = sub.status ∧ o'.annotations = sub.annotations := by
  obtain ⟨rfl, -⟩ := beforeUpdate_ok h
  rw [updatePrepare_status sem hw]
  exact ⟨rfl, rfl, rfl, rfl, rfl⟩

/-! ## Main resource -/

/-- Main-resource update (exactly what the code does): status is the stored one iff the main strategy was built
    with `subStatus`; spec, labels, annotations as submitted. -/
theorem c20_main_update_exact (sem : Sem A S A' S') (r : Reg) (hw : WellShaped r) (mr : MetaRules L A M S T)
    (sub old o' : Obj L A M S T) (h : beforeUpdate sem r .main mr sub old = .ok o') :
    o'.status = (if r.subStatus then old.status else sub.status) ∧
    o'.spec = sub.spec ∧ o'.labels = sub.labels ∧ o'.annotations = sub.annotations := by
  obtain ⟨rfl, -⟩ := beforeUpdate_ok h
  rw [updatePrepare_main sem hw]
  exact ⟨rfl, rfl, rfl, rfl⟩

/-- **C20 (main resource, status)**: for a kind served with a status subresource an accepted main-resource
    update never changes the status. -/
theorem c20_main_update_status (sem : Sem A S A' S') (r : Reg) (hw : WellShaped r) (hc : Consistent r)
    (mr : MetaRules L A M S T) (sub old o' : Obj L A M S T) (hserved : r.served = true)
    (h : beforeUpdate sem r .main mr sub old = .ok o') : o'.status = old.status := by
  rw [(c20_main_update_exact sem r hw mr sub old o' h).1, hc hserved, if_pos rfl]

/-- **C20 (generation)**: for every stored object (its generation is an `int64`) and every submitted object,
    an accepted main-resource update has `generation' = generation + 1` exactly when the spec or the
    annotations changed — as rendered by the API: `sem` — and `generation' = generation` otherwise.
    The submitted generation is irrelevant. -/
theorem c20_main_update_generation (sem : Sem A S A' S') (r : Reg) (hw : WellShaped r) (mr : MetaRules L A M S T)
    (sub old o' : Obj L A M S T) (hg : isI64 old.generation)
    (h : beforeUpdate sem r .main mr sub old = .ok o') :
    (o'.generation = old.generation + 1 ↔
      (sem.spec o'.spec ≠ sem.spec old.spec ∨ sem.annotations o'.annotations ≠ sem.annotations old.annotations)) ∧
    (¬ (sem.spec o'.spec ≠ sem.spec old.spec ∨ sem.annotations o'.annotations ≠ sem.annotations old.annotations) →
      o'.generation = old.generation) := by
  obtain ⟨rfl, -, -, -, hdec⟩ := beforeUpdate_ok h
  rw [updatePrepare_main sem hw] at hdec ⊢
  dsimp only at hdec ⊢
  split at hdec
  · next hch =>
    -- the bump did not wrap: the wrapped value would have failed "must not be decremented"
    rw [if_pos hch, toI64_succ_of_ge hg hdec]
    exact ⟨⟨fun _ => hch, fun _ => rfl⟩, fun hn => absurd hch hn⟩
  · next hch =>
    rw [if_neg hch]
    exact ⟨⟨fun hgen => by omega, fun h' => absurd h' hch⟩, fun _ => rfl⟩

/-- Corollary in terms of the decoded values: an update that leaves spec and annotations `DeepEqual` to the
    stored ones (a no-op PUT, a label-only or status-only change — the original defect) keeps the generation. -/
theorem c20_main_update_noop (sem : Sem A S A' S') (r : Reg) (hw : WellShaped r) (mr : MetaRules L A M S T)
    (sub old o' : Obj L A M S T) (hg : isI64 old.generation)
    (h : beforeUpdate sem r .main mr sub old = .ok o')
    (hs : sub.spec = old.spec) (ha : sub.annotations = old.annotations) : o'.generation = old.generation := by
  obtain ⟨_, hsp, _, han⟩ := c20_main_update_exact sem r hw mr sub old o' h
  apply (c20_main_update_generation sem r hw mr sub old o' hg h).2
  rw [hsp, han, hs, ha]
  exact fun hne => hne.elim (absurd rfl) (absurd rfl)

/-! ## The judge (what the harness evaluates on the real code's answers) holds on the model, in every view -/

variable {L' T' : Type} [DecidableEq L'] [DecidableEq T']

omit [DecidableEq S'] [DecidableEq A'] [DecidableEq L'] in
/-- **C20, API level, creation**: an accepted create of a consistently registered kind meets both creation clauses. -/
theorem c20_judge_create (r : Reg) (hc : Consistent r) (mr : MetaRules L A M S T)
    (v : View L A S T L' A' S' T') (zero : T) (o o' : Obj L A M S T) (h : beforeCreate r mr zero o = .ok o') :
    judgeCreate r.served (v.status zero) (v.obj o') = [] :=
  judgeCreate_eq_nil.2 ⟨(c20_create_exact r mr zero o o' h).1,
    fun hs => congrArg v.status (c20_create r hc mr zero o o' hs h).2⟩

omit [DecidableEq T'] in
/-- **C20, API level, status subresource**: an accepted status update of a well-shaped kind meets the three status clauses. -/
theorem c20_judge_status (r : Reg) (hw : WellShaped r) (mr : MetaRules L A M S T)
    (v : View L A S T L' A' S' T') (sub old o' : Obj L A M S T)
    (h : beforeUpdate v.sem r .status mr sub old = .ok o') :
    judgeStatusUpdate (v.obj old) (v.obj o') = [] := by
  obtain ⟨h1, h2, h3, _, _⟩ := c20_status_update v.sem r hw mr sub old o' h
  exact judgeStatusUpdate_eq_nil.2 ⟨congrArg v.sem.spec h1, congrArg v.labels h2, h3⟩

omit [DecidableEq L'] in
/-- **C20, API level, main resource**: every accepted main-resource update of a well-shaped, consistently
    registered kind meets both main-resource clauses in the API's view — also when the request spells empty
    values out. -/
theorem c20_judge_main (r : Reg) (hw : WellShaped r) (hc : Consistent r) (mr : MetaRules L A M S T)
    (v : View L A S T L' A' S' T') (sub old o' : Obj L A M S T) (hg : isI64 old.generation)
    (h : beforeUpdate v.sem r .main mr sub old = .ok o') :
    judgeMainUpdate r.served (v.obj old) (v.obj o') = [] := by
  obtain ⟨hiff, hkeep⟩ := c20_main_update_generation v.sem r hw mr sub old o' hg h
  exact judgeMainUpdate_eq_nil.2
    ⟨fun hs => congrArg v.status (c20_main_update_status v.sem r hw hc mr sub old o' hs h), hiff.2, hkeep⟩

/-! ## Every history through the API

`apiRun` plays any list of requests (creates, updates through either endpoint, deletes; accepted or rejected)
from the empty state — including DELETEs that keep a finalizer-holding object as terminating (k8s bumps its
generation) and updates that remove it. The stored generation is always an `int64`, so the range hypothesis
of `c20_main_update_generation` is discharged for every state a client can reach, whatever the rest of the
metadata (finalizers, deletionTimestamp, owner references … all inside the opaque `otherMeta`) looks like, and
an accepted main-resource update after any history meets the judge (`c20_history`). -/

def GenOk (st : Option (Obj L A M S T)) : Prop := ∀ o, st = some o → isI64 o.generation

omit [DecidableEq S'] [DecidableEq A'] in
theorem genOk_none : GenOk (none : Option (Obj L A M S T)) := fun _ h => nomatch h

omit [DecidableEq S'] [DecidableEq A'] in
theorem genOk_create (r : Reg) (mr : MetaRules L A M S T) (zero : T) (o : Obj L A M S T) :
    GenOk (beforeCreate r mr zero o).toOption := by
  cases hb : beforeCreate r mr zero o with
  | error e => exact genOk_none
  | ok x =>
    rintro _ ⟨⟩
    rw [(c20_create_exact r mr zero o x hb).1]
    decide

omit [DecidableEq S'] [DecidableEq A'] in
theorem genOk_delete (mr : MetaRules L A M S T) (cur : Obj L A M S T) (h : isI64 cur.generation) :
    GenOk (apiDelete mr cur) := by
  unfold apiDelete
  split
  · rintro _ ⟨⟩
    dsimp only
    split
    · exact toI64_isI64 _
    · exact h
  · exact genOk_none

/-- An accepted update moves the generation to itself or to a wrapped successor, for any shape. -/
theorem genOk_update (sem : Sem A S A' S') (r : Reg) (ep : Endpoint) (mr : MetaRules L A M S T)
    (o cur o' : Obj L A M S T) (hcur : isI64 cur.generation) (hb : beforeUpdate sem r ep mr o cur = .ok o') :
    isI64 o'.generation := by
  obtain ⟨rfl, -⟩ := beforeUpdate_ok hb
  cases ep with
  | status => rw [updatePrepare, statusPrepareForUpdate_eq]; exact hcur
  | main =>
    rw [updatePrepare, prepareForUpdate_eq]
    dsimp only
    split
    · exact toI64_isI64 _
    · exact hcur

theorem genOk_step (sem : Sem A S A' S') (r : Reg) (mr : MetaRules L A M S T) (zero : T)
    (acu : Endpoint → Bool)
    (st : Option (Obj L A M S T)) (a : Api L A M S T) (h : GenOk st) : GenOk (apiStep sem r mr zero acu st a) := by
  cases st with
  | none =>
    cases a with
    | create o => exact genOk_create r mr zero o
    | update ep o =>
      simp only [apiStep]
      split
      · exact genOk_none
      · split
        · exact genOk_none
        · exact genOk_create r mr zero o
    | delete => exact genOk_none
  | some cur =>
    cases a with
    | create o => exact h
    | delete => exact genOk_delete mr cur (h cur rfl)
    | update ep o =>
      simp only [apiStep]
      cases hb : beforeUpdate sem r ep mr o cur with
      | error e => exact h
      | ok o' =>
        dsimp only
        split
        · exact genOk_none
        · rintro _ ⟨⟩
          exact genOk_update sem r ep mr o cur o' (h cur rfl) hb

theorem genOk_run (sem : Sem A S A' S') (r : Reg) (mr : MetaRules L A M S T) (zero : T)
    (acu : Endpoint → Bool)
    (st : Option (Obj L A M S T)) (as : List (Api L A M S T)) (h : GenOk st) :
    GenOk (apiRun sem r mr zero acu st as) := by
  induction as generalizing st with
  | nil => exact h
  | cons a as ih => exact ih _ (genOk_step sem r mr zero acu st a h)

omit [DecidableEq L'] in
/-- **C20 over histories**: after ANY list of API requests from the empty state, any further accepted
    main-resource update obeys the generation rule and the status clause in the API's view — no hypothesis on
    the stored generation is left. -/
theorem c20_history (r : Reg) (hw : WellShaped r) (hc : Consistent r) (mr : MetaRules L A M S T)
    (v : View L A S T L' A' S' T') (zero : T) (acu : Endpoint → Bool)
    (hist : List (Api L A M S T)) (cur sub o' : Obj L A M S T)
    (hreach : apiRun v.sem r mr zero acu none hist = some cur)
    (h : beforeUpdate v.sem r .main mr sub cur = .ok o') :
    judgeMainUpdate r.served (v.obj cur) (v.obj o') = [] :=
  c20_judge_main r hw hc mr v sub cur o'
    (genOk_run v.sem r mr zero acu none hist genOk_none cur hreach) h

/-! ## The rest of the metadata is irrelevant

All statements above already quantify over arbitrary `otherMeta` components and arbitrary `MetaRules` (which
only decide WHETHER a request is accepted and what the new `otherMeta` is). Explicitly: what the strategies
make of labels, annotations, generation, spec and status does not depend on the `otherMeta` of either object —
finalizers, deletionTimestamp/GracePeriodSeconds of a terminating object, owner references, uid,
resourceVersion, managed fields. -/

def sameGroups (a b : Obj L A M S T) : Prop :=
  a.labels = b.labels ∧ a.annotations = b.annotations ∧ a.generation = b.generation ∧ a.spec = b.spec ∧ a.status = b.status

theorem c20_update_ignores_other_metadata (sem : Sem A S A' S') (r : Reg) (ep : Endpoint)
    (obj old : Obj L A M S T) (m₁ m₂ : M) :
    sameGroups (updatePrepare sem r ep { obj with otherMeta := m₁ } { old with otherMeta := m₂ })
               (updatePrepare sem r ep obj old) := by
  cases ep with
  | main => simp only [updatePrepare, prepareForUpdate_eq]; exact ⟨rfl, rfl, rfl, rfl, rfl⟩
  | status => simp only [updatePrepare, statusPrepareForUpdate_eq]; exact ⟨rfl, rfl, rfl, rfl, rfl⟩

omit [DecidableEq S'] [DecidableEq A'] in
theorem c20_create_ignores_other_metadata (subStatus : Bool) (sh : Shape) (zero : T) (obj : Obj L A M S T) (m : M) :
    sameGroups (prepareForCreate subStatus sh zero { obj with otherMeta := m }) (prepareForCreate subStatus sh zero obj) := by
  simp only [prepareForCreate_eq]
  exact ⟨rfl, rfl, rfl, rfl, rfl⟩

/-- … and an accepted update's generation, spec, status, labels, annotations are those of the same update on
    objects with ANY other `otherMeta` (whenever that one is accepted too). -/
theorem c20_accepted_update_ignores_other_metadata (sem : Sem A S A' S') (r : Reg) (ep : Endpoint)
    (mr mr' : MetaRules L A M S T) (obj old o₁ o₂ : Obj L A M S T) (m₁ m₂ : M)
    (h₁ : beforeUpdate sem r ep mr obj old = .ok o₁)
    (h₂ : beforeUpdate sem r ep mr' { obj with otherMeta := m₁ } { old with otherMeta := m₂ } = .ok o₂) :
    sameGroups o₂ o₁ := by
  obtain ⟨rfl, -⟩ := beforeUpdate_ok h₁
  obtain ⟨rfl, -⟩ := beforeUpdate_ok h₂
  exact c20_update_ignores_other_metadata sem r ep { obj with generation := old.generation } old m₁ m₂

end

/-! ## The registrations of rest.go (regenerated on every run by tools/extract/c20) -/

def regOf (f : KG.Gen.C20.RegFact) : Reg :=
  { shape := ⟨f.hasMeta, f.hasSpec, f.hasStatus⟩, subStatus := f.strategySubStatus, optSubStatus := f.optSubStatus }

/-- Every registered kind has ObjectMeta, Spec and Status (so the theorems above apply to it, served with a
    status subresource or not). A kind added to rest.go is in the regenerated list and re-decided here. -/
theorem c20_registrations_wellshaped : ∀ f ∈ KG.Gen.C20.registrations, WellShaped (regOf f) := by decide

/-- Every kind served with a status subresource has a main strategy built with `subStatus = true` (otherwise a
    main-resource update would overwrite its status). -/
theorem c20_registrations_consistent : ∀ f ∈ KG.Gen.C20.registrations, Consistent (regOf f) := by decide

/-- At least one kind is served with a status subresource (the property's quantifier is not empty). -/
theorem c20_registrations_some_served : ∃ f ∈ KG.Gen.C20.registrations, (regOf f).served = true := by decide

/-! ## The hooks around `PrepareFor…` (regenerated, semantic: names and values, not spellings)

The property depends on them implicitly. Every KNOWN hook is tied behaviourally (the harness runs the stores' own
strategies through `rest.BeforeCreate/BeforeUpdate` and the real store on both endpoints: an effectful `Canonicalize`,
a rejecting `Validate*`, a changed `AllowUnconditionalUpdate` or `NamespaceScoped` show up as a difference or a judge
failure), and `AllowCreateOnUpdate` of each endpoint is the parameter `acu` of the model's `apiStep` — all theorems hold
for either value; the regenerated `KG.Gen.C20.main/statusAllowCreateOnUpdate` are what the driver answers with. What
only a fact can notice is a hook of a NEW kind (`WarningsOn…`, `CheckGracefulDelete`, `PrepareForDelete`,
`BeginCreate` …), another member of the status strategy besides the wrapped main strategy, or another member of the
generic store being set (`Decorator`, `AfterUpdate`, `BeginUpdate` …). -/

def knownHooks : List String :=
  ["AllowCreateOnUpdate", "AllowUnconditionalUpdate", "Canonicalize", "NamespaceScoped", "PrepareForCreate",
   "PrepareForUpdate", "Validate", "ValidateUpdate"]

theorem c20_hooks_known :
    (∀ m ∈ KG.Gen.C20.mainStrategyMethods ++ KG.Gen.C20.statusStrategyMethods, m ∈ knownHooks) ∧
    "PrepareForCreate" ∈ KG.Gen.C20.mainStrategyMethods ∧ "PrepareForUpdate" ∈ KG.Gen.C20.mainStrategyMethods ∧
    "PrepareForUpdate" ∈ KG.Gen.C20.statusStrategyMethods := by decide +kernel

theorem c20_status_strategy_wraps_main :
    KG.Gen.C20.statusStrategyMembers = ["embedded rest.RESTCreateUpdateStrategy"] := rfl

theorem c20_store_members_known :
    KG.Gen.C20.storeMembers = ["CreateStrategy", "DefaultQualifiedResource", "DeleteStrategy", "InMemoryVersioner",
      "NewFunc", "NewListFunc", "UpdateStrategy"] ∧
    KG.Gen.C20.storeMembersAssigned = ["UpdateStrategy"] := ⟨rfl, rfl⟩

/-! ## Non-vacuity: the hypotheses are satisfiable by concrete, non-trivial requests

Annotations `none` = absent, `some []` = spelled out as `{}`; both render as "no annotations". -/

def witnessReg : Reg := { shape := ⟨true, true, true⟩, subStatus := true, optSubStatus := true }
def witnessRules : MetaRules Unit (Option (List Nat)) Unit Nat Nat :=
  { fixCreate := id, fixUpdate := fun n _ => n, validCreate := fun _ => true, validUpdate := fun _ _ => true,
    deleteKeeps := fun _ => true, deleteBumps := fun _ => true, markDeleting := id, deletedByUpdate := fun _ _ => false }
def witnessSem : Sem (Option (List Nat)) Nat (List Nat) Nat := { annotations := fun a => a.getD [], spec := id }
def witnessView : View Unit (Option (List Nat)) Nat Nat Unit (List Nat) Nat Nat :=
  { labels := id, status := id, sem := witnessSem }
def witnessStored : Obj Unit (Option (List Nat)) Unit Nat Nat :=
  { labels := (), annotations := none, generation := 5, otherMeta := (), spec := 7, status := 3 }

/-- a no-op main update of generation 5 is accepted and stays at 5 (the first defect's witness: it went 5 → 6) -/
example : beforeUpdate witnessSem witnessReg .main witnessRules witnessStored witnessStored = .ok witnessStored := by decide
/-- `annotations: {}` against no annotations: accepted, stays at 5 (the second defect's witness: 5 → 6) -/
example : beforeUpdate witnessSem witnessReg .main witnessRules { witnessStored with annotations := some [] } witnessStored
    = .ok { witnessStored with annotations := some [] } := by decide
/-- an annotation change is accepted and bumps 5 → 6 -/
example : (beforeUpdate witnessSem witnessReg .main witnessRules { witnessStored with annotations := some [1] } witnessStored).toOption.map
    (·.generation) = some 6 := by decide
/-- a status update with another spec/status is accepted, spec restored, generation kept -/
example : beforeUpdate witnessSem witnessReg .status witnessRules { witnessStored with spec := 9, status := 4, generation := 77 } witnessStored
    = .ok { witnessStored with status := 4 } := by decide
/-- creation with a client-supplied status and generation: both overwritten -/
example : beforeCreate witnessReg witnessRules 0 { witnessStored with generation := 40 }
    = .ok { witnessStored with generation := 1, status := 0 } := by decide
/-- at generation MaxInt64 a change is REJECTED (the wrapped value fails "must not be decremented") -/
example : beforeUpdate witnessSem witnessReg .main witnessRules { witnessStored with spec := 8 }
    { witnessStored with generation := 9223372036854775807 } = .error .invalid := by decide
/-- a reachable state of `c20_history`: create (1), spec change (2), status update (2), DELETE kept by a
    finalizer (k8s bumps: 3), spec change on the terminating object (4) -/
example : apiRun witnessSem witnessReg witnessRules 0 (fun _ => true) none [.create witnessStored, .update .main { witnessStored with spec := 8 },
    .update .status { witnessStored with status := 9 }, .delete, .update .main { witnessStored with spec := 10 }] =
    some { witnessStored with spec := 10, status := 9, generation := 4 } := by decide
/-- a PUT to /status of a missing object creates it iff the status strategy allows create-on-update -/
example : (apiRun witnessSem witnessReg witnessRules 0 (fun _ => true) none [.update .status witnessStored]).isSome = true ∧
    apiRun witnessSem witnessReg witnessRules 0 (fun ep => ep != .status) none [.update .status witnessStored] = none := by decide
/-- the judge is not trivially empty: it rejects the second defect's behaviour (5 → 6 on `{}`) … -/
example : judgeMainUpdate true (witnessView.obj witnessStored)
    (witnessView.obj { witnessStored with annotations := some [], generation := 6 }) = [.mainKeep] := by decide
/-- … a missed bump, a changed status, an uncleared status on creation, a relabelling status update -/
example : judgeMainUpdate true (witnessView.obj witnessStored)
    (witnessView.obj { witnessStored with spec := 8, status := 4 }) = [.mainStatus, .mainBump] := by decide
example : judgeCreate true (0 : Nat) (witnessView.obj { witnessStored with generation := 5 }) = [.createGeneration, .createStatus] := by decide
example : judgeStatusUpdate (L := Nat) (A := Nat) (M := Unit) (S := Nat) (T := Nat) ⟨1, 0, 5, (), 7, 3⟩ ⟨2, 0, 6, (), 8, 3⟩ =
    [.statusSpec, .statusLabels, .statusGeneration] := by decide

end KG.Props.C20
