import KG.Lemmas.ClusterSync
import KG.Lemmas.Lists
/-!
# C11 — hot reload converges to the latest object's configuration, whatever the history

Model: `KG.Model.ClusterSync` (`ClusterInfo.Sync` with every sub-sync, early return and error exit; the controller's
`syncUpstreamCluster` with lister, manager and requeue).  Judge: `KG.Spec.ClusterSync.expected` — the observation
(`observe`) the latest object alone prescribes.  All theorems hold for every `Env` (every deterministic behaviour of
the external parsers) and every `Conn` (client connection settings fixed at creation).
-/
namespace KG.Props.C11
open KG KG.Model.ClusterSync KG.Spec.ClusterSync KG.Lemmas.ClusterSync

/-! ## facts regenerated from the sources on every run -/

/-- the order of the steps of `ClusterInfo.Sync` the model mirrors is the one the source has: the sub-syncs by
    callee, and — by role, whatever field(s) they are stored in — the publication of dispatch policies and logging as the
    last step, after everything that can fail -/
theorem c11_sync_order :
    KG.Gen.C11.syncOrder = ["nameCheck", "c.syncFeatureGate", "c.flowcontrol.ResetLimiter", "c.flowcontrol.Sync",
      "c.syncEndpoints", "c.syncSecureServingConfigLocked", "publish:DispatchPolicies+Logging"] ∧
    KG.Gen.C11.syncReturnsErrOf = ["c.syncFeatureGate", "c.syncEndpoints", "c.syncSecureServingConfigLocked"] :=
  ⟨rfl, rfl⟩

/-- `syncFeatureGate` applies the annotation to a copy of the DEFAULT gates, and the controller applies the
    lister's current object -/
theorem c11_source_shape :
    KG.Gen.C11.gatesSetOnDefaultCopy = true ∧ KG.Gen.C11.controllerAppliesListerObject = true := by
  decide

/-- what the sequential controller model (`Ctl.step`: ONE delivery is handled at a time, from `lister.Get` to the end of
    `Sync` and the re-keying) rests on: `Run` starts exactly one worker on the queue.  The queue is a passthrough queue —
    its items are event-object pointers, so two versions of one cluster are two items, and a second worker would handle
    them concurrently (`lister.Get` of version N, overtaken by N+1, then `Sync` N) — and `ClusterInfo.Sync` takes no lock
    because it is documented as single threaded.  `c11_controller*` are statements about this one-worker gateway. -/
theorem c11_single_worker :
    KG.Gen.C11.queueWorkers = 1 ∧ KG.Gen.C11.syncDocumentedSingleThreaded = true := by
  decide

/-- what "a refused or failed delivery stays pending and is delivered again later" (`Ctl.step`: a `requeue` answer keeps
    the item in the queue, for ever) rests on: the `RequeueAfter` path of `processNextWorkItem` never counts a requeue, so
    `MaxRequeueTimes` is never reached and the queue never gives an item up.  (With resync period 0 nothing else would
    ever deliver a cluster again whose failure is cured by ANOTHER object, e.g. a server name released by its owner.) -/
theorem c11_requeue_never_gives_up : KG.Gen.C11.requeueAfterIsCounted = false := by
  decide

/-! ## one `ClusterInfo` -/

/-- every history (successful, refused and half-applied syncs in any mix) leaves a consistent `ClusterInfo` of the
    same cluster with the same connection settings -/
theorem c11_history_invariant (env : Env) (h : List Delivery) (c s : CI) (hI : Inv env c)
    (hr : runHist env c h = some s) : Kept env c s :=
  KG.Lemmas.foldl_inv (fun x => ∀ s, x = some s → Kept env c s) (stepHist env) h
    (fun x d _ hx s hs => by
      cases x with
      | none => cases hs
      | some c1 => exact (hx c1 rfl).trans (stepHist_kept (hx c1 rfl).1 hs))
    (some c) (fun s hs => by cases hs; exact Kept.refl hI) s hr

/-- **C11 (one cluster)**: for EVERY history `h` of deliveries to one long-lived `ClusterInfo` — objects in any
    order, any of them refused or applied only half-way (the state they leave behind is carried on) — if the gateway
    is still alive and the last `Sync` succeeds for an object of this cluster, then what the gateway observes of the
    cluster is exactly what that last object prescribes (`expected`), a freshly created `ClusterInfo` given only that
    object is created successfully (whatever Go's map iteration order), and both observe the same. -/
theorem c11_converge (env : Env) (conn : Conn) (name : Str) (h : List Delivery) (d : Delivery) (s s' : CI)
    (hrun : runHist env (empty env conn name) h = some s)
    (hlast : sync env s d.obj d.ord = .ok s')
    (hname : env.lower d.obj.name = env.lower name) :
    observe env s' = expected env conn d.obj ∧
    ∀ ord', ∃ f, fresh env conn d.obj ord' = .ok f ∧ observe env f = observe env s' := by
  obtain ⟨hI, hcl, hco⟩ := c11_history_invariant env h _ _ (empty_inv env conn name) hrun
  have hco' : s.conn = conn := hco
  exact hco' ▸ (sync_converges hI (by rw [hcl, hname]; rfl) hlast).2

/-- the same, as a statement about the fold over the whole history `h ++ [d]` -/
theorem c11_converge_fold (env : Env) (conn : Conn) (name : Str) (h : List Delivery) (d : Delivery) (s' : CI)
    (hrun : runHist env (empty env conn name) (h ++ [d]) = some s')
    (hlast : ∀ s, runHist env (empty env conn name) h = some s → ∃ s'', sync env s d.obj d.ord = .ok s'')
    (hname : env.lower d.obj.name = env.lower name) :
    observe env s' = expected env conn d.obj ∧
    ∀ ord', ∃ f, fresh env conn d.obj ord' = .ok f ∧ observe env f = observe env s' := by
  simp only [runHist, List.foldl_append, List.foldl] at hrun
  cases hs : List.foldl (stepHist env) (some (empty env conn name)) h with
  | none => rw [hs] at hrun; simp [stepHist] at hrun
  | some s =>
    rw [hs] at hrun
    obtain ⟨s'', hs''⟩ := hlast s hs
    simp only [stepHist, hs''] at hrun
    injection hrun with hrun; subst hrun
    exact c11_converge env conn name h d s s'' hs hs'' hname

/-- a `Sync` that fails — at whatever sub-sync, however far it got — changes neither the TLS material, nor the
    verify options, nor the server names the cluster reports (so the controller's before/after comparison of
    `LoadServerNames` is sound), and the next successful `Sync` repairs everything else (`c11_converge`) -/
theorem c11_failed_sync_keeps_serving_config (env : Env) (c c' : CI) (o : Obj) (ord : List Str) (e : Err)
    (hI : Inv env c) (h : sync env c o ord = .fail e c') :
    loadTLSConfig c' = loadTLSConfig c ∧ loadVerifyOptions c' = loadVerifyOptions c ∧
    loadServerNames env c' = loadServerNames env c := by
  by_cases hn : c.cluster = env.lower o.name
  · have hs := sync_spec ord hI hn
    rw [h] at hs
    exact serving_congr hs.2.1 hs.1.cluster
  · rw [sync_other ord hn] at h; cases h

/-- no `Sync` panics on an object whose schemas all have the member their limiter type needs, when `GlobalRateLimiter` is
    a registered gate.  (Admission validation demands the former of every object — C16, `schemaOK`, over a model of its
    own: no theorem connects the two.) -/
theorem c11_no_panic (env : Env) (c : CI) (o : Obj) (ord : List Str) (hI : Inv env c)
    (hs : ∀ s ∈ o.schemas, safe s)
    (hg : ∀ g, (g = env.defaultGates ∨ ∃ v, env.setGates v = some g) → (alookup strGlobalRateLimiter g).isSome = true) :
    sync env c o ord ≠ .crash := by
  intro hcr
  by_cases hn : c.cluster = env.lower o.name
  · obtain ⟨hga, hnp⟩ := (sync_crash_iff ord hI hn).1 hcr
    exact hnp ⟨hs, getFlowControlType_isSome (hg _ (expGates_cases hga))⟩
  · rw [sync_other ord hn] at hcr; cases hcr

/-! ## the controller -/

/-- every delivery that is not asked to be requeued leaves its cluster settled on the lister's CURRENT object —
    however old the queue item is (a re-delivered, superseded event re-applies the current object), whatever was
    applied, refused or half-applied before -/
theorem c11_delivery_applies_listers_object (env : Env) (conn : Conn) (hl : LowerIdem env) (st st' : Ctl) (X : Str)
    (ord : List Str) (hI : CInv env conn st) (hX : env.lower X = X)
    (h : syncUpstreamCluster env conn st X ord = .done st') :
    SettledAt env conn st' X ∧ CInv env conn st' := by
  have := handler_spec (conn := conn) hl ord hI hX
  rw [h] at this
  exact ⟨this.2.1, this.1.cinv⟩

/-- **deletion then re-creation = fresh**: after any sequence of ops, when nothing is served under a cluster's name
    (it never existed, or its deletion was delivered), the delivery that brings it back installs exactly the
    `ClusterInfo` `CreateClusterInfo` builds from the lister's current object — nothing of an earlier incarnation -/
theorem c11_recreate_is_fresh (env : Env) (conn : Conn) (hl : LowerIdem env) (ops : List COp) (st st' : Ctl)
    (hv : ∀ op ∈ ops, ValidOp env op) (hrun : Ctl.run env conn (some Ctl.init) ops = some st)
    (X : Str) (hX : env.lower X = X) (o : Obj) (ord : List Str) (hlis : alookup X st.lister = some o)
    (hg : st.get env X = none) (h : syncUpstreamCluster env conn st X ord = .done st') :
    ∃ f, fresh env conn o ord = .ok f ∧ st'.get env X = some (st.heap.length, f) := by
  have := handler_spec hl ord (allInv_of_run hl hv hrun).cinv hX
  rw [h] at this
  exact this.2.2 o hlis hg

/-- **C11 (controller)**: for EVERY sequence of API writes and deletes of any clusters (with overlapping, moving,
    conflicting server names) and queue deliveries in ANY order — refused and failed deliveries stay pending and are
    delivered again whenever, long after newer versions were applied — as long as the gateway is alive: every cluster
    for which nothing is pending is exactly what its latest object prescribes and observes the same as a freshly
    created `ClusterInfo` given only that object (which creation succeeds); a cluster whose object is gone is not
    served.  Deletion followed by re-creation is one instance. -/
theorem c11_controller (env : Env) (conn : Conn) (hl : LowerIdem env) (ops : List COp) (st : Ctl)
    (hv : ∀ op ∈ ops, ValidOp env op) (hrun : Ctl.run env conn (some Ctl.init) ops = some st)
    (n : Str) (hn : env.lower n = n) (hpend : n ∉ st.queue) :
    match alookup n st.lister with
    | none => ∀ (id : Nat) (ci : CI), st.get env n = some (id, ci) → ci.cluster ≠ n
    | some o => ∃ id ci, st.get env n = some (id, ci) ∧ ci.cluster = n ∧
        observe env ci = expected env conn o ∧
        ∀ ord', ∃ f, fresh env conn o ord' = .ok f ∧ observe env f = observe env ci := by
  have hs := settled_of_not_pending hl hv hrun hn hpend
  unfold SettledAt at hs
  rw [get_eq, hn]
  exact hs

/-- **C11 (controller, server names)**: under the same hypotheses, the hosts that resolve to a settled cluster are
    exactly the (lower-cased) server names of its latest object: its own name and its current `serverNames`.
    (Before fix ddabea4 this was false: a `Sync` failing in `syncEndpoints` had already installed the new names.) -/
theorem c11_controller_names (env : Env) (conn : Conn) (hl : LowerIdem env) (ops : List COp) (st : Ctl)
    (hv : ∀ op ∈ ops, ValidOp env op) (hrun : Ctl.run env conn (some Ctl.init) ops = some st)
    (n : Str) (hn : env.lower n = n) (hpend : n ∉ st.queue) (o : Obj) (hlis : alookup n st.lister = some o) (h : Str) :
    (∃ id ci, st.get env h = some (id, ci) ∧ ci.cluster = n) ↔
    env.lower h ∈ n :: o.secureServing.serverNames.map env.lower :=
  names_of_settled (allInv_of_run hl hv hrun).cinv hn hlis (settled_of_not_pending hl hv hrun hn hpend) h

/-- … and no host at all resolves to a cluster whose object is gone once nothing is pending for it -/
theorem c11_controller_deleted (env : Env) (conn : Conn) (hl : LowerIdem env) (ops : List COp) (st : Ctl)
    (hv : ∀ op ∈ ops, ValidOp env op) (hrun : Ctl.run env conn (some Ctl.init) ops = some st)
    (n : Str) (hn : env.lower n = n) (hpend : n ∉ st.queue) (hlis : alookup n st.lister = none) (h : Str) :
    ¬ ∃ id ci, st.get env h = some (id, ci) ∧ ci.cluster = n := by
  have hs := (settledAt_gone hlis).1 (settled_of_not_pending hl hv hrun hn hpend)
  intro hx
  obtain ⟨id, ci, hg, hcl⟩ := hx
  exact hs id ci (hcl ▸ (allInv_of_run hl hv hrun).cinv.own hg) hcl

/-- the model's manager map never points to a `ClusterInfo` that does not exist (`Ctl.get` treats that as "not found";
    this shows the case never arises), and every `ClusterInfo` of the controller is consistent -/
theorem c11_controller_wf (env : Env) (conn : Conn) (hl : LowerIdem env) (ops : List COp) (st : Ctl)
    (hv : ∀ op ∈ ops, ValidOp env op) (hrun : Ctl.run env conn (some Ctl.init) ops = some st) :
    (∀ (k : Str) (id : Nat), alookup k st.mgr = some id → ∃ ci, st.heap[id]? = some ci ∧ k ∈ loadServerNames env ci) ∧
    (∀ (id : Nat) (ci : CI), st.heap[id]? = some ci → Inv env ci ∧ ci.conn = conn) := by
  have hA := allInv_of_run hl hv hrun
  exact ⟨hA.cinv.keysSub, fun id ci h => ⟨(hA.cinv.heapOK id ci h).1, (hA.cinv.heapOK id ci h).2.2⟩⟩

/-! ## effective routing is determined by the observation -/

/-- two `ClusterInfo`s with the same observation route every request identically: same policy, same flow-control
    schema and limiter, same logging decision, same set of candidate endpoints (`MatchAttributes`) -/
theorem c11_routing (env : Env) (a b : CI) (h : observe env a = observe env b) (q : KG.Model.Match.Attrs) :
    (matchAttributes a q).map (fun p => (p.index, p.flowControlName, p.flowControl, p.enableLog)) =
      (matchAttributes b q).map (fun p => (p.index, p.flowControlName, p.flowControl, p.enableLog)) ∧
    ∀ ep, (∃ p, matchAttributes a q = some p ∧ ep ∈ p.upstreams) ↔ (∃ p, matchAttributes b q = some p ∧ ep ∈ p.upstreams) := by
  have hep : loadEndpoint a = loadEndpoint b := congrArg Obs.endpoints h
  exact matchAttributes_congr (congrArg Obs.policies h) (congrArg Obs.logging h) (congrArg Obs.schemas h)
    (fun ep => by rw [allEndpoints, allEndpoints, mem_akeys, mem_akeys, show alookup ep a.eps = alookup ep b.eps from congrFun hep ep]) q

/-! ## non-vacuity: the hypotheses are satisfiable by concrete, non-trivial histories -/

section NonVacuous

/-- a concrete instance of the external code: no gate annotation parses, no PEM blob parses, `"x"` is an unusable endpoint -/
def env0 : Env :=
  { lower := id, setGates := fun _ => none, defaultGates := [(strGlobalRateLimiter, false)],
    parseCA := fun _ => none, parsePair := fun c k => if c = k then some c else none, addOK := fun e => e ≠ [120] }

def conn0 : Conn := ⟨strRemote, false⟩

def objA : Obj :=
  { name := [99], annotations := none, servers := [⟨[104], none⟩, ⟨[105], some true⟩],
    secureServing := ⟨[7], [7], [], [[97]]⟩,
    schemas := [⟨[97], false, some 5, none, none, none, []⟩], policies := [], logging := strOn }

/-- same cluster: the schema is retyped, a server dropped, the key removed, a client CA that does not parse added -/
def objBad : Obj :=
  { objA with servers := [⟨[104], some true⟩], secureServing := ⟨[], [7], [1], []⟩,
              schemas := [⟨[97], false, none, some ⟨3, 4⟩, none, none, []⟩] }

/-- and one that can be applied again -/
def objC : Obj :=
  { objBad with secureServing := ⟨[], [7], [], [[98]]⟩, servers := [⟨[105], none⟩] }

/-- the middle delivery FAILS (client CA), after feature gates, flow control (schema retyped) and endpoints were already
    applied: the state it leaves is not the one before it … -/
example : ∃ s1 e s2, sync env0 (empty env0 conn0 [99]) objA [] = .ok s1 ∧ sync env0 s1 objBad [] = .fail e s2 ∧
    s2.fcs ≠ s1.fcs ∧ s2.eps ≠ s1.eps ∧ s2.ss = s1.ss := by
  refine ⟨_, _, _, rfl, rfl, ?_, ?_, rfl⟩ <;> decide

/-- … and the hypotheses of `c11_converge` hold for the history [objA, objBad] followed by objC -/
example : ∃ s s', runHist env0 (empty env0 conn0 [99]) [⟨objA, []⟩, ⟨objBad, []⟩] = some s ∧
    sync env0 s objC [] = .ok s' ∧ env0.lower objC.name = env0.lower [99] :=
  ⟨_, _, rfl, rfl, rfl⟩

/-- controller: objBad is refused first (cluster not yet created: `CreateClusterInfo` fails) and stays queued, objC
    is written and applied, then the stale item is delivered again: nothing is pending, the hypotheses of
    `c11_controller` hold, and the cluster is served -/
example : ∃ st, Ctl.run env0 conn0 (some Ctl.init)
      [.write objBad, .deliver 0 [], .write objC, .deliver 1 [], .deliver 0 []] = some st ∧
    (∀ op ∈ [COp.write objBad, .deliver 0 [], .write objC, .deliver 1 [], .deliver 0 []], ValidOp env0 op) ∧
    [99] ∉ st.queue ∧ (alookup [99] st.lister).isSome = true ∧ (st.get env0 [99]).isSome = true ∧ LowerIdem env0 := by
  refine ⟨_, rfl, ?_, ?_, ?_, ?_, fun _ => rfl⟩
  · exact List.forall_mem_cons.2 ⟨rfl, List.forall_mem_cons.2 ⟨trivial, List.forall_mem_cons.2 ⟨rfl,
      List.forall_mem_cons.2 ⟨trivial, List.forall_mem_cons.2 ⟨trivial, fun _ h => nomatch h⟩⟩⟩⟩⟩
  · decide
  · decide
  · decide

end NonVacuous

end KG.Props.C11
