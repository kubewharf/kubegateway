import KG.Lemmas.Reclaim
/-!
# C18 — Quota of dead gateway instances is reclaimed; live instances are left alone

Model: `KG.Model.Reclaim` (the limiter server's heartbeat table, stores and global max-in-flight counters, as fixed by
f47898e). Predicates: `KG.Spec.Reclaim` (the judge the harness evaluates on the real code after every op).
Every theorem is for an arbitrary shard function; those that do not start at `init` are for an arbitrary state
(`c18_reclaim`'s history starts from any `s0`).
-/
namespace KG.Props.C18
open KG KG.Model.Reclaim KG.Spec.Reclaim KG.Lemmas.Reclaim

variable (shardOf : Ups → Nat)

/-! ## The two passes, one step -/

/-- **Reclaim, time-out pass**: an instance whose heartbeats are all older than `ClientHeartBeatTimeout` loses its
    heartbeat entry, all in-flight states counted for it (in every store) and, if its id is not empty, its labelled
    conditions in led shards (but for a condition whose delete the API refused, API-backed store only). -/
theorem c18_timeout_pass_reclaims (s : State) (now : Nat) :
    ReclaimTimeout shardOf now s (cleanupTimeout shardOf s now) := by
  intro q hq hdead
  refine ⟨(noHb_cleanupTimeout shardOf s now q.1).2 hdead.2, cleanupTimeout_drops shardOf hq (hdead.2 q hq rfl), ?_⟩
  rw [cleanupTimeout_eq]
  intro hne r hr hinst hlabel
  have hk := ((mem_sweep_conds shardOf s _ _ _ _ r).1 hr).2.1
  rw [List.any_eq_true.2 ⟨q.1, mem_dead hq (hdead.2 q hq rfl), by simp [selects, hinst, hlabel]⟩] at hk
  exact of_not_deletable shardOf s r.2 (hinst ▸ hne) hk

/-- **Reclaim, unknown pass**: afterwards every condition in a led shard is instance-less or owned by an instance of
    the heartbeat table (or its delete was refused by the API); the in-flight states of the unknown owners found are
    dropped in every store. -/
theorem c18_unknown_pass_reclaims (s : State) : ReclaimUnknown shardOf s (cleanupUnknown shardOf s) := by
  obtain ⟨gone, _, e⟩ := cleanupUnknown_eq shardOf s
  rw [e]
  refine ⟨fun r hr hl => ?_, fun r hr hne hun =>
    sweep_noState shardOf s _ _ _ _ (List.mem_map.2 ⟨r, List.mem_filter.2 ⟨hr, by simp [unknown, hun, hne]⟩, rfl⟩)⟩
  have hk := ((mem_sweep_conds shardOf s _ _ _ _ r).1 hr).2.1
  by_cases hi : r.2.inst = []
  · exact Or.inl hi
  by_cases hb : hbHas s r.2.inst = true
  · exact Or.inr (Or.inl hb)
  · rw [unknown, eq_false_of_ne_true hb] at hk
    exact Or.inr (Or.inr ((of_not_deletable shardOf s r.2 hi hk).resolve_left
      (by rw [show isLeader s (shardOf r.2.upstream) = true from hl]; decide)))

/-- **Live instances are left alone, time-out pass**: an instance none of whose heartbeats is older than the
    time-out at `now` keeps its entry, every condition and every in-flight state. No hypothesis on identities. -/
theorem c18_live_safe_timeout_pass (s : State) (now : Nat) :
    LiveSafeTimeout now s (cleanupTimeout shardOf s now) := by
  rw [cleanupTimeout_eq]
  intro q hq hlive
  have hnd : q.1 ∉ (s.hb.filter (timedOut now)).map (·.1) := by
    intro h
    obtain ⟨p, hp, he⟩ := List.mem_map.1 h
    have hp' := (List.mem_filter.1 hp).2
    rw [hlive.2 p (List.mem_filter.1 hp).1 he] at hp'; cases hp'
  refine ⟨List.mem_filter.2 ⟨hq, by rw [hlive.2 q hq rfl]; rfl⟩,
    fun r hr hinst => (mem_sweep_conds shardOf s _ _ _ _ r).2 ⟨hr, Bool.and_eq_false_imp.2 fun hk => ?_, rfl⟩,
    fun r hr => sweep_kept shardOf s _ _ _ _ hnd hr rfl⟩
  obtain ⟨d, hd, hsel⟩ := List.any_eq_true.1 hk
  simp only [selects, Bool.and_eq_true, beq_iff_eq] at hsel
  exact absurd (hinst ▸ hsel.2 ▸ hd) hnd

/-- **Live instances are left alone, unknown pass**: an instance of the heartbeat table keeps its entry and, for every
    upstream still listed, its conditions and in-flight states. -/
theorem c18_live_safe_unknown_pass (s : State) : LiveSafeUnknown s (cleanupUnknown shardOf s) := by
  obtain ⟨gone, hgone, e⟩ := cleanupUnknown_eq shardOf s
  rw [e]
  intro q hq
  have hk : hbHas s q.1 = true := (hbHas_iff s q.1).2 ⟨q, hq, rfl⟩
  have hnc : q.1 ∉ (s.conds.filter fun r => unknown s r.2 && r.2.inst != []).map (·.2.inst) := by
    intro h
    obtain ⟨r, hr, he⟩ := List.mem_map.1 h
    have := (List.mem_filter.1 hr).2
    simp [unknown, he, hk] at this
  exact ⟨hq,
    fun r hr hinst hl => (mem_sweep_conds shardOf s _ _ _ _ r).2 ⟨hr, by simp [unknown, hinst, hk], hgone _ _ hl⟩,
    fun r hr hl => sweep_kept shardOf s _ _ _ _ hnc hr (hgone _ _ hl)⟩

/-- **Foreign shards are not touched**: a condition whose shard this server does not lead stays, whatever happened to
    its owner's heartbeats (unknown pass: as long as the upstream is listed, the deletion of an upstream is not guarded). -/
theorem c18_passes_respect_leadership (s : State) :
    (∀ now, ForeignKept shardOf false s (cleanupTimeout shardOf s now)) ∧
    ForeignKept shardOf true s (cleanupUnknown shardOf s) := by
  obtain ⟨gone, hgone, e⟩ := cleanupUnknown_eq shardOf s
  rw [e]
  exact ⟨fun now => cleanupTimeout_eq shardOf s now ▸ sweep_foreignKept shardOf s _ _ _ _ false fun _ _ _ => rfl,
    sweep_foreignKept shardOf s _ _ _ _ true fun _ _ hl => hgone _ _ (hl rfl)⟩

/-! ## Reports, acquires and heartbeats -/

/-- **The recorded sum is recomputed**: a report that is answered leaves, in the upstream state condition, exactly the
    sums of the quotas of the conditions now stored for that upstream. -/
theorem c18_report_records_sum (s : State) (u : Ups) (j : Inst) (ri : List (Str × Kind)) (q : List Item) (l : Str)
    (h : (report shardOf s u j ri q).2 = .reported l) :
    SumRecorded shardOf u (report shardOf s u j ri q).1 := by
  obtain ⟨_, upc, hu, hn, e⟩ := report_ok shardOf s u j ri q l h
  rw [e]
  exact sumRecorded_of_saved shardOf s _ u _ hu hn rfl

/-- **The freed quota is available** (what follows `c18_reclaim`): once no condition of `i` is left in the led shards,
    the next answered report of any other instance `j` for `u` leaves a recorded sum that is the sum over conditions
    none of which belongs to `i`. -/
theorem c18_survivor_report_excludes_dead (s : State) (i j : Inst) (u : Ups) (ri : List (Str × Kind)) (q : List Item)
    (l : Str) (hij : j ≠ i) (hgone : NoCondLed shardOf i s)
    (h : (report shardOf s u j ri q).2 = .reported l) :
    SumRecorded shardOf u (report shardOf s u j ri q).1 ∧
    ∀ c ∈ summed (report shardOf s u j ri q).1.conds (shardOf u) u, c.inst ≠ i := by
  refine ⟨c18_report_records_sum shardOf s u j ri q l h, ?_⟩
  obtain ⟨hl, upc, _, hupcn, e⟩ := report_ok shardOf s u j ri q l h
  rw [e]
  intro c hc
  obtain ⟨hmem, hcu, hcn⟩ := mem_summed _ _ _ _ hc
  rcases (mem_saveCond _ _ _ _).1 hmem with ⟨h1, _⟩ | h1
  · rcases (mem_saveCond _ _ _ _).1 h1 with ⟨h2, _⟩ | h2
    · intro hci
      have := hgone _ h2 hci
      simp only at this
      rw [hcu, hl] at this
      cases this
    · simp only [Prod.mk.injEq] at h2
      rw [h2.2]; exact hij
  · simp only [Prod.mk.injEq] at h1
    exact absurd (by rw [h1.2]; exact hupcn) hcn

/-- **Heartbeats are recorded**, and nobody else's entry changes. -/
theorem c18_heartbeat_recorded (s : State) (i : Inst) (t : Nat) : HeartbeatRecorded i t s (heartbeat s i t) :=
  heartbeat_recorded s i t

/-- **A report is recorded under the reporting id**: an answered report of `i` for `u` leaves a condition owned by `i`
    under `i`'s condition name (unless that name is the upstream state condition's, which the report rewrites last). With `c18_heartbeat_recorded` and `c18_acquire_recorded`: all three entry points key
    what they record by the id the client sent, so the passes compare like with like whatever the id looks like. -/
theorem c18_report_recorded (s : State) (u : Ups) (i : Inst) (ri : List (Str × Kind)) (q : List Item) (l : Str)
    (h : (report shardOf s u i ri q).2 = .reported l) : ReportRecorded shardOf u i (report shardOf s u i ri q).1 := by
  intro hne
  obtain ⟨_, upc, _, hn, e⟩ := report_ok shardOf s u i ri q l h
  rw [e]
  refine ⟨(shardOf u, ⟨condName u i, u, i, some l, q, []⟩), ?_, rfl, rfl, rfl, rfl⟩
  exact (mem_saveCond _ _ _ _).2 (Or.inl ⟨(mem_saveCond _ _ _ _).2 (Or.inr rfl), fun hk => hne (hk.2.2.trans hn)⟩)

/-- **An acquire is recorded under the acquiring id**: every request served by a max-in-flight flow control leaves an
    in-flight state of `i` there. -/
theorem c18_acquire_recorded (s : State) (u : Ups) (i : Inst) (rid : Int) (reqs : List (Str × Int))
    (rs : List (Str × Bool × Int × String)) (h : (acquire shardOf s u i rid reqs).2 = .acquired rs) :
    AcquireRecorded shardOf u i rs (acquire shardOf s u i rid reqs).1 := by
  rcases acquire_cases shardOf s u i rid reqs with ⟨e, he⟩ | he <;> rw [he] at h ⊢
  · cases h
  · cases h
    exact acquireLoop_inv (fun s acc => AcquireRecorded shardOf u i acc s) i rid (shardOf u) u
      (fun s acc rq h => acquireOne_recorded shardOf i rid u s rq acc h) reqs s [] (fun _ h => nomatch h)

/-- **A report of `j` removes nothing recorded for another instance**, except what is stored under `j`'s own
    condition name and the upstream state condition, which it rewrites. -/
theorem c18_report_keeps_others (s : State) (u : Ups) (j : Inst) (ri : List (Str × Kind)) (q : List Item) :
    OthersKept (some u) j s (report shardOf s u j ri q).1 := by
  rcases report_cases shardOf s u j ri q with ⟨e, he⟩ | ⟨l, upc, _, hu, hn, he⟩ <;> rw [he]
  · exact othersKept_refl _ j s
  · refine fun p hp _ => ⟨hp, fun r hr _ => ⟨r, hr, rfl, rfl, rfl, rfl⟩, fun r hr _ hnk => ?_⟩
    exact (mem_saveCond _ _ _ r).2 (Or.inl ⟨(mem_saveCond _ _ _ r).2 (Or.inl ⟨hr, fun hk =>
      hnk u rfl ⟨hk.2.1, Or.inl hk.2.2⟩⟩), fun hk => hnk u rfl ⟨hk.2.1.trans hu, Or.inr (hk.2.2.trans hn)⟩⟩)

/-- **An acquire of `j` removes nothing recorded for another instance.** -/
theorem c18_acquire_keeps_others (s : State) (u : Ups) (j : Inst) (rid : Int) (reqs : List (Str × Int)) :
    OthersKept none j s (acquire shardOf s u j rid reqs).1 :=
  acquire_inv shardOf (OthersKept none j s) s u j rid reqs
    (fun _ n cur ha => othersKept_mapFC _ u n _ (fun f => touches_setState f j rid cur) ha) (othersKept_refl _ j s)

/-- **A burst of parallel acquires of `j` removes nothing recorded for another instance.** -/
theorem c18_burst_keeps_others (s : State) (u : Ups) (j : Inst) (n : Str) (st : Option IState) :
    OthersKept none j s (burst shardOf s u j n st) :=
  burst_rule shardOf (OthersKept none j s) s u j n st
    (fun st' => othersKept_mapFC _ u n _ (fun f => touches_force f j st') (othersKept_refl _ j s)) (othersKept_refl _ j s)

/-! ## Upstream events and leadership changes -/

/-- **An upstream event** (`UpstreamConditionHandler`) for a listed upstream rewrites the upstream state condition and
    nothing else: every condition of every instance stays. -/
theorem c18_upstream_event_keeps_conditions (s : State) (u : Ups) : EventKeeps shardOf u s (handle shardOf s u) := by
  intro hl r hr hne
  apply handle_keeps_conds shardOf s u r hr
  intro h
  rcases h.2.2 with h1 | h1
  · rw [hl] at h1; cases h1
  · exact hne ⟨h.1, h.2.1, h1⟩

/-- **`leaderCheck`** takes nothing from the store of a shard this server still leads. -/
theorem c18_leaderCheck_keeps_led_stores (s : State) : LedStoresKept s (leaderCheck shardOf s) := by
  intro r hr hlead hstore
  refine leaderCheck_inv shardOf (fun st => r ∈ st.conds) s (fun _ h => h) (fun a u hu ha => ?_) (fun a sh hsh ha => ?_) hr
  · refine handle_keeps_conds shardOf a u r ha fun h => ?_
    rw [← h.1, hstore] at hu; cases hu
  · refine List.mem_filter.2 ⟨ha, bne_iff_ne.2 fun e => ?_⟩
    rw [← e, hlead] at hsh; cases hsh

/-- the elector and lister ops (`setLeader`, `list`, `unlist`) touch nothing that is recorded; of the others `faults` sets
    `failing` only, `apiDelete` and `wireRejected` leave the state as it is (`step`). -/
theorem c18_environment_ops_touch_nothing (s : State) (sh : Nat) (b : Bool) (u : Ups) (sc : List Schema) :
    ((setLeader s sh b).hb = s.hb ∧ (setLeader s sh b).conds = s.conds ∧ (setLeader s sh b).fcs = s.fcs) ∧
    ((list s u sc).hb = s.hb ∧ (list s u sc).conds = s.conds ∧ (list s u sc).fcs = s.fcs) ∧
    ((unlist s u).hb = s.hb ∧ (unlist s u).conds = s.conds ∧ (unlist s u).fcs = s.fcs) :=
  ⟨⟨rfl, rfl, rfl⟩, ⟨rfl, rfl, rfl⟩, ⟨rfl, rfl, rfl⟩⟩

/-! ## Histories -/

/-- **The unknown pass and an instance without heartbeat entry**: no condition of it is left in a shard this server leads
    (if no delete was refused). The last step of `c18_reclaim`; all it asks of `i` is `NoHb i s`. -/
theorem c18_unknown_pass_clears (s : State) (i : Inst) (hi : i ≠ []) (hno : NoHb i s) (hfail : s.failing = []) :
    NoCondLed shardOf i (cleanupUnknown shardOf s) := by
  intro r hr hri
  cases hl : isLeader (cleanupUnknown shardOf s) (shardOf r.2.upstream)
  · rfl
  · exfalso
    rcases (c18_unknown_pass_reclaims shardOf s).1 r hr hl with h | h | h
    · exact hi (hri ▸ h)
    · obtain ⟨p, hp, hpe⟩ := (hbHas_iff _ _).1 h
      exact hno p hp (hpe.trans hri)
    · have : (cleanupUnknown shardOf s).failing = [] := hfail
      rw [this] at h; cases h

/-- **Reclaim (`c18_reclaim`)**. Take ANY state `s0` (so: after any history), let `i` send its last heartbeat at `t0`,
    then let anything happen in which `i` takes no part (`ops2`), run a time-out pass at some `now > t0 + timeout`,
    let anything happen again without `i` (`ops3`, other instances may join, report, acquire, leadership may move,
    further passes may run at any time), run an unknown pass. Then
    * right after the time-out pass `i` has no heartbeat entry and no in-flight state in any store, and
    * after the unknown pass, additionally, no condition of `i` is left in any shard this server leads, provided no delete
      is being refused when that pass runs (`failing = []`: always so with the local store). -/
theorem c18_reclaim (s0 : State) (i : Inst) (t0 now : Nat) (ops2 ops3 : List Op)
    (hi : i ≠ []) (hq2 : Quiet i ops2) (hq3 : Quiet i ops3) (hnow : now > t0 + timeout) :
    let s3 := cleanupTimeout shardOf (run shardOf (heartbeat s0 i t0) ops2) now
    let s5 := cleanupUnknown shardOf (run shardOf s3 ops3)
    (NoHb i s3 ∧ NoState i s3) ∧
    (NoHb i s5 ∧ NoState i s5 ∧ ((run shardOf s3 ops3).failing = [] → NoCondLed shardOf i s5)) := by
  intro s3 s5
  have hforg3 : NoHb i s3 ∧ NoState i s3 := forgotten_after_timeout shardOf _ (lastSeen_heartbeat s0 i t0) now ops2 hq2 hnow
  have hforg4 := forgotten_run shardOf ops3 hq3 s3 hforg3
  exact ⟨hforg3, hforg4.1, step_noState shardOf _ .cleanupUnknown rfl hforg4.2,
    c18_unknown_pass_clears shardOf _ i hi hforg4.1⟩

/-- The same, spelled as one history from the initial state, for a server whose store never refuses a delete
    (no `faults` op: every history with the local store). -/
theorem c18_reclaim_history (ops1 ops2 ops3 : List Op) (i : Inst) (t0 now : Nat)
    (hi : i ≠ []) (hq2 : Quiet i ops2) (hq3 : Quiet i ops3) (hnow : now > t0 + timeout)
    (hnf : ∀ op ∈ ops1 ++ [Op.heartbeat i t0] ++ ops2 ++ [Op.cleanupTimeout now] ++ ops3, ∀ l, op ≠ .faults l) :
    let s := run shardOf init
      (ops1 ++ [Op.heartbeat i t0] ++ ops2 ++ [Op.cleanupTimeout now] ++ ops3 ++ [Op.cleanupUnknown])
    NoHb i s ∧ NoState i s ∧ NoCondLed shardOf i s := by
  intro s
  have h := (c18_reclaim shardOf (run shardOf init ops1) i t0 now ops2 ops3 hi hq2 hq3 hnow).2
  have hf := run_failing shardOf _ hnf init
  simp only [s, run_append] at hf ⊢
  exact ⟨h.1, h.2.1, h.2.2 hf⟩

/-! ## "Within the cleanup period"

The passes are ops of the model; WHEN they run is the tick schedule of `wait.Until` in `Run` (runtime, not modelled).
What is established here, from the regenerated source facts (found by role, not by spelling): a periodic timer started by
`Run` reaches the time-out pass with a period no longer than the time-out, another reaches the unknown pass.
If the ticks fire as scheduled, the time-out pass that reclaims the heartbeat entry,
the in-flight states and the labelled conditions runs at most `timeout + timeoutPassPeriodMs` after the last
heartbeat, and the unknown pass that reclaims the remaining (once-reported, unlabelled) conditions at most
`unknownPassPeriodMs` later. (The fourth conjunct below, `0 < timeout`, follows from the first two.) -/

theorem c18_passes_are_scheduled :
    0 < KG.Gen.C18.timeoutPassPeriodMs ∧ KG.Gen.C18.timeoutPassPeriodMs ≤ timeout ∧
    0 < KG.Gen.C18.unknownPassPeriodMs ∧ 0 < timeout := by decide

/-- any time-out pass in the window `(t0 + timeout, ∞)` reclaims: in particular the first scheduled one, which is at
    most one `timeoutPassPeriodMs` after `t0 + timeout`. -/
theorem c18_first_tick_after_timeout_reclaims (s0 : State) (i : Inst) (t0 tick : Nat) (ops2 : List Op)
    (hq2 : Quiet i ops2) (htick : t0 + timeout < tick) (_hsoon : tick ≤ t0 + timeout + KG.Gen.C18.timeoutPassPeriodMs) :
    let s3 := cleanupTimeout shardOf (run shardOf (heartbeat s0 i t0) ops2) tick
    NoHb i s3 ∧ NoState i s3 :=
  forgotten_after_timeout shardOf _ (lastSeen_heartbeat s0 i t0) tick ops2 hq2 htick

/-! ## Histories: live instances, returning instances -/

/-- **Live instances are left alone (`c18_live_safe`)**: in EVERY history, at every clean-up pass, whatever its timing:
    the time-out pass at `now` takes nothing from an instance none of whose heartbeats is older than the time-out at
    `now`; the unknown pass takes nothing (in listed upstreams) from an instance that has a heartbeat entry. -/
theorem c18_live_safe (ops : List Op) (now : Nat) :
    LiveSafeTimeout now (run shardOf init ops) (run shardOf init (ops ++ [Op.cleanupTimeout now])) ∧
    LiveSafeUnknown (run shardOf init ops) (run shardOf init (ops ++ [Op.cleanupUnknown])) := by
  rw [run_append, run_append]
  exact ⟨c18_live_safe_timeout_pass shardOf _ now, c18_live_safe_unknown_pass shardOf _⟩

/-- **Return with a new identity**: the old identity `i` goes silent and is timed out,
    the gateway comes back as `i' ≠ i` (heartbeats, reports, acquires of `i'` are part of `opsA`, `opsB`, like anything else
    that is not an action of `i`): after the next unknown pass nothing of the old identity is left (conditions: if no
    delete is being refused then, as in `c18_reclaim`), and that pass took nothing, in listed upstreams, from an instance
    that has a heartbeat entry — from `i'`, if it still has one. -/
theorem c18_return_new_identity (s0 : State) (i i' : Inst) (t0 now t1 : Nat) (ops2 opsA opsB : List Op)
    (hi : i ≠ []) (hne : i' ≠ i) (hq2 : Quiet i ops2) (hqA : Quiet i opsA) (hqB : Quiet i opsB)
    (hnow : now > t0 + timeout) :
    let s3 := cleanupTimeout shardOf (run shardOf (heartbeat s0 i t0) ops2) now
    let s4 := run shardOf s3 (opsA ++ [Op.heartbeat i' t1] ++ opsB)
    let s5 := cleanupUnknown shardOf s4
    (NoHb i s5 ∧ NoState i s5 ∧ (s4.failing = [] → NoCondLed shardOf i s5)) ∧ LiveSafeUnknown s4 s5 := by
  intro s3 s4 s5
  have hq3 : Quiet i (opsA ++ [Op.heartbeat i' t1] ++ opsB) := by
    intro op hop
    simp only [List.mem_append, List.mem_singleton] at hop
    rcases hop with (h | h) | h
    · exact hqA op h
    · subst h; simp [Op.isBy, hne]
    · exact hqB op h
  exact ⟨(c18_reclaim shardOf s0 i t0 now ops2 _ hi hq2 hq3 hnow).2, c18_live_safe_unknown_pass shardOf s4⟩

/-- **Return with the old identity**: once the time-out pass has forgotten `i`
    (`NoState i s`: see `c18_reclaim`; it stays so while `i` is silent), the first acquire of the returning `i` on a flow
    control is never refused as `RequestIDTooOld`, whatever request id it restarts from: no stale request id and no
    stale in-flight count of the old incarnation is left to compare with. -/
theorem c18_return_old_identity (s : State) (i : Inst) (rid : Int) (sh : Nat) (u : Ups) (rq : Str × Int)
    (hgone : NoState i s) : (acquireOne i rid sh u s rq).2.2.2.2 ≠ "tooOld" := by
  rcases acquireOne_cases i rid sh u s rq with ⟨e, h, _, he⟩ | ⟨x, hx, _, hm, _, _, _, err, h, hold⟩ <;> rw [h]
  · exact he
  · intro herr
    have := hold herr
    rw [(getState_none_iff x.2.2 i).2 (hgone x hx hm)] at this
    exact absurd (Int.lt_of_lt_of_le this.1 this.2) (by decide)

/-! ## What is forgotten is given back -/

/-- **In every history** the total of every global max-in-flight flow control is the int32 sum of the counts it records
    per instance. Together with `c18_reclaim` (no state of the dead instance is recorded any more) this is
    "the in-flight requests it had counted for it are forgotten, the freed capacity is available to the others". -/
theorem c18_counts_consistent (ops : List Op) : CountsConsistent (run shardOf init ops) := by
  intro r hr hm
  exact ((run_allFC shardOf closed_good ops init (fun r hr => by cases hr)) r hr hm).2

theorem c18_drop_gives_back (f : FC) (i : Inst) (st : IState) (hm : f.isMif = true) (h : f.getState i = some st) :
    (f.drop i).count = toI32 (f.count - st.count) ∧ (f.drop i).getState i = none := by
  refine ⟨?_, drop_getState_self f i hm⟩
  rw [drop_some hm h]
  show toI32 (f.count + toI32 (-st.count)) = toI32 (f.count - st.count)
  unfold toI32; omega

/-! ## The judge never fires on the model -/

theorem c18_judgeState_sound (ops : List Op) : judgeState (run shardOf init ops) = [] := by
  simp [judgeState, c18_counts_consistent]

/-- `judgeStep` — the function the harness evaluates on the states observed on the real code — answers "no violation"
    for every step of the model from every state. -/
theorem c18_judge_sound (s : State) (op : Op) :
    judgeStep shardOf s op (step shardOf s op).2 (step shardOf s op).1 = [] := by
  cases op with
  | heartbeat i t => simp [judgeStep, step, c18_heartbeat_recorded]
  | report u j ri q =>
    have h2 := c18_report_keeps_others shardOf s u j ri q
    rcases report_cases shardOf s u j ri q with ⟨e, he⟩ | ⟨l, upc, _, _, _, he⟩
    · have he' : (report shardOf s u j ri q).2 = .err e := by rw [he]
      simp [judgeStep, step, he', Out.isOk, h2]
    · have hl : (report shardOf s u j ri q).2 = .reported l := by rw [he]
      have h1 := c18_report_records_sum shardOf s u j ri q l hl
      have h3 := c18_report_recorded shardOf s u j ri q l hl
      simp [judgeStep, step, hl, Out.isOk, h1, h2, h3]
  | acquire u j rid reqs =>
    have h2 := c18_acquire_keeps_others shardOf s u j rid reqs
    cases hout : (acquire shardOf s u j rid reqs).2 with
    | acquired rs =>
      have h3 := c18_acquire_recorded shardOf s u j rid reqs rs hout
      simp [judgeStep, step, hout, h2, h3]
    | unit => simp [judgeStep, step, hout, h2]
    | err e => simp [judgeStep, step, hout, h2]
    | reported l => simp [judgeStep, step, hout, h2]
  | cleanupTimeout now =>
    simp [judgeStep, step, c18_timeout_pass_reclaims, c18_live_safe_timeout_pass,
      (c18_passes_respect_leadership shardOf s).1 now]
  | cleanupUnknown =>
    simp [judgeStep, step, c18_unknown_pass_reclaims, c18_live_safe_unknown_pass,
      (c18_passes_respect_leadership shardOf s).2]
  | setLeader sh b => rfl
  | leaderCheck => simp [judgeStep, step, c18_leaderCheck_keeps_led_stores]
  | list u sc => rfl
  | unlist u => rfl
  | handle u => simp [judgeStep, step, c18_upstream_event_keeps_conditions]
  | burst u j n st => simp [judgeStep, step, c18_burst_keeps_others]
  | faults names => rfl
  | apiDelete name => rfl
  | wireRejected => rfl

/-! ## Non-vacuity: a concrete history in which something IS recorded, reclaimed and kept

One shard, upstream `u` with the global max-in-flight schema `f` (max 10), the instance `d` ("dies") and `l` ("lives").
-/
section nonvacuous

private def u : Ups := [117]
private def fcN : Str := [102]
private def d : Inst := [100]
private def l : Inst := [108]
private def sh0 : Ups → Nat := fun _ => 0

private def setup : List Op :=
  [.setLeader 0 true, .list u [⟨fcN, some 10, none⟩], .leaderCheck,
   .heartbeat l 1000, .heartbeat d 1000,
   .report u d [(fcN, .mif)] [⟨fcN, some 3, none⟩], .report u d [(fcN, .mif)] [⟨fcN, some 3, none⟩],
   .report u l [(fcN, .mif)] [⟨fcN, some 4, none⟩],
   .acquire u d 1 [(fcN, 2)], .acquire u l 1 [(fcN, 5)]]

/-- only `l` acts (`d`'s last heartbeat, at 2000, is in `sA`) -/
private def quiet2 : List Op := [.heartbeat l 4000, .heartbeat l 5500, .acquire u l 2 [(fcN, 6)]]
private def quiet3 : List Op := [.heartbeat l 6000, .report u l [(fcN, .mif)] [⟨fcN, some 5, none⟩]]

private def sA : State := run sh0 (heartbeat (run sh0 init setup) d 2000) quiet2
private def sB : State := cleanupTimeout sh0 sA 5600
private def sC : State := cleanupUnknown sh0 (run sh0 sB quiet3)

-- the hypotheses of `c18_reclaim` hold …
example : d ≠ [] ∧ Quiet d quiet2 ∧ Quiet d quiet3 ∧ 5600 > 2000 + timeout := by decide +kernel
-- … before the pass `d` has a heartbeat entry, a labelled condition and an in-flight state (count 2 of a total 8) …
example : ¬ NoHb d sA ∧ ¬ NoState d sA ∧ ¬ NoCondLed sh0 d sA ∧ DeadAt 5600 sA d ∧ LiveAt 5600 sA l := by decide +kernel
example : (sA.fcs.map fun r => (r.2.2.count, r.2.2.states.map fun p => (p.1, p.2.count))) = [(8, [(d, 2), (l, 6)])] := by
  decide +kernel
-- … afterwards nothing of `d` is left, `l` kept its entry, its condition and its in-flight state, total = 6 …
example : NoHb d sB ∧ NoState d sB ∧ NoCondLed sh0 d sB := by decide +kernel
example : (sB.fcs.map fun r => (r.2.2.count, r.2.2.states.map fun p => (p.1, p.2.count))) = [(6, [(l, 6)])] := by decide +kernel
example : (sB.conds.map fun r => r.2.inst) = [l, []] ∧ (sB.hb.map (·.1)) = [l] := by decide +kernel
-- … and after `l`'s next report the recorded sum is `l`'s quota alone (it was 3 + 4 before).
example : (sA.conds.filter (fun r => r.2.name == stateName u)).map (fun r => r.2.status) = [[⟨fcN, some 7, none⟩]] := by
  decide +kernel
example : (sC.conds.filter (fun r => r.2.name == stateName u)).map (fun r => r.2.status) = [[⟨fcN, some 5, none⟩]] := by
  decide +kernel

/-- a once-reported condition carries the empty label: it is reclaimed by the unknown pass, not by the time-out pass. -/
example :
    let s := run sh0 init [.setLeader 0 true, .list u [⟨fcN, some 10, none⟩], .leaderCheck, .heartbeat d 0,
      .report u d [(fcN, .mif)] [⟨fcN, some 3, none⟩]]
    (s.conds.filter (fun r => r.2.inst == d)).map (fun r => r.2.label) = [some []] ∧
    ¬ NoCondLed sh0 d (cleanupTimeout sh0 s 9000) ∧ NoCondLed sh0 d (cleanupUnknown sh0 (cleanupTimeout sh0 s 9000)) := by
  decide +kernel

/-- the scenario of the repaired defect (findings/C18-invalid-label-selects-everything), in the model: the dead
    instance's id holds ':' — the live instance's condition is kept. -/
example :
    let dc : Inst := [49, 58, 50]   -- "1:2"
    let s := run sh0 init [.setLeader 0 true, .list u [⟨fcN, some 10, none⟩], .leaderCheck, .heartbeat dc 0, .heartbeat l 0,
      .report u dc [(fcN, .mif)] [⟨fcN, some 3, none⟩], .report u dc [(fcN, .mif)] [⟨fcN, some 3, none⟩],
      .report u l [(fcN, .mif)] [⟨fcN, some 4, none⟩], .report u l [(fcN, .mif)] [⟨fcN, some 4, none⟩],
      .heartbeat l 3500]
    ((cleanupTimeout sh0 s 4000).conds.map fun r => r.2.inst) = [l, []] := by
  decide +kernel

/-- API-backed store: a refused delete only postpones. `d` reported twice (labelled condition), dies; while the API
    refuses the delete of its condition both passes leave it (and say so: `failing`), the first answered pass removes it. -/
example :
    let nm := condName u d
    let s := run sh0 init [.setLeader 0 true, .list u [⟨fcN, some 10, none⟩], .leaderCheck, .heartbeat d 0,
      .report u d [(fcN, .mif)] [⟨fcN, some 3, none⟩], .report u d [(fcN, .mif)] [⟨fcN, some 3, none⟩],
      .faults [nm], .cleanupTimeout 9000, .cleanupUnknown]
    ¬ NoCondLed sh0 d s ∧ NoHb d s ∧ NoCondLed sh0 d (run sh0 s [.faults [], .cleanupUnknown]) := by
  decide +kernel

/-- a burst of parallel first acquires that ended with count 3 / request id 8 for `d`, then `d` dies: the total goes
    back to what the others hold. -/
example :
    let s := run sh0 init [.setLeader 0 true, .list u [⟨fcN, some 10, none⟩], .leaderCheck, .heartbeat d 0, .heartbeat l 0,
      .acquire u l 1 [(fcN, 2)], .burst u d fcN (some ⟨3, 8⟩)]
    (s.fcs.map fun r => (r.2.2.count, r.2.2.states.map fun p => (p.1, p.2.count))) = [(5, [(l, 2), (d, 3)])] ∧
    ((run sh0 s [.heartbeat l 3500, .cleanupTimeout 4000]).fcs.map fun r => (r.2.2.count, r.2.2.states.map fun p => (p.1, p.2.count)))
      = [(2, [(l, 2)])] := by
  decide +kernel

end nonvacuous

end KG.Props.C18
