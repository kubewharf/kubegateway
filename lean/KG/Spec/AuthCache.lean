import KG.Model.AuthCache
/-!
# C12 as a judge on observations

An *observation* is what can be seen of one finished request from outside the authenticator / authorizer:
the cluster instance the request's host resolved to when the request arrived (`own`), whether that cluster had a
ready endpoint then (`ownReady`), the credentials / attributes, the answer, the time, and whether a review was
sent during the request (`reviewed`). The judge says where the answer may have come from:

* no cluster, or no ready endpoint: the fixed error (not authenticated / `decisionOnError`), nothing was asked;
* a review was sent: the answer is what the request's OWN cluster says now (an error of the cluster is an error);
* no review was sent: an error that is not an upstream error (e.g. `moved`: the host changed hands while the request
  was processed), or what the request's OWN cluster said for the same
  token / spec at some earlier time that is still within the TTL of that answer.

No other cluster's oracle occurs in the judge: an answer that only another cluster gave is rejected.
`TokJudge`/`SarJudge` are the properties (`Prop`, about every earlier time); `tokJudge`/`sarJudge` are the
executable versions that search a finite list of candidate times, proved sound (`tokJudge_sound`, `sarJudge_sound`).
The theorems in `KG.Props.C12` show that every answer of the model satisfies `TokJudge`/`SarJudge`; the harness applies
`tokJudge`/`sarJudge` to the answers of the real code.
-/
namespace KG.Spec.AuthCache
open KG KG.Model.AuthCache

structure TokObs where
  own : Option Inst
  ownReady : Bool
  tok : Str
  res : TokRes
  time : Time
  reviewed : Bool
deriving Repr

structure SarObs where
  own : Option Inst
  ownReady : Bool
  attrs : Attrs
  res : SarRes
  time : Time
  reviewed : Bool
deriving Repr

/-- the answer `c` gave at `t'` is still usable at `time` (`Expiring`: `now < stored + ttl`), never an error -/
def tokCachedAt (env : Env) (c : Inst) (o : TokObs) (t' : Time) : Prop :=
  t' ≤ o.time ∧ env.tokO c o.tok t' ≠ .err ∧ o.res = (env.tokO c o.tok t').res ∧
    o.time < t' + tokTTL env.cfg (env.tokO c o.tok t')

def TokJudge (env : Env) (o : TokObs) : Prop :=
  match o.own with
  | none => o.res = .error .notFound ∧ o.reviewed = false
  | some c =>
    if o.ownReady = false then o.res = .error .noReady ∧ o.reviewed = false
    else if o.reviewed then o.res = (env.tokO c o.tok o.time).res
    else (o.res.isError = true ∧ o.res ≠ .error .upstream) ∨ ∃ t', tokCachedAt env c o t'

/-- `LRUExpireCache`: live while `now ≤ stored + ttl` (the look-up is not guarded by `shouldCache`, only the store is) -/
def sarCachedAt (env : Env) (c : Inst) (o : SarObs) (t' : Time) : Prop :=
  t' ≤ o.time ∧
    ∃ st, env.sarO c (specOf o.attrs) t' = .status st ∧ o.res = decideStatus st ∧ o.time ≤ t' + sarTTL env.cfg st

def SarJudge (env : Env) (o : SarObs) : Prop :=
  (o.res.err ≠ none → o.res.decision = .deny) ∧
  match o.own with
  | none => o.res = sarErr .notFound ∧ o.reviewed = false
  | some c =>
    if o.ownReady = false then o.res = sarErr .noReady ∧ o.reviewed = false
    else if o.reviewed then o.res = (env.sarO c (specOf o.attrs) o.time).res
    else o.res = sarErr .moved ∨ ∃ t', sarCachedAt env c o t'

/-- the cluster of `host` has a ready endpoint -/
def ownReady (s : State) (host : Str) : Bool :=
  match mgrGet s.mgr host with
  | none => false
  | some c => !(readyOf s c).isEmpty

/-! ## executable versions -/

def tokCachedAtB (env : Env) (c : Inst) (o : TokObs) (t' : Time) : Bool :=
  decide (t' ≤ o.time) && decide (env.tokO c o.tok t' ≠ .err) && decide (o.res = (env.tokO c o.tok t').res) &&
    decide (o.time < t' + tokTTL env.cfg (env.tokO c o.tok t'))

def tokJudge (env : Env) (cands : List Time) (o : TokObs) : Bool :=
  match o.own with
  | none => decide (o.res = .error .notFound) && !o.reviewed
  | some c =>
    if o.ownReady = false then decide (o.res = .error .noReady) && !o.reviewed
    else if o.reviewed then decide (o.res = (env.tokO c o.tok o.time).res)
    else (o.res.isError && decide (o.res ≠ .error .upstream)) || cands.any (tokCachedAtB env c o)

def sarCachedAtB (env : Env) (c : Inst) (o : SarObs) (t' : Time) : Bool :=
  decide (t' ≤ o.time) &&
    match env.sarO c (specOf o.attrs) t' with
    | .status st => decide (o.res = decideStatus st) && decide (o.time ≤ t' + sarTTL env.cfg st)
    | .err => false

def sarJudge (env : Env) (cands : List Time) (o : SarObs) : Bool :=
  (o.res.err.isNone || decide (o.res.decision = .deny)) &&
  match o.own with
  | none => decide (o.res = sarErr .notFound) && !o.reviewed
  | some c =>
    if o.ownReady = false then decide (o.res = sarErr .noReady) && !o.reviewed
    else if o.reviewed then decide (o.res = (env.sarO c (specOf o.attrs) o.time).res)
    else decide (o.res = sarErr .moved) || cands.any (sarCachedAtB env c o)

/-! ## the skeleton of the judges

All judges have one skeleton: what is demanded depends on whether the host had a cluster, whether that cluster had a
ready endpoint, and whether a review was sent. -/

theorem judge_cases {β} (P : β → Prop) {own : Option Inst} {ready reviewed : Bool} {a : β} {b c d : Inst → β}
    (h : P (match own with
      | none => a
      | some x => if ready = false then b x else if reviewed then c x else d x)) :
    match (generalizing := false) own with
    | none => P a
    | some x => if ready = false then P (b x) else if reviewed then P (c x) else P (d x) := by
  cases own with
  | none => exact h
  | some x => cases ready <;> cases reviewed <;> exact h

theorem judge_mono {own : Option Inst} {ready reviewed : Bool} {A A' : Prop} {B B' C C' D D' : Inst → Prop}
    (h : match own with
      | none => A
      | some x => if ready = false then B x else if reviewed then C x else D x)
    (hA : A → A') (hB : ∀ x, B x → B' x) (hC : ∀ x, C x → C' x) (hD : ∀ x, D x → D' x) :
    match (generalizing := false) own with
    | none => A'
    | some x => if ready = false then B' x else if reviewed then C' x else D' x := by
  cases own with
  | none => exact hA h
  | some x =>
    cases ready <;> cases reviewed
    · exact hB x h
    · exact hB x h
    · exact hD x h
    · exact hC x h

/-! ## what the judges imply -/

theorem TokJudge.fail_closed {env : Env} {o : TokObs} (h : TokJudge env o) (hr : o.ownReady = false) :
    (o.res = .error .notFound ∨ o.res = .error .noReady) ∧ o.reviewed = false := by
  unfold TokJudge at h
  split at h
  · exact ⟨.inl h.1, h.2⟩
  · rw [if_pos hr] at h
    exact ⟨.inr h.1, h.2⟩

theorem SarJudge.fail_closed {env : Env} {o : SarObs} (h : SarJudge env o) (hr : o.ownReady = false) :
    o.res.decision = .deny ∧ (o.res.err = some .notFound ∨ o.res.err = some .noReady) ∧ o.reviewed = false := by
  have hk : ∀ {k}, o.res = sarErr k → o.res.decision = .deny ∧ o.res.err = some k := fun e =>
    ⟨h.1 (e ▸ nofun), e ▸ rfl⟩
  have h := h.2
  split at h
  · exact ⟨(hk h.1).1, .inl (hk h.1).2, h.2⟩
  · rw [if_pos hr] at h
    exact ⟨(hk h.1).1, .inr (hk h.1).2, h.2⟩

theorem TokJudge.own_answer {env : Env} {o : TokObs} (h : TokJudge env o) (hne : o.res.isError = false) :
    ∃ c, o.own = some c ∧ ∃ t', t' ≤ o.time ∧ o.res = (env.tokO c o.tok t').res ∧
      (t' = o.time ∨ o.time < t' + tokTTL env.cfg (env.tokO c o.tok t')) := by
  unfold TokJudge at h
  split at h
  · rw [h.1] at hne
    cases hne
  · rename_i c hc
    refine ⟨c, hc, ?_⟩
    split at h
    · rw [h.1] at hne
      cases hne
    · split at h
      · exact ⟨o.time, Nat.le_refl _, h, .inl rfl⟩
      · cases h with
        | inl h => exact absurd h.1 (by rw [hne]; nofun)
        | inr h =>
          obtain ⟨t', h1, _, h3, h4⟩ := h
          exact ⟨t', h1, h3, .inr h4⟩

theorem SarJudge.own_answer {env : Env} {o : SarObs} (h : SarJudge env o) (hne : o.res.err = none) :
    ∃ c, o.own = some c ∧ ∃ t', sarCachedAt env c o t' := by
  have herr : ∀ k, o.res ≠ sarErr k := fun k e => by rw [e] at hne; cases hne
  have h := h.2
  split at h
  · exact absurd h.1 (herr _)
  · rename_i c hc
    refine ⟨c, hc, ?_⟩
    split at h
    · exact absurd h.1 (herr _)
    · split at h
      · cases hans : env.sarO c (specOf o.attrs) o.time with
        | err =>
          rw [hans] at h
          exact absurd h (herr _)
        | status st =>
          rw [hans] at h
          exact ⟨o.time, Nat.le_refl _, st, hans, h, Nat.le_add_right _ _⟩
      · exact h.resolve_left (herr _)

/-! ## the judge applied to the IMPLEMENTATION: only what the property demands

`TokJudge`/`SarJudge` describe the model exactly (which error in which situation). The property itself only demands that a
request that cannot be served by its own cluster is refused; it does not say with which error, and refusing more often
(a stricter implementation) never breaks it. `TokJudgeR`/`SarJudgeR` are implied by the exact judges
(`TokJudge.relax`, `SarJudge.relax`) and are what the harness evaluates on the real answers:

* no cluster / no ready endpoint: some error (deny), nothing asked;
* a review was sent: the answer the request's own cluster gives now — or a refusal;
* no review: a refusal that is not an upstream error (an upstream error without a review is a cached error), or what the
  request's own cluster said earlier, still within the TTL. Errors always deny. -/

def TokJudgeR (env : Env) (o : TokObs) : Prop :=
  match o.own with
  | none => o.res.isError = true ∧ o.reviewed = false
  | some c =>
    if o.ownReady = false then o.res.isError = true ∧ o.reviewed = false
    else if o.reviewed then o.res = (env.tokO c o.tok o.time).res ∨ o.res.isError = true
    else (o.res.isError = true ∧ o.res ≠ .error .upstream) ∨ ∃ t', tokCachedAt env c o t'

def SarJudgeR (env : Env) (o : SarObs) : Prop :=
  (o.res.err ≠ none → o.res.decision = .deny) ∧
  match o.own with
  | none => o.res.err ≠ none ∧ o.reviewed = false
  | some c =>
    if o.ownReady = false then o.res.err ≠ none ∧ o.reviewed = false
    else if o.reviewed then o.res = (env.sarO c (specOf o.attrs) o.time).res ∨ o.res.err ≠ none
    else (o.res.err ≠ none ∧ o.res.err ≠ some .upstream) ∨ ∃ t', sarCachedAt env c o t'

theorem TokJudge.relax {env : Env} {o : TokObs} (h : TokJudge env o) : TokJudgeR env o :=
  judge_mono h (fun h => ⟨h.1 ▸ rfl, h.2⟩) (fun _ h => ⟨h.1 ▸ rfl, h.2⟩) (fun _ => .inl) fun _ => id

theorem SarJudge.relax {env : Env} {o : SarObs} (h : SarJudge env o) : SarJudgeR env o :=
  have hne : ∀ {k}, o.res = sarErr k → o.res.err ≠ none := fun e => e ▸ nofun
  ⟨h.1, judge_mono h.2 (fun h => ⟨hne h.1, h.2⟩) (fun _ h => ⟨hne h.1, h.2⟩) (fun _ => .inl) fun _ h =>
    h.imp_left fun e => ⟨hne e, by rw [e]; simp [sarErr]⟩⟩

def tokJudgeR (env : Env) (cands : List Time) (o : TokObs) : Bool :=
  match o.own with
  | none => o.res.isError && !o.reviewed
  | some c =>
    if o.ownReady = false then o.res.isError && !o.reviewed
    else if o.reviewed then decide (o.res = (env.tokO c o.tok o.time).res) || o.res.isError
    else (o.res.isError && decide (o.res ≠ .error .upstream)) || cands.any (tokCachedAtB env c o)

def sarJudgeR (env : Env) (cands : List Time) (o : SarObs) : Bool :=
  (o.res.err.isNone || decide (o.res.decision = .deny)) &&
  match o.own with
  | none => o.res.err.isSome && !o.reviewed
  | some c =>
    if o.ownReady = false then o.res.err.isSome && !o.reviewed
    else if o.reviewed then decide (o.res = (env.sarO c (specOf o.attrs) o.time).res) || o.res.err.isSome
    else (o.res.err.isSome && decide (o.res.err ≠ some .upstream)) || cands.any (sarCachedAtB env c o)

/-! ## soundness of the executable versions -/

theorem exists_of_any {α} {p : α → Bool} {P : α → Prop} (hp : ∀ a, p a = true → P a) {l : List α} (h : l.any p = true) :
    ∃ a, P a :=
  have ⟨a, _, ha⟩ := List.any_eq_true.1 h
  ⟨a, hp a ha⟩

theorem tokCachedAtB_sound (env : Env) (c : Inst) (o : TokObs) (t' : Time)
    (h : tokCachedAtB env c o t' = true) : tokCachedAt env c o t' := by
  simp only [tokCachedAtB, Bool.and_eq_true, decide_eq_true_eq] at h
  exact ⟨h.1.1.1, h.1.1.2, h.1.2, h.2⟩

/-- the clause for an answer given without a review is the same in `tokJudge` and `tokJudgeR` -/
theorem tokUnreviewed_sound {env : Env} {cands : List Time} {o : TokObs} {c : Inst}
    (h : (o.res.isError && decide (o.res ≠ .error .upstream) || cands.any (tokCachedAtB env c o)) = true) :
    (o.res.isError = true ∧ o.res ≠ .error .upstream) ∨ ∃ t', tokCachedAt env c o t' :=
  (Bool.or_eq_true _ _ ▸ h).imp (by simp) (exists_of_any (tokCachedAtB_sound env c o))

theorem tokJudge_sound (env : Env) (cands : List Time) (o : TokObs) (h : tokJudge env cands o = true) :
    TokJudge env o := by
  refine judge_mono (judge_cases (· = true) h) ?_ ?_ ?_ fun _ => tokUnreviewed_sound
  · simp
  · simp
  · simp

theorem tokJudgeR_sound (env : Env) (cands : List Time) (o : TokObs) (h : tokJudgeR env cands o = true) :
    TokJudgeR env o := by
  refine judge_mono (judge_cases (· = true) h) ?_ ?_ ?_ fun _ => tokUnreviewed_sound
  · simp
  · simp
  · simp

theorem sarCachedAtB_sound (env : Env) (c : Inst) (o : SarObs) (t' : Time)
    (h : sarCachedAtB env c o t' = true) : sarCachedAt env c o t' := by
  unfold sarCachedAtB at h
  rw [Bool.and_eq_true] at h
  obtain ⟨h1, h3⟩ := h
  refine ⟨by simpa using h1, ?_⟩
  split at h3
  · rename_i st hst
    rw [Bool.and_eq_true] at h3
    exact ⟨st, hst, by simpa using h3.1, by simpa using h3.2⟩
  · cases h3

/-- the first clause of `sarJudge` and `sarJudgeR` -/
theorem errDeny_sound {r : SarRes} (h : (r.err.isNone || decide (r.decision = .deny)) = true) :
    r.err ≠ none → r.decision = .deny := by
  cases hx : r.err <;> simp_all

theorem sarJudge_sound (env : Env) (cands : List Time) (o : SarObs) (h : sarJudge env cands o = true) :
    SarJudge env o := by
  obtain ⟨he, h⟩ := (Bool.and_eq_true _ _ ▸ h : _ ∧ _)
  refine ⟨errDeny_sound he, judge_mono (judge_cases (· = true) h) ?_ ?_ ?_ fun c h => ?_⟩
  · simp
  · simp
  · simp
  · exact (Bool.or_eq_true _ _ ▸ h).imp (by simp) (exists_of_any (sarCachedAtB_sound env c o))

theorem sarJudgeR_sound (env : Env) (cands : List Time) (o : SarObs) (h : sarJudgeR env cands o = true) :
    SarJudgeR env o := by
  obtain ⟨he, h⟩ := (Bool.and_eq_true _ _ ▸ h : _ ∧ _)
  refine ⟨errDeny_sound he, judge_mono (judge_cases (· = true) h) ?_ ?_ ?_ fun c h => ?_⟩
  · simp [Option.isSome_iff_ne_none]
  · simp [Option.isSome_iff_ne_none]
  · simp [Option.isSome_iff_ne_none]
  · exact (Bool.or_eq_true _ _ ▸ h).imp (by simp [Option.isSome_iff_ne_none]) (exists_of_any (sarCachedAtB_sound env c o))

end KG.Spec.AuthCache
