import KG.Model.Names
/-!
# C10 — the property as predicates on manager states (the "judge")

`Inv` is the state invariant, `Frame`/`Unchanged`/`Deleted`/`Applied` are the per-event obligations, `Mirror`
is the top-level statement for admissible histories ("host H is served by cluster C iff H is one of the names
the current object of C claims"). Every predicate has a Boolean twin (`invB`, `stepB`, `mirrorB`, `tlsB`) that
the harness evaluates on the state observed on the REAL controller; `KG.Props.C10` proves that the model
satisfies the Prop versions for every history, `KG.Lemmas.Names` that the Prop versions imply the Boolean ones.
-/
namespace KG.Spec.Names
open KG KG.Model.Names

section
variable (lower : Str → Str)

/-- `Cluster` of the `ClusterInfo` key `k` resolves to (raw key, no lower-casing). -/
def clusterAt (m : Mgr) (k : Str) : Option Str :=
  match m.look k with
  | none => none
  | some p => (m.heap[p]?).map (·.cluster)

/-- The state invariant.
* `wf`    : no dangling pointer;
* `mem`   : a key that resolves to a `ClusterInfo` is one of its current server names      (DESIGN (ii));
* `all`   : every current server name of a served `ClusterInfo` resolves to it            (DESIGN (iii));
* `low`   : `Cluster` is lower-cased;
* `alive` : a served `ClusterInfo` is not stopped;
* `swf`   : only existing `ClusterInfo`s are stopped.
  ((i) "the map is a function" holds by construction: `look` is a function.) -/
structure Inv (m : Mgr) : Prop where
  wf : ∀ k p, m.look k = some p → ∃ ci, m.heap[p]? = some ci
  mem : ∀ k p ci, m.look k = some p → m.heap[p]? = some ci → k ∈ loadServerNames lower ci
  all : ∀ k p ci, m.look k = some p → m.heap[p]? = some ci → ∀ n ∈ loadServerNames lower ci, m.look n = some p
  low : ∀ (p : Nat) (ci : CI), m.heap[p]? = some ci → lower ci.cluster = ci.cluster
  alive : ∀ k p, m.look k = some p → p ∉ m.stopped
  swf : ∀ p, p ∈ m.stopped → ∃ ci, m.heap[p]? = some ci

def invB (m : Mgr) : Bool :=
  (m.map.all fun e =>
    match m.look e.1 with
    | none => true
    | some p =>
      match m.heap[p]? with
      | none => false
      | some ci =>
        decide (e.1 ∈ loadServerNames lower ci)
        && (loadServerNames lower ci).all (fun n => decide (m.look n = some p))
        && !(decide (p ∈ m.stopped)))
  && (m.heap.all fun ci => decide (lower ci.cluster = ci.cluster))
  && m.stopped.all fun p => decide (p < m.heap.length)

/-- An event for cluster `c` leaves every name held by another cluster alone (same `ClusterInfo`, same content,
    same running state), and every key whose mapping changed belonged to `c` before or belongs to `c` afterwards. -/
structure Frame (c : Str) (m m' : Mgr) : Prop where
  keep : ∀ k p ci, m.look k = some p → m.heap[p]? = some ci → ci.cluster ≠ c →
          m'.look k = some p ∧ m'.heap[p]? = some ci ∧ (p ∈ m'.stopped ↔ p ∈ m.stopped)
  only : ∀ k, m'.look k = m.look k ∨ clusterAt m' k = some c ∨ clusterAt m k = some c
  back : ∀ k p ci, m'.look k = some p → m'.heap[p]? = some ci → ci.cluster ≠ c →
          m.look k = some p ∧ m.heap[p]? = some ci

def frameB (c : Str) (m m' : Mgr) : Bool :=
  (m.map.all fun e =>
    match m.look e.1 with
    | none => true
    | some p =>
      match m.heap[p]? with
      | none => true
      | some ci =>
        decide (ci.cluster = c) ||
        (decide (m'.look e.1 = some p) && decide (m'.heap[p]? = some ci)
          && (decide (p ∈ m'.stopped) == decide (p ∈ m.stopped))))
  && (m'.map.all fun e => decide (m'.look e.1 = m.look e.1) || decide (clusterAt m' e.1 = some c)
        || decide (clusterAt m e.1 = some c))
  && (m.map.all fun e => decide (m'.look e.1 = m.look e.1) || decide (clusterAt m' e.1 = some c)
        || decide (clusterAt m e.1 = some c))
  && (m'.map.all fun e =>
    match m'.look e.1 with
    | none => true
    | some p =>
      match m'.heap[p]? with
      | none => true
      | some ci =>
        decide (ci.cluster = c) || (decide (m.look e.1 = some p) && decide (m.heap[p]? = some ci)))

/-- nothing observable changed -/
structure Unchanged (m m' : Mgr) : Prop where
  look : ∀ k, m'.look k = m.look k
  heap : m'.heap = m.heap
  stopped : ∀ p, p ∈ m'.stopped ↔ p ∈ m.stopped

def unchangedB (m m' : Mgr) : Bool :=
  m.map.all (fun e => decide (m'.look e.1 = m.look e.1))
  && m'.map.all (fun e => decide (m'.look e.1 = m.look e.1))
  && decide (m'.heap = m.heap)
  && (List.range m.heap.length).all (fun p => decide (p ∈ m'.stopped) == decide (p ∈ m.stopped))

/-- after a delete event for `c`: no key resolves to a `ClusterInfo` of `c`, and the one that served `c` is stopped -/
structure Deleted (c : Str) (m m' : Mgr) : Prop where
  gone : ∀ k, clusterAt m' k ≠ some c
  stop : ∀ p ci, m.get lower c = some (p, ci) → ci.cluster = c → p ∈ m'.stopped

def deletedB (c : Str) (m m' : Mgr) : Bool :=
  m'.map.all (fun e => decide (clusterAt m' e.1 ≠ some c))
  && (match m.get lower c with
      | some (p, ci) => decide (ci.cluster ≠ c) || decide (p ∈ m'.stopped)
      | none => true)

/-- after an applied create/update event carrying `spec` for `c`: `c` is served by a running `ClusterInfo` whose
    names and TLS material are exactly the object's, and exactly the object's names resolve to it. -/
structure Applied (c : Str) (spec : Spec) (m' : Mgr) : Prop where
  served : ∃ p ci, m'.get lower c = some (p, ci) ∧ ci.cluster = c ∧
            loadServerNames lower ci = objNames lower c spec ∧ ci.cert = spec.cert ∧ ci.ca = spec.ca ∧
            p ∉ m'.stopped ∧
            ∀ k, m'.look k = some p ↔ k ∈ objNames lower c spec

def appliedB (c : Str) (spec : Spec) (m' : Mgr) : Bool :=
  match m'.get lower c with
  | none => false
  | some (p, ci) =>
    decide (ci.cluster = c) && decide (loadServerNames lower ci = objNames lower c spec)
    && decide (ci.cert = spec.cert) && decide (ci.ca = spec.ca) && !(decide (p ∈ m'.stopped))
    && (objNames lower c spec).all (fun k => decide (m'.look k = some p))
    && m'.map.all (fun e => decide (m'.look e.1 ≠ some p) || decide (e.1 ∈ objNames lower c spec))

/-- The obligations of one handler invocation for cluster `c` (= `lower name`), given what the lister answered
    and whether the handler asked for a requeue. -/
def StepOK (c : Str) (latest : Option Spec) (requeued : Bool) (m m' : Mgr) : Prop :=
  Frame c m m' ∧
  (if requeued then Unchanged m m'
   else match latest with
     | none => Deleted lower c m m'
     | some spec => Applied lower c spec m')

def stepB (c : Str) (latest : Option Spec) (requeued : Bool) (m m' : Mgr) : Bool :=
  frameB c m m' &&
  (if requeued then unchangedB m m'
   else match latest with
     | none => deletedB lower c m m'
     | some spec => appliedB lower c spec m')

/-- first failing component, for the harness report -/
def stepWhy (c : Str) (latest : Option Spec) (requeued : Bool) (m m' : Mgr) : String :=
  if !frameB c m m' then "frame"
  else if requeued then (if unchangedB m m' then "" else "refused-changed")
  else match latest with
    | none => if deletedB lower c m m' then "" else "delete"
    | some spec => if appliedB lower c spec m' then "" else "applied"

/-! ## during an event

`s` is a state a concurrent reader can observe while the handler turns `m` into `m'` (after one of its manager
writes): a name that resolves to the same `ClusterInfo` before and after the event resolves to it in `s` as well
(names a cluster keeps — its own name, the server names an update does not touch, every name of every other
cluster — never disappear, not even for a moment), and whatever resolves in `s` resolves to what it resolved to
before or resolves to after (no transient capture). -/
structure MidOK (m m' s : Mgr) : Prop where
  kept : ∀ k p, m.look k = some p → m'.look k = some p → s.look k = some p
  nostray : ∀ k q, s.look k = some q → m.look k = some q ∨ m'.look k = some q

def midB (m m' s : Mgr) : Bool :=
  (m.map.all fun e =>
    match m.look e.1 with
    | none => true
    | some p => !(decide (m'.look e.1 = some p)) || decide (s.look e.1 = some p))
  && (s.map.all fun e =>
    match s.look e.1 with
    | none => true
    | some q => decide (m.look e.1 = some q) || decide (m'.look e.1 = some q))

/-! ## TLS material follows the resolution -/

/-- What the wrappers must answer in state `m`, said without the wrappers: the material of the cluster the
    name resolves to, the base configuration otherwise. -/
def tlsSpec (m : Mgr) (base : TLS) (hostname : Str) : TLS :=
  match m.get lower hostname with
  | none => base
  | some (_, ci) =>
    if ci.cert = none ∧ ci.ca = none then base
    else { cert := if ci.cert = none then base.cert else ci.cert,
           ca := if ci.ca = none then base.ca else ci.ca,
           requestClientCert := if ci.ca = none then base.requestClientCert else true }

def verifySpec (m : Mgr) (host : Str) : Option Nat :=
  match resolve lower m host with
  | none => none
  | some (_, ci) => ci.ca

/-! ## admissible histories: the manager mirrors the lister -/

/-- The cluster that must serve the (lower-cased, port-less) host `h` according to the current objects. -/
def specOwner (lister : Lister) (h : Str) : Option Str :=
  match lister.find? (fun u => decide (h ∈ objNames lower (lower u.1) u.2)) with
  | some u => some (lower u.1)
  | none => none

/-- The manager serves exactly what the current objects say. -/
structure Mirror (lister : Lister) (m : Mgr) : Prop where
  objs : ∀ n s, lister.get n = some s → Applied lower (lower n) s m
  back : ∀ k c, clusterAt m k = some c → ∃ n s, lister.get n = some s ∧ lower n = c

def mirrorB (lister : Lister) (m : Mgr) : Bool :=
  lister.all (fun u => decide (lister.get u.1 ≠ some u.2) || appliedB lower (lower u.1) u.2 m)
  && m.map.all (fun e =>
      match clusterAt m e.1 with
      | none => true
      | some c => lister.any (fun u => (lister.get u.1).isSome && decide (lower u.1 = c)))

/-- request path on `probes`: the host resolves to the cluster the objects designate -/
def servedB (lister : Lister) (m : Mgr) (probes : List Str) : Bool :=
  probes.all fun H =>
    decide (((resolve lower m H).map (·.2.cluster)) = specOwner lower lister (lower (hostWithoutPort lower H)))

end
end KG.Spec.Names
