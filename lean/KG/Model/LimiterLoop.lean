import KG.Model.Alloc
import KG.Model.RemoteLimiter
import KG.Model.Reclaim
/-!
# The closed loop "N gateway instances ⇄ sharded limiter server" (global-ALLOCATE strategy)

This model COMPOSES the finished per-area models; it does not re-model the areas:

* **C07 `KG.Model.Alloc`** — the recorded-quota bookkeeping of one upstream is literally an `Alloc.Srv`, and every
  change of it is an `Alloc.step` (`.report`, `.delete`, `.setLimit`): field `UpStore.srv`.
* **C09 `KG.Model.RemoteLimiter`** — every gateway keeps one `RemoteLimiter.State` per upstream (its
  `upstreamLimiter`), moved only by `RemoteLimiter.step` (`.schema`, `.answer`, `.hb`); what a request is handed
  is `RemoteLimiter.load` / `observe`. Nothing else of C09's state is looked at (`cache`, `isReady` only).
* **C18 `KG.Model.Reclaim`** — the heartbeat table has the shape of `Reclaim.State.hb`, the time-out test is
  `Reclaim.timedOut` on the regenerated `Reclaim.timeout`, the two clean-up passes select what `Reclaim.selects` /
  `Reclaim.unknown` select (instance label set by the SECOND report, leader guard of `deleteCondition`).
* **C13 `KG.Model.Shard`** — leadership guard of `UpdateRateLimitConditionStatus` / `UpstreamConditionHandler` /
  `deleteCondition`, `startLeading` (new store, `Load`, `syncUpstreamClustersForShard`), `stopLeading` (store
  discarded), `leaderCheck`; `shardOf` is a parameter (every theorem holds for every shard function).
* **C19 `KG.Model.K8sStore`** — the API-backed store in write-through mode (`syncPeriod = 0`): every acknowledged
  `Save`/`Delete` is in the API before it is in the cache, so the API objects of a held shard equal the cache
  (`Server.persist`); `Load` of the next holder brings them back. The local store loads nothing.

One flow-control schema (max in flight, strategy `globalAllocate`) per upstream; upstreams, gateway slots, gateway
identities and shards are natural numbers. Time is `Nat` milliseconds supplied by the ops.

The strategy arithmetic of `calculateNextQuota` (floats) is NOT part of this model: a report carries ARBITRARY
rationals `x`, `m` (the value left by the `switch`, the percent floor), exactly as in `Alloc.Op.report`; the
answer is the exact tail `Alloc.answer`. The executable twin used by the correspondence harness fills them from the
Float twin of C07 (`floatAnswer`, bit-identical to the Go code) with `x = m =` that answer, and reports whether the
exact tail reproduces it (`exact`): it does unless float rounding moved the answer out of the range of the tail.
-/
namespace KG.Model.LimiterLoop
open KG KG.Model

/-! ## association lists keyed by `Nat` (Go maps; order never observed) -/

def aget {α : Type} (l : List (Nat × α)) (k : Nat) : Option α :=
  match l with
  | [] => none
  | (j, v) :: rest => if j = k then some v else aget rest k

def adel {α : Type} (l : List (Nat × α)) (k : Nat) : List (Nat × α) := l.filter (fun p => p.1 != k)

def aset {α : Type} (l : List (Nat × α)) (k : Nat) (v : α) : List (Nat × α) := (k, v) :: adel l k

/-! ## the limiter server's store for ONE upstream (one schema) -/

/-- What the store of the upstream's shard holds for the upstream: C07's `Srv` (configured limit of the `.state`
    condition, its recorded sum, the recorded quota per instance) plus what C18 and the strategy arithmetic read. -/
structure UpStore where
  srv : Alloc.Srv
  /-- ghost: the largest limit in force since this record began (equals `srv.total` unless the limit was lowered) -/
  hi : Int
  /-- `RequestLevel` of the `.state` condition (feeds the strategy arithmetic only) -/
  recLevel : Int
  /-- instances whose stored condition carries the instance label: set from the previous stored condition, i.e. by
      the second and later reports (what the time-out pass selects by, C18) -/
  labelled : List Nat
  /-- the usage figure stored with each instance's condition (feeds the recorded request level only) -/
  used : List (Nat × Int)
deriving Repr

/-- `updateUpstreamStateCondition(nil, cluster)`: a fresh `.state` condition -/
def UpStore.fresh (t : Int) : UpStore := ⟨⟨t, 0, []⟩, t, 0, [], []⟩

/-- `updateUpstreamStateCondition` on an existing `.state` condition: the configured limit is replaced, the
    recorded status is kept -/
def UpStore.setLimit (e : UpStore) (t : Int) : UpStore :=
  { e with srv := Alloc.step e.srv (.setLimit t), hi := if e.hi < t then t else e.hi }

def UpStore.has (e : UpStore) (i : Nat) : Bool := (e.srv.quotas.lookup i).isSome

/-- the body of `UpdateRateLimitConditionStatus` past the guards: `calculateNextQuota` (exact tail of C07 on the
    strategy outputs `x`, `m`), save, `calculateUpstreamCondition`, save -/
def UpStore.report (e : UpStore) (i : Nat) (x m : Rat) (used lvl : Int) : UpStore :=
  { e with
    srv := Alloc.step e.srv (.report i x m)
    recLevel := lvl
    labelled := if e.has i then (if e.labelled.contains i then e.labelled else i :: e.labelled)
                else e.labelled.filter (· != i)
    used := aset e.used i used }

/-- `limitStore.Delete` of every instance condition whose instance satisfies `p` -/
def UpStore.drop (e : UpStore) (p : Nat → Bool) : UpStore :=
  { e with
    srv := { e.srv with quotas := e.srv.quotas.filter (fun q => !p q.1) }
    labelled := e.labelled.filter (fun i => !p i)
    used := e.used.filter (fun q => !p q.1) }

/-- the quota on record for instance `i` (0 without a record) -/
def UpStore.quotaOf (e : UpStore) (i : Nat) : Int := Alloc.lookupD e.srv.quotas i

/-! ## the limiter server -/

structure Server where
  /-- `limitOptions.LimitStore == "k8s"` (write-through) rather than `"local"` -/
  k8s : Bool
  /-- `ClientCache.clientHeartbeats`: instance ↦ time of its last heartbeat (ms) -/
  hb : List (Nat × Nat)
  /-- shards for which `leaderElector.IsLeader` answers true -/
  leaders : List Nat
  /-- keys of `limitStoreMap` -/
  stores : List Nat
  /-- contents of the stores in `limitStoreMap`: upstream ↦ what its shard's store holds for it -/
  ups : List (Nat × UpStore)
  /-- the `RateLimitCondition` objects in the API (k8s store only), by upstream -/
  api : List (Nat × UpStore)
  /-- the UpstreamCluster lister: upstream ↦ configured global limit -/
  listed : List (Nat × Int)
deriving Repr

/-- `time.Now().After(lastHeartbeat.Add(ClientHeartBeatTimeout))` — C18's test on C18's regenerated constant -/
def timedOut (now : Nat) (p : Nat × Nat) : Bool := decide (now > p.2 + Reclaim.timeout)

def Server.hbHas (s : Server) (i : Nat) : Bool := s.hb.any (·.1 == i)

section
variable (shardOf : Nat → Nat)

def Server.isLeader (s : Server) (k : Nat) : Bool := s.leaders.contains k
def Server.hasStore (s : Server) (k : Nat) : Bool := s.stores.contains k

/-- write-through: after an acknowledged change the API holds what the caches of the held shards hold; objects of
    shards not held are left alone -/
def Server.persist (s : Server) : Server :=
  if s.k8s then { s with api := s.ups ++ s.api.filter (fun p => (aget s.ups p.1).isNone) } else s

/-- `UpstreamConditionHandler(cluster)` for the lister's object of `u` -/
def Server.handle (s : Server) (u : Nat) : Server :=
  let k := shardOf u
  if !s.isLeader k then s
  else if !s.hasStore k then s
  else
    match aget s.listed u with
    | none => s          -- not in the lister: `DeleteUpstream` of nothing (removal of upstreams is not modelled)
    | some t =>
      let e := match aget s.ups u with
        | some e => e.setLimit t
        | none => UpStore.fresh t
      ({ s with ups := aset s.ups u e } : Server).persist

/-- `rateLimiter.startLeading(k)`: a new store, `Load()` (the API objects of the shard for the k8s store, nothing for
    the local one), `syncUpstreamClustersForShard(k)` -/
def Server.startLeading (s : Server) (k : Nat) : Server :=
  if s.hasStore k then s
  else
    let loaded := if s.k8s then s.api.filter (fun p => shardOf p.1 == k) else []
    let s1 : Server := { s with stores := k :: s.stores, ups := loaded ++ s.ups.filter (fun p => shardOf p.1 != k) }
    (s.listed.filter (fun p => shardOf p.1 == k)).foldl (fun st p => st.handle shardOf p.1) s1

/-- `rateLimiter.stopLeading(k)`: the store is flushed (write-through: nothing left to write) and discarded -/
def Server.stopLeading (s : Server) (k : Nat) : Server :=
  { s with stores := s.stores.filter (· != k), ups := s.ups.filter (fun p => shardOf p.1 != k) }

/-- `rateLimiter.leaderCheck()` -/
def Server.leaderCheck (s : Server) : Server :=
  let toStart := s.leaders.filter (fun k => !s.hasStore k)
  let s1 := toStart.foldl (fun st k => st.startLeading shardOf k) s
  let toStop := s1.stores.filter (fun k => !s.isLeader k)
  toStop.foldl (fun st k => st.stopLeading shardOf k) s1

def Server.elect (s : Server) (k : Nat) (b : Bool) : Server :=
  { s with leaders := if b then (if s.leaders.contains k then s.leaders else k :: s.leaders)
                      else s.leaders.filter (· != k) }

/-- `ClientCache.Heartbeat` -/
def Server.heartbeat (s : Server) (i : Nat) (t : Nat) : Server :=
  { s with hb := s.hb.filter (·.1 != i) ++ [(i, t)] }

/-- the instances the time-out pass at `now` declares dead -/
def Server.dead (s : Server) (now : Nat) : List Nat := (s.hb.filter (timedOut now)).map (·.1)

/-- `cleanupTimeoutClient` at wall-clock `now`, its goroutines run to completion: the dead instances leave the
    heartbeat table; in every store, the conditions LABELLED with a dead instance are deleted if this server leads
    the condition's shard (`deleteCondition`). The recorded sum of the `.state` condition is NOT recomputed. -/
def Server.cleanupTimeout (s : Server) (now : Nat) : Server :=
  let dead := s.dead now
  ({ s with
    hb := s.hb.filter (fun p => !timedOut now p)
    ups := s.ups.map (fun p =>
      (p.1, if s.isLeader (shardOf p.1) then p.2.drop (fun i => dead.contains i && p.2.labelled.contains i)
            else p.2)) } : Server).persist

/-- `cleanupUnknownCondition`: every instance condition whose instance is not in the heartbeat table is deleted if
    this server leads the condition's shard -/
def Server.cleanupUnknown (s : Server) : Server :=
  ({ s with
    ups := s.ups.map (fun p =>
      (p.1, if s.isLeader (shardOf p.1) then p.2.drop (fun i => !s.hbHas i) else p.2)) } : Server).persist

/-- the entry a report for `u` is served from: leader of the shard, store of the shard, `.state` condition -/
def Server.serving (s : Server) (u : Nat) : Option UpStore :=
  if s.isLeader (shardOf u) && s.hasStore (shardOf u) then aget s.ups u else none

/-- `UpdateRateLimitConditionStatus(u, condition of instance i)`: the server afterwards and the answered quota
    (`none`: refused — not the leader, no store, no `.state` condition / upstream lock) -/
def Server.report (s : Server) (u i : Nat) (x m : Rat) (used lvl : Int) : Server × Option Int :=
  match s.serving shardOf u with
  | none => (s, none)
  | some e =>
    let e' := e.report i x m used lvl
    (({ s with ups := aset s.ups u e' } : Server).persist, some (e'.quotaOf i))

end

/-! ## one gateway instance -/

/-- the C09 configuration of every `upstreamLimiter` of the loop: `rateLimiter = "remote"`, a client set -/
def gwCfg : RemoteLimiter.Cfg := {}

/-- a freshly started `upstreamLimiter` whose client set knows the shard count -/
def gwInit (nShards : Nat) : RemoteLimiter.State := { shardCount := nShards }

structure Gw where
  /-- `clientSets.ClientID()`: the identity it heartbeats and reports under -/
  id : Nat
  /-- the process is running -/
  alive : Bool
  /-- it reaches the limiter server -/
  net : Bool
  /-- upstream ↦ the state of its `upstreamLimiter` (C09). The process keeps one for every upstream of the loop from its
      start (the real one is created by the first schema sync, sharing the client set: it sees the heartbeat outcomes
      recorded before — in the model every limiter sees every heartbeat outcome from the start of the process; in the
      loop every shard is heartbeated in the same round with the same outcome) -/
  ups : List (Nat × RemoteLimiter.State)
  /-- monitor (ghost): the upstreams for which this process applied an answer since its view of the global limit last
      changed ("the gateway applied the last answer") -/
  fresh : List Nat
deriving Repr

/-- the limiters of a process that has just started: one per upstream of the loop -/
def freshUps (nShards nUp : Nat) : List (Nat × RemoteLimiter.State) := (List.range nUp).map (fun u => (u, gwInit nShards))

/-- the state of the `upstreamLimiter` for `u` (an upstream outside the loop: a fresh one, nothing ever happens to it) -/
def Gw.st (nShards : Nat) (g : Gw) (u : Nat) : RemoteLimiter.State := (aget g.ups u).getD (gwInit nShards)

/-- one C09 step (a panic — impossible for the schemas of the loop, see `KG.Lemmas.LimiterLoop.limStep_schema` /
    `limStep_answer` / `limStep_hb` — keeps the state) -/
def stepOr (st : RemoteLimiter.State) (op : RemoteLimiter.Op) : RemoteLimiter.State :=
  match RemoteLimiter.step st op with
  | .ok st' => st'
  | .error _ => st

/-- one C09 step of the `upstreamLimiter` for `u` (an upstream outside the loop is ignored) -/
def Gw.apply (nShards : Nat) (g : Gw) (u : Nat) (op : RemoteLimiter.Op) : Gw :=
  match aget g.ups u with
  | some st => { g with ups := aset g.ups u (stepOr st op) }
  | none => g

/-- one heartbeat outcome (`setLeaderStatus`) seen by every `upstreamLimiter` of the gateway: C09's `.hb` step -/
def Gw.heartbeat (g : Gw) (ok : Bool) (now : Int) : Gw :=
  { g with ups := g.ups.map (fun p => (p.1, stepOr p.2 (.hb ok now false))) }

/-- the schema a gateway syncs: local limit `l`, global limit `t`, strategy `globalAllocate` -/
def mkSchema (l t : Int) : RemoteLimiter.Schema := { strategy := .alloc, mi := some l, gmi := some t }

/-- the item of the server's answer: quota `n` -/
def mkItem (n : Int) : RemoteLimiter.Item := { strategy := .alloc, mi := some n }

/-- the gateway's own view of the global limit (`localConfig.GlobalMaxRequestsInflight.Max`) -/
def view (st : RemoteLimiter.State) : Option Int := st.cache.bind (·.loc.config.gmi)

/-- its local limit -/
def localLimit (st : RemoteLimiter.State) : Option Int := st.cache.bind (·.loc.config.mi)

/-- the quota it holds = `remoteConfig` = what `buildLimitConditions` reports (`none`: no remote limiter yet) -/
def raw (st : RemoteLimiter.State) : Option Int := st.cache.bind (fun c => c.remote.bind (fun r => r.remoteConfig.bind (·.mi)))

def limSize : RemoteLimiter.Lim → Int
  | .mi n => n
  | .exempt n => n
  | .tb q _ => q

/-- the size of its remote limiter (handed out or not) -/
def applied (st : RemoteLimiter.State) : Option Int := (RemoteLimiter.observe gwCfg st).rlim.map limSize

/-- does `GetOrDefault` hand out the remote limiter? -/
def usesRemote (st : RemoteLimiter.State) : Bool := RemoteLimiter.load gwCfg st == .remote

/-- the capacity it enforces: the size of the limiter `GetOrDefault` hands out (`none`: no schema, system default) -/
def enforced (st : RemoteLimiter.State) : Option Int := (RemoteLimiter.observe gwCfg st).lim.map limSize

/-! ## the loop -/

structure State where
  nShards : Nat
  /-- the upstreams of the loop are `0 … nUp−1` -/
  nUp : Nat
  srv : Server
  gws : List Gw
deriving Repr

def init (nShards nGw nUp : Nat) (k8s : Bool) : State :=
  { nShards := nShards
    nUp := nUp
    srv := ⟨k8s, [], [], [], [], [], []⟩
    gws := (List.range nGw).map (fun i => ⟨i, true, true, freshUps nShards nUp, []⟩) }

inductive Op
  /-- the UpstreamCluster object of `u` in the limiter server's lister now configures global limit `t` -/
  | list (u : Nat) (t : Int)
  /-- the upstream controller delivers `u` to `UpstreamConditionHandler` -/
  | handle (u : Nat)
  /-- gateway `g` syncs the schema of `u`: local limit `l`, global limit `t` (`upstreamLimiter.Sync`) -/
  | gwSchema (g u : Nat) (l t : Int)
  /-- one heartbeat round of gateway `g` at time `now` -/
  | hb (g : Nat) (now : Nat)
  /-- one reconcile of gateway `g` for `u`: `buildLimitConditions` (the quota it holds, taken from its own state),
      `UpdateRateLimitConditionStatus`, `updateFlowControls`. `x`, `m`: outputs of the strategy arithmetic;
      `used`: its usage; `lvl`: the recomputed request level of the upstream. -/
  | report (g u : Nat) (x m : Rat) (used lvl : Int)
  /-- the server's `sync()` at wall-clock `now`: time-out pass, then `leaderCheck` -/
  | tick (now : Nat)
  /-- the server's `cleanupUnknownCondition` -/
  | unknownPass
  /-- the elector's answer for shard `k` changes; the store follows at the next `leaderCheck` -/
  | elect (k : Nat) (b : Bool)
  /-- `OnStartedLeading(k)`: the elector says leader and `startLeading(k)` runs -/
  | gain (k : Nat)
  /-- `OnStoppedLeading(k)`: the elector says not leader and `stopLeading(k)` runs -/
  | lose (k : Nat)
  /-- the network between gateway `g` and the limiter server goes down / comes back -/
  | net (g : Nat) (b : Bool)
  /-- the gateway process dies -/
  | crash (g : Nat)
  /-- a new gateway process starts in slot `g` with identity `id` -/
  | ret (g id : Nat)

/-- the loop's clock is in milliseconds, C09's in nanoseconds -/
def msToNs (t : Nat) : Int := (t : Int) * 1000000

def State.gw (s : State) (g : Nat) : Option Gw := s.gws[g]?

def State.setGw (s : State) (g : Nat) (x : Gw) : State := { s with gws := s.gws.set g x }

section
variable (shardOf : Nat → Nat)

/-- a live gateway that has synced a schema for `u` runs the reconcile loop for it -/
def reports (n : Nat) (x : Gw) (u : Nat) : Bool := x.alive && (x.st n u).cache.isSome

def step (s : State) : Op → State
  | .list u t => { s with srv := { s.srv with listed := aset s.srv.listed u t } }
  | .handle u => { s with srv := s.srv.handle shardOf u }
  | .gwSchema g u l t =>
    match s.gw g with
    | none => s
    | some x =>
      if x.alive then
        let x' := x.apply s.nShards u (.schema (mkSchema l t))
        s.setGw g { x' with fresh := if view (x.st s.nShards u) = some t then x.fresh else x.fresh.filter (· != u) }
      else s
  | .hb g now =>
    match s.gw g with
    | none => s
    | some x =>
      if !x.alive then s
      else if x.net then
        { (s.setGw g (x.heartbeat true (msToNs now))) with srv := s.srv.heartbeat x.id now }
      else s.setGw g (x.heartbeat false (msToNs now))
  | .report g u x m used lvl =>
    match s.gw g with
    | none => s
    | some gw =>
      if !(reports s.nShards gw u && gw.net) then s
      else
        match s.srv.report shardOf u gw.id x m used lvl with
        | (_, none) => s          -- refused: `reconcile` logs the error, nothing is applied
        | (srv', some n) =>
          let gw' := gw.apply s.nShards u (.answer true (mkItem n))
          { (s.setGw g { gw' with fresh := if gw.fresh.contains u then gw.fresh else u :: gw.fresh }) with srv := srv' }
  | .tick now => { s with srv := (s.srv.cleanupTimeout shardOf now).leaderCheck shardOf }
  | .unknownPass => { s with srv := s.srv.cleanupUnknown shardOf }
  | .elect k b => { s with srv := s.srv.elect k b }
  | .gain k => { s with srv := (s.srv.elect k true).startLeading shardOf k }
  | .lose k => { s with srv := (s.srv.elect k false).stopLeading shardOf k }
  | .net g b =>
    match s.gw g with
    | none => s
    | some x => s.setGw g { x with net := b }
  | .crash g =>
    match s.gw g with
    | none => s
    | some x => s.setGw g { x with alive := false }
  | .ret g id =>
    match s.gw g with
    | none => s
    | some x => s.setGw g { x with id := id, alive := true, ups := freshUps s.nShards s.nUp, fresh := [] }

def run (s : State) (ops : List Op) : State := ops.foldl (step shardOf) s

end

/-! ## the executable twin: filling the strategy outputs from C07's Float twin of `calculateNextQuota`

What the script supplies for a report is the usage figure only; the quota claimed is the gateway's own
(`raw`), the request level is what `getRateLimitItemStatus` computes from both, the recorded sum / level / client
count are the server's. -/

/-- `int32(float64(inflight) / float64(remoteConfig.Max) * 100)`, 0 before the first answer -/
def levelOf (used : Int) (rawq : Option Int) : Int :=
  match rawq with
  | none => 0
  | some q => (Float.ofInt used / Float.ofInt q * 100).toInt32.toInt

/-- `calculateUpstreamCondition`: `int32(Σ used/total · 100)` over the stored conditions -/
def recLevelOf (total : Int) (used : List (Nat × Int)) : Int :=
  let lvl : Float := used.foldl (fun acc p => acc + Float.ofInt p.2 / Float.ofInt total) 0
  (lvl * 100).toInt32.toInt

/-- the inputs of `calculateNextQuota` for a report of instance `i` claiming `claim` with usage `used` -/
def floatIn (e : UpStore) (clients : Nat) (i : Nat) (claim used : Int) (rawq : Option Int) : Alloc.In :=
  { total := e.srv.total, totalBurst := 0, allocated := e.srv.recSum, upstreamLevel := e.recLevel,
    current := claim, recorded := e.quotaOf i, used := used, level := levelOf used rawq, clients := clients,
    tokenBucket := false }

/-- a script op: like `Op`, the report carrying the usage only -/
inductive SOp
  | op (o : Op)
  | report (g u : Nat) (used : Int)

/-- the model op a script op stands for in state `s`, and whether the exact tail reproduces the Float twin's answer
    (`none`: no report is served, or the Float twin panics) -/
def fill (shardOf : Nat → Nat) (s : State) : SOp → Op × Option Bool
  | .op o => (o, none)
  | .report g u used =>
    match s.gw g with
    | none => (.report g u 0 0 used 0, none)
    | some gw =>
      match s.srv.serving shardOf u with
      | none => (.report g u 0 0 used 0, none)
      | some e =>
        let rawq := raw (gw.st s.nShards u)
        match Alloc.calcNextQuota (F := Float) (floatIn e s.srv.hb.length gw.id (rawq.getD 0) used rawq) with
        | .error _ => (.report g u 0 0 used 0, none)
        | .ok (n, _) =>
          let lvl := recLevelOf e.srv.total (aset e.used gw.id used)
          (.report g u (n : Rat) (n : Rat) used lvl, some (Alloc.answer e.srv gw.id (n : Rat) (n : Rat) == n))

end KG.Model.LimiterLoop
