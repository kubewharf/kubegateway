import KG.Spec.Strategy
/-! `*_eq`: the three `PrepareFor…` as record updates. `beforeCreate_ok`/`beforeUpdate_ok` turn `= .ok o'` into the guards
    passed and an explicit `o'`; `judge*_eq_nil` turn `= []` into a conjunction. -/
namespace KG.Lemmas.Strategy
open KG.Model.Strategy KG.Spec.Strategy

theorem toI64_isI64 (x : Int) : isI64 (toI64 x) := by
  unfold isI64 toI64 i64Lo i64Hi; omega

/-- The "must not be decremented" check of `ValidateObjectMetaAccessorUpdate` rules the wrap out. -/
theorem toI64_succ_of_ge {g : Int} (hg : isI64 g) (h : ¬ toI64 (g + 1) < g) : toI64 (g + 1) = g + 1 := by
  unfold isI64 i64Lo i64Hi at hg; unfold toI64 at *; omega

theorem toI64_succ_ne (g : Int) : toI64 (g + 1) ≠ g := by
  unfold toI64; omega

/-- `BeforeCreate`/`BeforeUpdate` are chains of `if bad then reject else …`: acceptance passed every guard. -/
theorem ite_error_eq_ok {ε α : Type} {c : Prop} [Decidable c] {e : ε} {x : Except ε α} {y : α} :
    (if c then .error e else x) = .ok y ↔ ¬ c ∧ x = .ok y := by
  split <;> simp [*]

section
variable {L A M S T : Type}

/-! Each strategy only overwrites fields: which ones, and with what, is read off these normal forms (so is the
fact that `otherMeta` is never looked at). -/

theorem prepareForCreate_eq (subStatus : Bool) (sh : Shape) (zero : T) (o : Obj L A M S T) :
    prepareForCreate subStatus sh zero o =
      { o with status := if subStatus && sh.hasStatus then zero else o.status,
               generation := if sh.hasMeta then 1 else o.generation } := by
  unfold prepareForCreate
  cases (subStatus && sh.hasStatus) <;> cases sh.hasMeta <;> rfl

theorem statusPrepareForUpdate_eq (sh : Shape) (obj old : Obj L A M S T) :
    statusPrepareForUpdate sh obj old =
      { obj with spec := if sh.hasStatus && sh.hasSpec then old.spec else obj.spec,
                 labels := if sh.hasStatus && sh.hasMeta then old.labels else obj.labels } := by
  unfold statusPrepareForUpdate
  cases sh.hasStatus <;> cases sh.hasSpec <;> cases sh.hasMeta <;> rfl

theorem prepareForUpdate_eq {A' S' : Type} [DecidableEq S'] [DecidableEq A'] (sem : Sem A S A' S')
    (subStatus : Bool) (sh : Shape) (obj old : Obj L A M S T) :
    prepareForUpdate sem subStatus sh obj old =
      { obj with
        status := if sh.hasStatus && subStatus then old.status else obj.status,
        generation :=
          if (sh.hasStatus && (sh.hasMeta && sh.hasSpec)) = true ∧
              (sem.spec obj.spec ≠ sem.spec old.spec ∨ sem.annotations obj.annotations ≠ sem.annotations old.annotations)
          then toI64 (old.generation + 1) else obj.generation } := by
  unfold prepareForUpdate
  cases sh.hasStatus
  · rfl
  · cases subStatus <;> cases (sh.hasMeta && sh.hasSpec)
    · rfl
    · simp only [Bool.not_true, Bool.false_eq_true, if_false, true_and, Bool.and_true, if_true]
      split <;> rfl
    · rfl
    · simp only [Bool.not_true, Bool.false_eq_true, if_false, true_and, Bool.and_true, if_true]
      split <;> rfl

theorem beforeCreate_ok {r : Reg} {mr : MetaRules L A M S T} {zero : T} {o o' : Obj L A M S T}
    (h : beforeCreate r mr zero o = .ok o') :
    r.shape.hasMeta = true ∧
    o' = { o with status := if r.subStatus && r.shape.hasStatus then zero else o.status,
                  generation := 1, otherMeta := mr.fixCreate o.otherMeta } := by
  simp only [beforeCreate, ite_error_eq_ok, canonicalize, Except.ok.injEq, Bool.not_eq_true', Bool.not_eq_false] at h
  obtain ⟨hm, _, _, rfl⟩ := h
  rw [prepareForCreate_eq, hm]
  exact ⟨rfl, rfl⟩

theorem beforeUpdate_ok {A' S' : Type} [DecidableEq S'] [DecidableEq A'] {sem : Sem A S A' S'} {r : Reg}
    {ep : Endpoint} {mr : MetaRules L A M S T} {obj old o' : Obj L A M S T}
    (h : beforeUpdate sem r ep mr obj old = .ok o') :
    o' = { updatePrepare sem r ep { obj with generation := old.generation } old with
            otherMeta := mr.fixUpdate (updatePrepare sem r ep { obj with generation := old.generation } old).otherMeta old.otherMeta } ∧
    (ep = .status → r.served = true) ∧ r.shape.hasMeta = true ∧ ¬ o'.generation < 0 ∧ ¬ o'.generation < old.generation := by
  simp only [beforeUpdate, ite_error_eq_ok, canonicalize, Except.ok.injEq, Bool.not_eq_true', Bool.not_eq_false,
    not_and] at h
  obtain ⟨hs, hm, h0, h1, _, rfl⟩ := h
  exact ⟨rfl, hs, hm, h0, h1⟩

/-! The judge lists the clauses that fail: it is silent exactly when all of them hold. -/

theorem check_eq_nil {c : Clause} {ok : Bool} : check c ok = [] ↔ ok = true := by
  cases ok <;> simp [check]

theorem judgeCreate_eq_nil [DecidableEq T] {served : Bool} {zero : T} {out : Obj L A M S T} :
    judgeCreate served zero out = [] ↔ out.generation = 1 ∧ (served = true → out.status = zero) := by
  cases served <;> simp [judgeCreate, check_eq_nil]

theorem judgeStatusUpdate_eq_nil [DecidableEq L] [DecidableEq S] {stored out : Obj L A M S T} :
    judgeStatusUpdate stored out = [] ↔
      out.spec = stored.spec ∧ out.labels = stored.labels ∧ out.generation = stored.generation := by
  simp [judgeStatusUpdate, check_eq_nil]

theorem judgeMainUpdate_eq_nil [DecidableEq A] [DecidableEq S] [DecidableEq T] {served : Bool}
    {stored out : Obj L A M S T} :
    judgeMainUpdate served stored out = [] ↔
      (served = true → out.status = stored.status) ∧
      (out.spec ≠ stored.spec ∨ out.annotations ≠ stored.annotations → out.generation = stored.generation + 1) ∧
      (¬ (out.spec ≠ stored.spec ∨ out.annotations ≠ stored.annotations) → out.generation = stored.generation) := by
  have hch : changed stored out = true ↔ out.spec ≠ stored.spec ∨ out.annotations ≠ stored.annotations := by
    simp [changed]
  simp only [judgeMainUpdate, List.append_eq_nil_iff, check_eq_nil, ← hch, Bool.or_eq_true, Bool.not_eq_true',
    beq_iff_eq]
  cases served <;> cases changed stored out <;> simp [check_eq_nil]

end
end KG.Lemmas.Strategy
