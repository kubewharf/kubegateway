import KG.Spec.Names
import KG.Lemmas.Lists
/-!
Lemmas for C10. The manager's map is read through `look` and `clusterAt` only. Each loop of the controller is characterised by what it
does to `look` (`look_delOwned`, `look_addNew`), `AddOrUpdateForServerNames` by a contract on the pointer it serves
(`addOrUpdate_spec`); from these each kind of event gets a closed form (`DeletedChar`, `AppliedChar`), and a handler invocation one
(`sync_char`: a `StepChar`). The specification's predicates are read off the closed forms: `Inv` pointer by pointer (`Serves`), that
it is kept and `Frame` from the other clusters' `ClusterInfo`s being `Untouched`, `MidOK` from `Between`.
-/
namespace KG.Lemmas.Names
open KG KG.Model.Names KG.Spec.Names

/-! ## association lists -/

theorem alookup_aerase (k k' : Str) (l : List (Str × Nat)) :
    alookup k (aerase k' l) = if k' = k then none else alookup k l :=
  get_filter_ne (fun l k => alookup k l) (fun _ => rfl) (fun _ _ _ _ => rfl) l k' k

/-! ## host and port, ASCII lower-casing -/

theorem indexOf_none (c : UInt8) (s : Str) (h : c ∉ s) : indexOf c s = none := by
  induction s with
  | nil => rfl
  | cons x xs ih =>
    have hx : x ≠ c := fun e => h (by simp [e])
    have hxs : c ∉ xs := fun e => h (by simp [e])
    simp [indexOf, hx, ih hxs]

theorem indexOf_append (c : UInt8) (h p : Str) (hh : c ∉ h) : indexOf c (h ++ c :: p) = some h.length := by
  induction h with
  | nil => simp [indexOf]
  | cons x xs ih =>
    have hx : x ≠ c := fun e => hh (by simp [e])
    have hxs : c ∉ xs := fun e => hh (by simp [e])
    simp [indexOf, hx, ih hxs]

theorem lastIndexOf_none (c : UInt8) (s : Str) (h : c ∉ s) : lastIndexOf c s = none := by
  induction s with
  | nil => rfl
  | cons x xs ih =>
    have hx : x ≠ c := fun e => h (by simp [e])
    have hxs : c ∉ xs := fun e => h (by simp [e])
    simp [lastIndexOf, hx, ih hxs]

theorem lastIndexOf_append (c : UInt8) (h p : Str) (hp : c ∉ p) : lastIndexOf c (h ++ c :: p) = some h.length := by
  induction h with
  | nil => simp [lastIndexOf, lastIndexOf_none c p hp]
  | cons x xs ih => simp [lastIndexOf, ih]

theorem splitHostPort_noport (s : Str) (h : colon ∉ s) : splitHostPort s = none := by
  unfold splitHostPort
  rw [lastIndexOf_none colon s h]

theorem splitHostPort_plain (h p : Str) (h1 : colon ∉ h) (h2 : lbr ∉ h) (h3 : rbr ∉ h)
    (p1 : colon ∉ p) (p2 : lbr ∉ p) (p3 : rbr ∉ p) : splitHostPort (h ++ colon :: p) = some h := by
  unfold splitHostPort
  rw [lastIndexOf_append colon h p p1]
  simp only
  have hhead : (h ++ colon :: p).head? ≠ some lbr := by
    cases h with
    | nil => simp [colon, lbr]
    | cons x xs =>
      simp only [List.cons_append, List.head?_cons, ne_eq, Option.some.injEq]
      intro e; exact h2 (by simp [e])
  rw [if_neg hhead]
  have ht : (h ++ colon :: p).take h.length = h := by simp
  rw [ht, indexOf_none colon h h1]
  have hl : lbr ∉ h ++ colon :: p := by
    simp only [List.mem_append, List.mem_cons, not_or]
    exact ⟨h2, by decide, p2⟩
  have hr : rbr ∉ h ++ colon :: p := by
    simp only [List.mem_append, List.mem_cons, not_or]
    exact ⟨h3, by decide, p3⟩
  rw [indexOf_none lbr _ hl, indexOf_none rbr _ hr]
  simp

theorem splitHostPort_bracket (h p : Str) (h2 : lbr ∉ h) (h3 : rbr ∉ h)
    (p1 : colon ∉ p) (p2 : lbr ∉ p) (p3 : rbr ∉ p) :
    splitHostPort (lbr :: h ++ rbr :: colon :: p) = some h := by
  have hhead : (lbr :: h ++ rbr :: colon :: p).head? = some lbr := rfl
  have hlast : lastIndexOf colon (lbr :: h ++ rbr :: colon :: p) = some (h.length + 1 + 1) := by
    have e : lbr :: h ++ rbr :: colon :: p = (lbr :: h ++ [rbr]) ++ colon :: p := by
      rw [List.append_assoc]
      rfl
    rw [e, lastIndexOf_append colon _ p p1, List.length_append]
    rfl
  have hidx : indexOf rbr (lbr :: h ++ rbr :: colon :: p) = some (h.length + 1) :=
    indexOf_append rbr (lbr :: h) (colon :: p) (List.not_mem_cons_of_ne_of_not_mem (by decide) h3)
  have hlen : ¬ h.length + 1 + 1 = (lbr :: h ++ rbr :: colon :: p).length := by
    rw [List.length_append]
    exact Nat.ne_of_lt (Nat.add_lt_add_left (Nat.succ_lt_succ (Nat.succ_pos _)) _)
  have hl : indexOf lbr ((lbr :: h ++ rbr :: colon :: p).drop 1) = none := by
    apply indexOf_none
    show lbr ∉ h ++ rbr :: colon :: p
    rw [List.mem_append]
    exact fun h' => h'.elim h2 (List.not_mem_cons_of_ne_of_not_mem (by decide)
      (List.not_mem_cons_of_ne_of_not_mem (by decide) p2))
  have hr : indexOf rbr ((lbr :: h ++ rbr :: colon :: p).drop (h.length + 1 + 1)) = none := by
    show indexOf rbr ((lbr :: h ++ rbr :: colon :: p).drop ((lbr :: h).length + 1)) = none
    rw [← List.drop_drop, List.drop_left]
    exact indexOf_none rbr _ (List.not_mem_cons_of_ne_of_not_mem (by decide) p3)
  have ht : ((lbr :: h ++ rbr :: colon :: p).take (h.length + 1)).drop 1 = h := by
    show ((lbr :: h ++ rbr :: colon :: p).take (lbr :: h).length).drop 1 = h
    rw [List.take_left]
    rfl
  unfold splitHostPort
  rw [hlast]
  simp only
  rw [if_pos hhead, hidx]
  simp only
  rw [if_neg hlen, if_pos trivial, hl, hr, ht]
  rfl

theorem hostWithoutPort_eq (lower : Str → Str) (H : Str) :
    hostWithoutPort lower H = match splitHostPort (lower H) with
      | none => lower H
      | some h => h := rfl

/-- 65–90 are `A`–`Z`, 97–122 are `a`–`z` -/
theorem toNat_lowerByte (b : UInt8) :
    (lowerByte b).toNat = if 65 ≤ b.toNat ∧ b.toNat ≤ 90 then b.toNat + 32 else b.toNat := by
  unfold lowerByte
  by_cases h : 65 ≤ b ∧ b ≤ 90
  · have h' : 65 ≤ b.toNat ∧ b.toNat ≤ 90 := ⟨UInt8.le_iff_toNat_le.1 h.1, UInt8.le_iff_toNat_le.1 h.2⟩
    rw [if_pos h, if_pos h', UInt8.toNat_add]
    exact Nat.mod_eq_of_lt (by have := h'.2; show b.toNat + 32 < 256; omega)
  · have h' : ¬ (65 ≤ b.toNat ∧ b.toNat ≤ 90) := fun h' => h ⟨UInt8.le_iff_toNat_le.2 h'.1, UInt8.le_iff_toNat_le.2 h'.2⟩
    rw [if_neg h, if_neg h']

theorem lowerByte_special (b c : UInt8) (hc : c = 58 ∨ c = 91 ∨ c = 93) : lowerByte b = c ↔ b = c := by
  rw [← UInt8.toNat_inj, ← UInt8.toNat_inj, toNat_lowerByte]
  have hc' : c.toNat = 58 ∨ c.toNat = 91 ∨ c.toNat = 93 :=
    hc.imp (congrArg UInt8.toNat) (Or.imp (congrArg UInt8.toNat) (congrArg UInt8.toNat))
  split <;> omega

theorem lowerByte_idem (b : UInt8) : lowerByte (lowerByte b) = lowerByte b := by
  rw [← UInt8.toNat_inj, toNat_lowerByte (lowerByte b), toNat_lowerByte b]
  by_cases h : 65 ≤ b.toNat ∧ b.toNat ≤ 90
  · rw [if_pos h, if_neg (by omega)]
  · rw [if_neg h, if_neg h]

theorem asciiLower_idem (s : Str) : asciiLower (asciiLower s) = asciiLower s := by
  unfold asciiLower
  rw [List.map_map]
  apply List.map_congr_left
  intro b _
  exact lowerByte_idem b

theorem not_mem_asciiLower {c : UInt8} (hc : c = 58 ∨ c = 91 ∨ c = 93) {s : Str} (h : c ∉ s) : c ∉ asciiLower s := by
  intro hm
  obtain ⟨b, hb, e⟩ := List.mem_map.1 hm
  rw [(lowerByte_special b c hc).1 e] at hb
  exact h hb

/-! ## the lister and the admission plug-in's rule -/

theorem lister_get_filter (l : Lister) (n n' : Str) :
    Lister.get (l.filter (fun e => decide (e.1 ≠ n))) n' = if n = n' then none else Lister.get l n' :=
  get_filter_ne Lister.get (fun _ => rfl) (fun _ _ _ _ => rfl) l n n'

theorem lister_get_set (l : Lister) (n : Str) (s : Spec) (n' : Str) :
    (l.set n s).get n' = if n = n' then some s else l.get n' := by
  unfold Lister.set
  simp only [Lister.get]
  by_cases h : n = n'
  · simp [h]
  · simp only [h, if_false]
    rw [lister_get_filter]
    simp [h]

theorem lister_get_unset (l : Lister) (n n' : Str) :
    (l.unset n).get n' = if n = n' then none else l.get n' :=
  lister_get_filter l n n'

theorem lister_mem_of_get (l : Lister) (n : Str) (s : Spec) (h : l.get n = some s) : (n, s) ∈ l := by
  induction l with
  | nil => simp [Lister.get] at h
  | cons e l ih =>
    obtain ⟨a, t⟩ := e
    simp only [Lister.get] at h
    by_cases h1 : a = n
    · simp only [h1, if_true, Option.some.injEq] at h
      subst h1; subst h
      exact List.mem_cons_self
    · simp only [h1, if_false] at h
      exact List.mem_cons_of_mem _ (ih h)

theorem disjoint_of_noconflict (lower : Str → Str) (hl : ∀ s, lower (lower s) = lower s) {lister : Lister} {n : Str}
    {s : Spec} (h : pluginConflict lower lister n s = false) {n' : Str} {s' : Spec} (hmem : (n', s') ∈ lister)
    (hne : lower n' ≠ lower n) {k : Str} (hk' : k ∈ objNames lower (lower n') s') : k ∉ objNames lower (lower n) s := by
  intro hk
  -- `k` is `lower x` for a name `x` of the other object, and `lower y` for a name `y` of this one
  obtain ⟨x, hx, rfl⟩ : ∃ x ∈ n' :: s'.aliases, lower x = k := List.mem_map.1 hk'
  obtain ⟨y, hy, e⟩ : ∃ y ∈ n :: s.aliases, lower y = lower x := List.mem_map.1 hk
  unfold pluginConflict at h
  rw [List.any_eq_false] at h
  apply h (n', s') hmem
  rw [if_neg hne]
  refine List.any_eq_true.2 ⟨x, hx, ?_⟩
  rw [Bool.or_eq_true, decide_eq_true_eq, List.any_eq_true]
  rcases List.mem_cons.1 hy with rfl | hy
  · left; rw [hl y, e]
  · exact Or.inr ⟨y, hy, decide_eq_true e⟩

section
variable (lower : Str → Str)

/-! ## `AddWithKey` and `doDelete` seen through `look` -/

theorem look_addWithKey (m : Mgr) (key : Str) (p : Nat) (k : Str) :
    (m.addWithKey lower key p).look k = if lower key = k then some p else m.look k := by
  simp [Mgr.addWithKey, Mgr.look, alookup]

theorem heap_addWithKey (m : Mgr) (key : Str) (p : Nat) : (m.addWithKey lower key p).heap = m.heap := rfl
theorem stopped_addWithKey (m : Mgr) (key : Str) (p : Nat) : (m.addWithKey lower key p).stopped = m.stopped := rfl

theorem look_doDelete (m : Mgr) (name : Str) (stop : Bool) (k : Str) :
    (m.doDelete lower name stop).look k = if k = lower name then none else m.look k := by
  unfold Mgr.doDelete Mgr.look
  cases h : alookup (lower name) m.map with
  | none =>
    by_cases hk : k = lower name
    · simp [hk, h]
    · simp [hk]
  | some p => simp [alookup_aerase, eq_comm]

theorem heap_doDelete (m : Mgr) (name : Str) (stop : Bool) : (m.doDelete lower name stop).heap = m.heap := by
  unfold Mgr.doDelete
  cases alookup (lower name) m.map <;> rfl

theorem mem_stopped_doDelete (m : Mgr) (name : Str) (stop : Bool) (q : Nat) :
    q ∈ (m.doDelete lower name stop).stopped ↔ q ∈ m.stopped ∨ (stop = true ∧ m.look (lower name) = some q) := by
  unfold Mgr.doDelete Mgr.look
  cases h : alookup (lower name) m.map with
  | none => simp
  | some p =>
    cases stop
    · simp
    · simp only [if_true, List.mem_cons, true_and, Option.some.injEq]
      constructor
      · rintro (h | h)
        · exact Or.inr h.symm
        · exact Or.inl h
      · rintro (h | h)
        · exact Or.inr h
        · exact Or.inl h.symm

/-! ## `Get`, `clusterAt` and the two ownership tests -/

theorem get_eq (m : Mgr) (name : Str) :
    m.get lower name = match m.look (lower name) with
      | none => none
      | some p => match m.heap[p]? with
        | none => none
        | some ci => some (p, ci) := rfl

theorem get_some_iff (m : Mgr) (name : Str) (p : Nat) (ci : CI) :
    m.get lower name = some (p, ci) ↔ m.look (lower name) = some p ∧ m.heap[p]? = some ci := by
  constructor
  · intro h
    rw [get_eq] at h
    split at h
    · cases h
    · rename_i q hq
      split at h
      · cases h
      · rename_i ci' hci
        cases h
        exact ⟨hq, hci⟩
  · rintro ⟨h1, h2⟩
    rw [get_eq]
    simp [h1, h2]

theorem get_some_iff_of_lower {m : Mgr} {c : Str} (hc : lower c = c) {p : Nat} {ci : CI} :
    m.get lower c = some (p, ci) ↔ m.look c = some p ∧ m.heap[p]? = some ci := by
  rw [get_some_iff, hc]

theorem get_none_of_look (m : Mgr) (name : Str) (h : m.look (lower name) = none) : m.get lower name = none := by
  rw [get_eq, h]

theorem clusterAt_eq_get (m : Mgr) (name : Str) :
    clusterAt m (lower name) = (m.get lower name).map (·.2.cluster) := by
  unfold clusterAt
  rw [get_eq]
  cases m.look (lower name) with
  | none => rfl
  | some p =>
    show (m.heap[p]?).map _ = Option.map _ (match m.heap[p]? with | none => none | some ci => some (p, ci))
    cases m.heap[p]? <;> rfl

theorem clusterAt_some_iff (m : Mgr) (k c : Str) :
    clusterAt m k = some c ↔ ∃ p ci, m.look k = some p ∧ m.heap[p]? = some ci ∧ ci.cluster = c := by
  unfold clusterAt
  cases m.look k with
  | none => simp
  | some q => simp [Option.map_eq_some_iff]

theorem clusterAt_ite_of_look (m m' : Mgr) (k : Str) (P : Prop) [Decidable P]
    (hl : m'.look k = if P then none else m.look k) (hh : m'.heap = m.heap) :
    clusterAt m' k = if P then none else clusterAt m k := by
  unfold clusterAt
  rw [hl, hh]
  by_cases hP : P
  · rw [if_pos hP, if_pos hP]
  · rw [if_neg hP, if_neg hP]

theorem clusterAt_of_look {m : Mgr} {k : Str} {p : Nat} {ci : CI}
    (h : m.look k = some p) (hci : m.heap[p]? = some ci) : clusterAt m k = some ci.cluster := by
  simp [clusterAt, h, hci]

theorem served_iff (m : Mgr) (name c : Str) :
    (∃ p ci, m.get lower name = some (p, ci) ∧ ci.cluster = c) ↔ clusterAt m (lower name) = some c := by
  rw [clusterAt_eq_get]
  cases m.get lower name with
  | none => simp
  | some pi => exact ⟨fun ⟨_, _, e, h⟩ => by cases e; exact congrArg some h, fun h => ⟨_, _, rfl, Option.some.inj h⟩⟩

theorem ownedBy_eq (m : Mgr) (name c : Str) :
    m.ownedBy lower name c = decide (clusterAt m (lower name) = some c) := by
  unfold Mgr.ownedBy
  rw [clusterAt_eq_get]
  cases m.get lower name with
  | none => rfl
  | some x => simp only [Option.map_some, Option.some.injEq]

theorem heldByOther_eq_false_iff (m : Mgr) (name c : Str) :
    m.heldByOther lower name c = false ↔ clusterAt m (lower name) = none ∨ clusterAt m (lower name) = some c := by
  unfold Mgr.heldByOther
  rw [clusterAt_eq_get]
  cases m.get lower name with
  | none => simp
  | some x => simp

/-! ## the deletion loop -/

/-- the loop over `l` visits key `k` -/
def hits (skip : Str → Bool) (l : List Str) (k : Str) : Bool :=
  l.any (fun sn => !skip sn && decide (lower sn = k))

theorem hits_cons (skip : Str → Bool) (sn : Str) (rest : List Str) (k : Str) :
    hits lower skip (sn :: rest) k = ((!skip sn && decide (lower sn = k)) || hits lower skip rest k) := rfl

theorem hits_iff (skip : Str → Bool) (l : List Str) (k : Str) :
    hits lower skip l k = true ↔ ∃ sn ∈ l, skip sn = false ∧ lower sn = k := by
  simp [hits, List.any_eq_true]

theorem hits_iff_mem (skip : Str → Bool) (l : List Str) (k : Str) (hlow : ∀ n ∈ l, lower n = n) :
    hits lower skip l k = true ↔ k ∈ l ∧ skip k = false := by
  rw [hits_iff]
  constructor
  · rintro ⟨sn, hsn, hs, hk⟩
    rw [hlow sn hsn] at hk
    subst hk
    exact ⟨hsn, hs⟩
  · rintro ⟨h1, h2⟩
    exact ⟨k, h1, h2, hlow k h1⟩

/-- one iteration of `delOwned`, named because the loop and its trace `delOwnedT` are characterised through the same step -/
def delStep (c : Str) (stop : Bool) (skip : Str → Bool) (sn : Str) (m : Mgr) : Mgr :=
  if skip sn then m else if m.ownedBy lower sn c then m.doDelete lower sn stop else m

theorem delOwned_cons (c : Str) (stop : Bool) (skip : Str → Bool) (sn : Str) (rest : List Str) (m : Mgr) :
    delOwned lower c stop skip (sn :: rest) m = delOwned lower c stop skip rest (delStep lower c stop skip sn m) := rfl

theorem heap_delStep (c : Str) (stop : Bool) (skip : Str → Bool) (sn : Str) (m : Mgr) :
    (delStep lower c stop skip sn m).heap = m.heap := by
  unfold delStep
  split
  · rfl
  · split
    · exact heap_doDelete lower m sn stop
    · rfl

theorem heap_delOwned (c : Str) (stop : Bool) (skip : Str → Bool) (l : List Str) (m : Mgr) :
    (delOwned lower c stop skip l m).heap = m.heap := by
  induction l generalizing m with
  | nil => rfl
  | cons sn rest ih => rw [delOwned_cons, ih, heap_delStep]

theorem look_delStep (c : Str) (stop : Bool) (skip : Str → Bool) (sn : Str) (m : Mgr) (k : Str) :
    (delStep lower c stop skip sn m).look k =
      if (!skip sn && decide (lower sn = k)) && decide (clusterAt m k = some c) then none else m.look k := by
  unfold delStep
  by_cases hs : skip sn = true
  · simp [hs]
  · have hs' : skip sn = false := by simpa using hs
    simp only [hs', Bool.false_eq_true, if_false, Bool.not_false, Bool.true_and]
    rw [ownedBy_eq]
    by_cases hk : lower sn = k
    · subst hk
      by_cases ho : clusterAt m (lower sn) = some c
      · simp [ho, look_doDelete]
      · simp [ho]
    · by_cases ho : clusterAt m (lower sn) = some c
      · have : ¬ k = lower sn := fun e => hk e.symm
        simp [ho, look_doDelete, hk, this]
      · simp [ho, hk]

theorem clusterAt_delStep (c : Str) (stop : Bool) (skip : Str → Bool) (sn : Str) (m : Mgr) (k : Str) :
    clusterAt (delStep lower c stop skip sn m) k =
      if (!skip sn && decide (lower sn = k)) && decide (clusterAt m k = some c) then none else clusterAt m k := by
  exact clusterAt_ite_of_look _ _ _ _ (look_delStep lower c stop skip sn m k) (heap_delStep lower c stop skip sn m)

theorem look_delOwned (c : Str) (stop : Bool) (skip : Str → Bool) (l : List Str) (m : Mgr) (k : Str) :
    (delOwned lower c stop skip l m).look k =
      if hits lower skip l k && decide (clusterAt m k = some c) then none else m.look k := by
  induction l generalizing m with
  | nil => simp [delOwned, hits]
  | cons sn rest ih =>
    rw [delOwned_cons, ih, look_delStep, clusterAt_delStep, hits_cons]
    by_cases hc : clusterAt m k = some c
    · by_cases h1 : (!skip sn && decide (lower sn = k)) = true
      · simp [hc, h1]
      · have h1' : (!skip sn && decide (lower sn = k)) = false := by simpa using h1
        simp [hc, h1']
    · simp [hc]

theorem clusterAt_delOwned (c : Str) (stop : Bool) (skip : Str → Bool) (l : List Str) (m : Mgr) (k : Str) :
    clusterAt (delOwned lower c stop skip l m) k =
      if hits lower skip l k && decide (clusterAt m k = some c) then none else clusterAt m k := by
  exact clusterAt_ite_of_look _ _ _ _ (look_delOwned lower c stop skip l m k) (heap_delOwned lower c stop skip l m)

theorem mem_stopped_delStep (c : Str) (stop : Bool) (skip : Str → Bool) (sn : Str) (m : Mgr) (q : Nat) :
    q ∈ (delStep lower c stop skip sn m).stopped ↔ q ∈ m.stopped ∨
      (stop = true ∧ skip sn = false ∧ clusterAt m (lower sn) = some c ∧ m.look (lower sn) = some q) := by
  unfold delStep
  rw [ownedBy_eq]
  by_cases hs : skip sn = true
  · simp [hs]
  · by_cases ho : clusterAt m (lower sn) = some c
    · simp [hs, ho, mem_stopped_doDelete]
    · simp [hs, ho]

theorem mem_stopped_delOwned (c : Str) (stop : Bool) (skip : Str → Bool) (l : List Str) (m : Mgr) (q : Nat) :
    q ∈ (delOwned lower c stop skip l m).stopped ↔ q ∈ m.stopped ∨
      (stop = true ∧ ∃ k, hits lower skip l k = true ∧ clusterAt m k = some c ∧ m.look k = some q) := by
  induction l generalizing m with
  | nil => simp [delOwned, hits]
  | cons sn rest ih =>
    rw [delOwned_cons, ih, mem_stopped_delStep, or_assoc]
    refine or_congr_right ?_
    rw [← and_or_left]
    refine and_congr_right fun _ => ?_
    simp only [clusterAt_delStep, look_delStep, hits_cons]
    constructor
    · rintro (⟨hs, ho, hq⟩ | ⟨k, hk, hc, hq⟩)
      · exact ⟨lower sn, by simp [hs], ho, hq⟩
      · split at hq
        · cases hq
        · rename_i hn
          rw [if_neg hn] at hc
          exact ⟨k, by simp [hk], hc, hq⟩
    · rintro ⟨k, hk, hc, hq⟩
      by_cases hb : (!skip sn && decide (lower sn = k)) = true
      · left
        simp only [Bool.and_eq_true, Bool.not_eq_true', decide_eq_true_eq] at hb
        obtain ⟨hs, rfl⟩ := hb
        exact ⟨hs, hc, hq⟩
      · right
        have hb' : (!skip sn && decide (lower sn = k)) = false := by simpa using hb
        rw [hb', Bool.false_or] at hk
        exact ⟨k, hk, by simp [hb', hc], by simp [hb', hq]⟩

/-! ## the addition loop -/

theorem heap_stopped_addNew (p : Nat) (skip : Str → Bool) (l : List Str) (m : Mgr) :
    (addNew lower p skip l m).heap = m.heap ∧ (addNew lower p skip l m).stopped = m.stopped := by
  induction l generalizing m with
  | nil => exact ⟨rfl, rfl⟩
  | cons n rest ih =>
    unfold addNew
    rw [(ih _).1, (ih _).2]
    split <;> exact ⟨rfl, rfl⟩

theorem look_addNew (p : Nat) (skip : Str → Bool) (l : List Str) (m : Mgr) (k : Str) :
    (addNew lower p skip l m).look k = if hits lower skip l k then some p else m.look k := by
  induction l generalizing m with
  | nil => simp [addNew, hits]
  | cons n rest ih =>
    unfold addNew
    rw [ih, hits_cons]
    by_cases hr : hits lower skip rest k = true
    · simp [hr]
    · have hr' : hits lower skip rest k = false := by simpa using hr
      simp only [hr', Bool.false_eq_true, if_false, Bool.or_false]
      by_cases hs : skip n = true
      · simp [hs]
      · have hs' : skip n = false := by simpa using hs
        simp only [hs', Bool.false_eq_true, if_false, Bool.not_false, Bool.true_and, look_addWithKey,
          decide_eq_true_eq]

/-! ## the states a concurrent reader can see during the two loops -/

/-- key by key `s` answers as `a` or as `b`: what holds of every state a concurrent reader sees while the loops take `a` to `b`,
    and all that `MidOK` asks (`midOK_of_between`) -/
def Between (a b s : Mgr) : Prop := ∀ k, s.look k = a.look k ∨ s.look k = b.look k

theorem Between.of_left {a b c s : Mgr} (hb : Between a c b) (hs : Between a b s) : Between a c s := by
  intro k
  rcases hs k with h | h
  · exact Or.inl h
  · rw [h]; exact hb k

theorem Between.of_right {a b c s : Mgr} (hb : Between a c b) (hs : Between b c s) : Between a c s := by
  intro k
  rcases hs k with h | h
  · rw [h]; exact hb k
  · exact Or.inr h

theorem mem_delOwnedT_cons {c : Str} {stop : Bool} {skip : Str → Bool} {sn : Str} {rest : List Str} {m s : Mgr}
    (hs : s ∈ delOwnedT lower c stop skip (sn :: rest) m) :
    s = delStep lower c stop skip sn m ∨ s ∈ delOwnedT lower c stop skip rest (delStep lower c stop skip sn m) := by
  unfold delOwnedT at hs
  unfold delStep
  by_cases h1 : skip sn = true
  · rw [if_pos h1] at hs ⊢
    exact Or.inr hs
  · rw [if_neg h1] at hs ⊢
    by_cases h2 : m.ownedBy lower sn c = true
    · rw [if_pos h2] at hs ⊢
      exact List.mem_cons.1 hs
    · rw [if_neg h2] at hs ⊢
      exact Or.inr hs

theorem between_delOwnedT (c : Str) (stop : Bool) (skip : Str → Bool) (l : List Str) (m : Mgr) :
    ∀ s ∈ delOwnedT lower c stop skip l m, Between m (delOwned lower c stop skip l m) s := by
  induction l generalizing m with
  | nil => intro s hs; cases hs
  | cons sn rest ih =>
    intro s hs
    rw [delOwned_cons]
    -- a key the iteration deletes stays deleted until the end of the loop
    have hstep : Between m (delOwned lower c stop skip rest (delStep lower c stop skip sn m))
        (delStep lower c stop skip sn m) := by
      intro k
      rw [look_delOwned, look_delStep]
      split
      · right; split <;> rfl
      · exact Or.inl rfl
    rcases mem_delOwnedT_cons lower hs with rfl | h
    · exact hstep
    · exact hstep.of_right (ih _ s h)

theorem mem_addNewT_cons {p : Nat} {skip : Str → Bool} {n : Str} {rest : List Str} {m s : Mgr}
    (hs : s ∈ addNewT lower p skip (n :: rest) m) :
    s = (if skip n then m else m.addWithKey lower n p) ∨
      s ∈ addNewT lower p skip rest (if skip n then m else m.addWithKey lower n p) := by
  unfold addNewT at hs
  by_cases h1 : skip n = true
  · rw [if_pos h1] at hs ⊢
    exact Or.inr hs
  · rw [if_neg h1] at hs ⊢
    exact List.mem_cons.1 hs

theorem between_addNewT (p : Nat) (skip : Str → Bool) (l : List Str) (m : Mgr) :
    ∀ s ∈ addNewT lower p skip l m, Between m (addNew lower p skip l m) s := by
  induction l generalizing m with
  | nil => intro s hs; cases hs
  | cons n rest ih =>
    intro s hs
    unfold addNew
    -- a key the iteration adds keeps its pointer until the end of the loop
    have hstep : Between m (addNew lower p skip rest (if skip n then m else m.addWithKey lower n p))
        (if skip n then m else m.addWithKey lower n p) := by
      intro k
      by_cases hsk : skip n = true
      · rw [if_pos hsk]
        exact Or.inl rfl
      · rw [if_neg hsk, look_addNew, look_addWithKey]
        by_cases hk : lower n = k
        · rw [if_pos hk, ite_self]
          exact Or.inr rfl
        · rw [if_neg hk]
          exact Or.inl rfl
    rcases mem_addNewT_cons lower hs with rfl | h
    · exact hstep
    · exact hstep.of_right (ih _ s h)

/-! ## the two loops of `AddOrUpdateForServerNames` together

The skip tests are variables (`skipO o` for `o ∈ new`, `skipN n` for `n ∈ old`): `Decidable (o ∈ new)` over lists of `Str` is slow to
synthesise. All names are lower-cased. -/

theorem between_addOrUpdate (m1 : Mgr) (c : Str) (old new : List Str) (p : Nat) (skipO skipN : Str → Bool)
    (hso : ∀ o, skipO o = true ↔ o ∈ new) (hnewlow : ∀ n ∈ new, lower n = n) (holdlow : ∀ n ∈ old, lower n = n) :
    ∀ s ∈ delOwnedT lower c false skipO old m1 ++ addNewT lower p skipN new (delOwned lower c false skipO old m1),
      Between m1 (addNew lower p skipN new (delOwned lower c false skipO old m1)) s := by
  -- the state between the two loops: the first loop removes no key that the second adds
  have hmid : Between m1 (addNew lower p skipN new (delOwned lower c false skipO old m1))
      (delOwned lower c false skipO old m1) := by
    intro k
    rw [look_addNew]
    by_cases hn : hits lower skipN new k = true
    · left
      rw [look_delOwned]
      have ho : hits lower skipO old k = false := by
        rw [← Bool.not_eq_true]
        intro ho
        have h := ((hits_iff_mem lower skipO old k holdlow).1 ho).2
        rw [(hso k).2 ((hits_iff_mem lower skipN new k hnewlow).1 hn).1] at h
        cases h
      rw [ho]
      rfl
    · exact Or.inr (if_neg hn).symm
  intro s hs
  rcases List.mem_append.1 hs with h | h
  · exact hmid.of_left (between_delOwnedT lower c false skipO old m1 s h)
  · exact hmid.of_right (between_addNewT lower p skipN new _ s h)

/-- `hold`: the keys of `p` are exactly `old`; `hown`: `p` belongs to `c`, so the deletion loop's ownership test succeeds on every old
    name it does not skip. -/
theorem look_addOrUpdate (m1 : Mgr) (c : Str) (old new : List Str) (p : Nat) (skipO skipN : Str → Bool)
    (hso : ∀ o, skipO o = true ↔ o ∈ new) (hsn : ∀ n, skipN n = true ↔ n ∈ old)
    (hnewlow : ∀ n ∈ new, lower n = n) (holdlow : ∀ n ∈ old, lower n = n)
    (hold : ∀ k, m1.look k = some p ↔ k ∈ old) (hown : ∀ k, m1.look k = some p → clusterAt m1 k = some c) (k : Str) :
    (addNew lower p skipN new (delOwned lower c false skipO old m1)).look k =
      if k ∈ new then some p else if m1.look k = some p then none else m1.look k := by
  rw [look_addNew, look_delOwned]
  have hN : hits lower skipN new k = true ↔ k ∈ new ∧ k ∉ old := by
    rw [hits_iff_mem lower skipN new k hnewlow, ← hsn k, Bool.not_eq_true]
  have hO : hits lower skipO old k = true ↔ k ∈ old ∧ k ∉ new := by
    rw [hits_iff_mem lower skipO old k holdlow, ← hso k, Bool.not_eq_true]
  -- `by_cases` would first search an instance of `Decidable (k ∈ new)`, a long search for lists of `Str`
  rcases Classical.em (k ∈ new) with hk | hk
  · rw [if_pos hk]
    rcases Classical.em (k ∈ old) with ho | ho
    · rw [if_neg (fun h => (hN.1 h).2 ho), if_neg (fun h => (hO.1 (Bool.and_eq_true_iff.1 h).1).2 hk)]
      exact (hold k).2 ho
    · rw [if_pos (hN.2 ⟨hk, ho⟩)]
  · rw [if_neg hk, if_neg (fun h => hk (hN.1 h).1)]
    rcases Classical.em (k ∈ old) with ho | ho
    · rw [if_pos ((hold k).2 ho), hO.2 ⟨ho, hk⟩, decide_eq_true (hown k ((hold k).2 ho))]
      rfl
    · rw [if_neg (mt (hold k).1 ho), if_neg (fun h => ho (hO.1 (Bool.and_eq_true_iff.1 h).1).1)]

/-! ## lower-cased names; consequences of the invariant -/

/-- `objNames` and `loadServerNames` both have the form `c :: aliases.map lower`, whose members are lower-cased when `c` is -/
theorem lower_mem_cons_map (hl : ∀ s, lower (lower s) = lower s) {c : Str} (hc : lower c = c) (aliases : List Str)
    (n : Str) (hn : n ∈ c :: aliases.map lower) : lower n = n := by
  rcases List.mem_cons.1 hn with h | h
  · rw [h]; exact hc
  · obtain ⟨a, _, rfl⟩ := List.mem_map.1 h
    exact hl a

theorem objNames_lower (hl : ∀ s, lower (lower s) = lower s) (c : Str) (hc : lower c = c) (spec : Spec) :
    ∀ n ∈ objNames lower c spec, lower n = n :=
  lower_mem_cons_map lower hl hc spec.aliases

theorem names_lower (hl : ∀ s, lower (lower s) = lower s) (ci : CI) (hc : lower ci.cluster = ci.cluster) :
    ∀ n ∈ loadServerNames lower ci, lower n = n :=
  lower_mem_cons_map lower hl hc ci.aliases

theorem key_lower {m : Mgr} (hl : ∀ s, lower (lower s) = lower s) (hI : Inv lower m) {k : Str} {p : Nat}
    (h : m.look k = some p) : lower k = k := by
  obtain ⟨ci, hci⟩ := hI.wf k p h
  exact names_lower lower hl ci (hI.low p ci hci) k (hI.mem k p ci h hci)

theorem look_of_clusterAt {m : Mgr} (hI : Inv lower m) {k c : Str} (h : clusterAt m k = some c) :
    m.look k = m.look c := by
  obtain ⟨p, ci, h1, h2, rfl⟩ := (clusterAt_some_iff m k c).1 h
  rw [h1, hI.all k p ci h1 h2 ci.cluster List.mem_cons_self]

theorem owner_unique {m : Mgr} (hI : Inv lower m) {k k' c : Str}
    (h : clusterAt m k = some c) (h' : clusterAt m k' = some c) : m.look k = m.look k' := by
  rw [look_of_clusterAt lower hI h, look_of_clusterAt lower hI h']

theorem clusterAt_ne_of_get_none {m : Mgr} (hI : Inv lower m) {c : Str} (hc : lower c = c)
    (hg : m.get lower c = none) (k : Str) : clusterAt m k ≠ some c := by
  intro h
  obtain ⟨p, ci, h1, h2, _⟩ := (clusterAt_some_iff m k c).1 h
  rw [look_of_clusterAt lower hI h] at h1
  have hg' := (get_some_iff_of_lower lower hc).2 ⟨h1, h2⟩
  rw [hg] at hg'
  cases hg'

theorem look_none_of_clusterAt {m : Mgr} (hI : Inv lower m) {k : Str} (h : clusterAt m k = none) : m.look k = none := by
  cases hk : m.look k with
  | none => rfl
  | some q =>
    obtain ⟨ci, hci⟩ := hI.wf k q hk
    rw [clusterAt_of_look hk hci] at h
    cases h

/-! ## the invariant pointer by pointer -/

/-- what `Inv` says of one pointer in use; `Inv` is this for every such pointer (`serves_of_inv`, `inv_of_serves`), so an event need
    only establish it for the pointer it writes and show the others `Untouched` -/
structure Serves (m : Mgr) (q : Nat) (ci : CI) : Prop where
  cell : m.heap[q]? = some ci
  alive : q ∉ m.stopped
  keys : ∀ n, m.look n = some q ↔ n ∈ loadServerNames lower ci

theorem serves_of_inv {m : Mgr} (hI : Inv lower m) {k : Str} {q : Nat} {ci : CI} (hq : m.look k = some q)
    (hci : m.heap[q]? = some ci) : Serves lower m q ci :=
  ⟨hci, hI.alive k q hq, fun n => ⟨fun h => hI.mem n q ci h hci, hI.all k q ci hq hci n⟩⟩

theorem inv_of_serves {m : Mgr} (h : ∀ k q, m.look k = some q → ∃ ci, Serves lower m q ci)
    (hlow : ∀ (q : Nat) (ci : CI), m.heap[q]? = some ci → lower ci.cluster = ci.cluster)
    (hswf : ∀ q, q ∈ m.stopped → ∃ ci, m.heap[q]? = some ci) : Inv lower m := by
  have hcell : ∀ {k q ci}, m.look k = some q → m.heap[q]? = some ci → Serves lower m q ci := fun hq hci => by
    obtain ⟨ci', hs⟩ := h _ _ hq
    cases hci.symm.trans hs.cell
    exact hs
  exact {
    wf := fun k q hq => (h k q hq).imp fun _ h => h.cell
    mem := fun k q ci hq hci => ((hcell hq hci).keys k).1 hq
    all := fun k q ci hq hci n => ((hcell hq hci).keys n).2
    low := hlow
    alive := fun k q hq => (h k q hq).elim fun _ h => h.alive
    swf := hswf }

/-- nothing about pointer `q` differs between `m` and `m'`: `Serves` carries over (`serves_of_untouched`), and `Frame c` is this for
    the pointers of the other clusters (`frame_of_untouched`) -/
structure Untouched (m m' : Mgr) (q : Nat) : Prop where
  cell : m'.heap[q]? = m.heap[q]?
  stopped : q ∈ m'.stopped ↔ q ∈ m.stopped
  keys : ∀ k, m'.look k = some q ↔ m.look k = some q

theorem serves_of_untouched {m m' : Mgr} {q : Nat} {ci : CI} (hs : Serves lower m q ci) (hu : Untouched m m' q) :
    Serves lower m' q ci :=
  ⟨hu.cell.trans hs.cell, mt hu.stopped.1 hs.alive, fun n => (hu.keys n).trans (hs.keys n)⟩

theorem frame_of_untouched {c : Str} {m m' : Mgr}
    (hfwd : ∀ k q ci, m.look k = some q → m.heap[q]? = some ci → ci.cluster ≠ c → Untouched m m' q)
    (hbwd : ∀ k q ci, m'.look k = some q → m'.heap[q]? = some ci → ci.cluster ≠ c → Untouched m m' q)
    (honly : ∀ k, m'.look k = m.look k ∨ clusterAt m' k = some c ∨ clusterAt m k = some c) : Frame c m m' := by
  refine ⟨fun k q ci hq hci hne => ?_, honly, fun k q ci hq hci hne => ?_⟩
  · have hu := hfwd k q ci hq hci hne
    exact ⟨(hu.keys k).2 hq, hu.cell.trans hci, hu.stopped⟩
  · have hu := hbwd k q ci hq hci hne
    exact ⟨(hu.keys k).1 hq, hu.cell.symm.trans hci⟩

/-! ## what a delete event does -/

/-- the effect of `DeleteForServerNames` on a state satisfying the invariant -/
structure DeletedChar (c : Str) (m m' : Mgr) : Prop where
  heap : m'.heap = m.heap
  look : ∀ k, m'.look k = if clusterAt m k = some c then none else m.look k
  stopped : ∀ q, q ∈ m'.stopped ↔ q ∈ m.stopped ∨ ∃ k, m.look k = some q ∧ clusterAt m k = some c

theorem deleteForServerNames_char (hl : ∀ s, lower (lower s) = lower s) (m : Mgr) (hI : Inv lower m)
    (c : Str) (hc : lower c = c) : DeletedChar c m (deleteForServerNames lower m c) := by
  unfold deleteForServerNames
  cases hg : m.get lower c with
  | none =>
    have hn := clusterAt_ne_of_get_none lower hI hc hg
    exact ⟨rfl, fun k => (if_neg (hn k)).symm, fun q => ⟨Or.inl, fun h => h.elim id fun ⟨k, _, h⟩ => absurd h (hn k)⟩⟩
  | some pc =>
    obtain ⟨p, ci⟩ := pc
    obtain ⟨hp, hci⟩ := (get_some_iff_of_lower lower hc).1 hg
    show DeletedChar c m (delOwned lower c true (fun _ => false) (loadServerNames lower ci) m)
    -- a key of cluster `c` resolves to `p`, so it is one of the names the loop runs over
    have hhit : ∀ k, clusterAt m k = some c → hits lower (fun _ => false) (loadServerNames lower ci) k = true := by
      intro k hk
      have hkp : m.look k = some p := by rw [look_of_clusterAt lower hI hk, hp]
      exact (hits_iff lower _ _ k).2 ⟨k, hI.mem k p ci hkp hci, rfl, key_lower lower hl hI hkp⟩
    refine ⟨heap_delOwned lower _ _ _ _ _, fun k => ?_, fun q => ?_⟩
    · rw [look_delOwned]
      by_cases hk : clusterAt m k = some c
      · rw [hhit k hk, decide_eq_true hk, if_pos hk]
        rfl
      · rw [decide_eq_false hk, Bool.and_false, if_neg hk]
        rfl
    · rw [mem_stopped_delOwned]
      exact or_congr_right ⟨fun ⟨_, k, _, hk, hq⟩ => ⟨k, hq, hk⟩, fun ⟨k, hq, hk⟩ => ⟨rfl, k, hhit k hk, hk, hq⟩⟩

theorem between_deleteForServerNamesT (m : Mgr) (c : Str) :
    ∀ s ∈ deleteForServerNamesT lower m c, Between m (deleteForServerNames lower m c) s := by
  unfold deleteForServerNamesT deleteForServerNames
  cases m.get lower c with
  | none => intro s hs; cases hs
  | some pi => exact between_delOwnedT lower _ _ _ _ m

section
variable {c : Str} {m m' : Mgr} (h : DeletedChar c m m')
include h

theorem clusterAt_deleted (k : Str) :
    clusterAt m' k = if clusterAt m k = some c then none else clusterAt m k :=
  clusterAt_ite_of_look m m' k _ (h.look k) h.heap

theorem untouched_of_deleted {q : Nat} {ci : CI} (hci : m.heap[q]? = some ci) (hne : ci.cluster ≠ c) :
    Untouched m m' q := by
  have hcl : ∀ k, m.look k = some q → clusterAt m k ≠ some c := fun k hk => by
    rw [clusterAt_of_look hk hci]
    exact fun e => hne (Option.some.inj e)
  refine ⟨by rw [h.heap], (h.stopped q).trans (or_iff_left fun ⟨k, hk, hk'⟩ => hcl k hk hk'), fun k => ?_⟩
  rw [h.look]
  constructor
  · intro hk
    split at hk
    · cases hk
    · exact hk
  · intro hk
    rw [if_neg (hcl k hk)]
    exact hk

theorem inv_of_deleted (hI : Inv lower m) : Inv lower m' := by
  refine inv_of_serves lower (fun k q hq => ?_) (h.heap ▸ hI.low) fun q hs => ?_
  · -- `q` is still in use, so it serves another cluster than `c`
    rw [h.look] at hq
    split at hq
    · cases hq
    · rename_i hn
      obtain ⟨ci, hci⟩ := hI.wf k q hq
      exact ⟨ci, serves_of_untouched lower (serves_of_inv lower hI hq hci)
        (untouched_of_deleted h hci fun e => hn (by rw [clusterAt_of_look hq hci, e]))⟩
  · rw [h.heap]
    rcases (h.stopped q).1 hs with h3 | ⟨k', h3, _⟩
    · exact hI.swf q h3
    · exact hI.wf k' q h3

theorem frame_of_deleted : Frame c m m' := by
  refine frame_of_untouched (fun _ q ci _ hci => untouched_of_deleted h hci)
    (fun _ q ci _ hci => untouched_of_deleted h (h.heap ▸ hci)) fun k => ?_
  by_cases hk : clusterAt m k = some c
  · exact Or.inr (Or.inr hk)
  · left; rw [h.look, if_neg hk]

theorem deleted_of_char (hc : lower c = c) : Deleted lower c m m' := by
  refine ⟨?_, ?_⟩
  · intro k hk
    rw [clusterAt_deleted h] at hk
    split at hk
    · cases hk
    · rename_i hn; exact hn hk
  · intro p ci hg hcl
    obtain ⟨hp, hci⟩ := (get_some_iff_of_lower lower hc).1 hg
    rw [h.stopped]
    right
    refine ⟨c, hp, ?_⟩
    rw [clusterAt_of_look hp hci, hcl]

end

/-! ## the conflict checks -/

/-- no name of `names` is held by a cluster other than `c` -/
def FreeFor (m : Mgr) (c : Str) (names : List Str) : Prop :=
  ∀ k ∈ names, clusterAt m k = none ∨ clusterAt m k = some c

theorem free_of_noconflict (m : Mgr) (c : Str) (old new : List Str) (hnewlow : ∀ n ∈ new, lower n = n) (hne : old ≠ new)
    (h : checkServerNameConflict lower m c old new = false) : FreeFor m c new := by
  intro n hn
  unfold checkServerNameConflict at h
  rw [if_neg hne, Bool.or_eq_false_iff, List.any_eq_false] at h
  have hf := (heldByOther_eq_false_iff lower m n c).1 (Bool.eq_false_iff.2 (h.1 n hn))
  rwa [hnewlow n hn] at hf

theorem noconflict_of_free (m : Mgr) (c : Str) (old new : List Str) (hnewlow : ∀ n ∈ new, lower n = n)
    (holdlow : ∀ n ∈ old, lower n = n) (h1 : FreeFor m c new) (h2 : FreeFor m c old) :
    checkServerNameConflict lower m c old new = false := by
  have held : ∀ names, (∀ n ∈ names, lower n = n) → FreeFor m c names → ∀ n ∈ names, m.heldByOther lower n c = false :=
    fun names hlow hf n hn => (heldByOther_eq_false_iff lower m n c).2 (by rw [hlow n hn]; exact hf n hn)
  unfold checkServerNameConflict
  split
  · rfl
  · rw [Bool.or_eq_false_iff, List.any_eq_false, List.any_eq_false]
    refine ⟨fun n hn => by rw [held new hnewlow h1 n hn]; exact Bool.false_ne_true, fun o ho => ?_⟩
    rw [held old holdlow h2 o ho, Bool.and_false]
    exact Bool.false_ne_true

theorem cluster_of_free {m : Mgr} {c : Str} {names : List Str} (hfree : FreeFor m c names) (hmem : c ∈ names) {p : Nat}
    {info : CI} (hp : m.look c = some p) (hci : m.heap[p]? = some info) : info.cluster = c := by
  have h := hfree c hmem
  rw [clusterAt_of_look hp hci] at h
  exact h.elim (fun h => nomatch h) Option.some.inj

/-- Under `Inv` every old name resolves to the very `ClusterInfo` found under `c` (`hcur`), which is `c`'s own as soon as `c`, a new
    name, is free: the check's half about dropped old names adds nothing to the half about the new ones. -/
theorem noconflict_iff (hl : ∀ s, lower (lower s) = lower s) {m : Mgr} (hI : Inv lower m) {c : Str} (hc : lower c = c)
    (spec : Spec) :
    checkUpstreamServerNameConflict lower m c spec = false ↔ FreeFor m c (objNames lower c spec) := by
  have hnewlow := objNames_lower lower hl c hc spec
  unfold checkUpstreamServerNameConflict
  cases hg : m.get lower c with
  | none =>
    exact ⟨free_of_noconflict lower m c [] _ hnewlow (List.cons_ne_nil _ _).symm,
      fun h => noconflict_of_free lower m c [] _ hnewlow (fun _ ho => nomatch ho) h fun _ ho => nomatch ho⟩
  | some pi =>
    obtain ⟨p, info⟩ := pi
    obtain ⟨hp, hci⟩ := (get_some_iff_of_lower lower hc).1 hg
    have hcur : ∀ k ∈ loadServerNames lower info, clusterAt m k = some info.cluster := fun k hk =>
      clusterAt_of_look (hI.all c p info hp hci k hk) hci
    constructor
    · intro h
      by_cases he : loadServerNames lower info = objNames lower c spec
      · intro k hk
        right
        rw [← he] at hk
        rw [hcur k hk, (List.cons.inj he).1]
      · exact free_of_noconflict lower m c _ _ hnewlow he h
    · intro h
      refine noconflict_of_free lower m c _ _ hnewlow (names_lower lower hl info (hI.low p info hci)) h fun o ho => ?_
      rw [hcur o ho, cluster_of_free h List.mem_cons_self hp hci]
      exact Or.inr rfl

/-! ## what an applied create/update event does -/

/-- the contract of `AddOrUpdateForServerNames`, in terms of the pointer `p` it serves -/
theorem addOrUpdate_spec (hl : ∀ s, lower (lower s) = lower s) {m1 : Mgr} {p : Nat} {ci : CI} (hci : m1.heap[p]? = some ci)
    (hlow : lower ci.cluster = ci.cluster) {old : List Str} (holdlow : ∀ n ∈ old, lower n = n)
    (hold : ∀ k, m1.look k = some p ↔ k ∈ old)
    (hfree : ∀ k ∈ loadServerNames lower ci, m1.look k = none ∨ m1.look k = some p) :
    ∃ m2, addOrUpdateForServerNames lower m1 old p = some m2 ∧ m2.heap = m1.heap ∧ (∀ q, q ∈ m2.stopped ↔ q ∈ m1.stopped) ∧
      (∀ k, m2.look k = if k ∈ loadServerNames lower ci then some p
        else if m1.look k = some p then none else m1.look k) ∧
      ∀ s ∈ addOrUpdateForServerNamesT lower m1 old p, Between m1 m2 s := by
  have hnewlow := names_lower lower hl ci hlow
  have hown : ∀ k, m1.look k = some p → clusterAt m1 k = some ci.cluster := fun k h => clusterAt_of_look h hci
  unfold addOrUpdateForServerNames addOrUpdateForServerNamesT
  rw [hci]
  simp only
  by_cases he : old = loadServerNames lower ci
  · rw [if_pos he, if_pos he]
    refine ⟨_, rfl, rfl, fun _ => Iff.rfl, fun k => ?_, fun s hs => nomatch hs⟩
    rw [← he]
    rcases Classical.em (k ∈ old) with ho | ho
    · rw [if_pos ho]; exact (hold k).2 ho
    · rw [if_neg ho, if_neg (mt (hold k).1 ho)]
  · have hcc : checkServerNameConflict lower m1 ci.cluster old (loadServerNames lower ci) = false :=
      noconflict_of_free lower m1 _ _ _ hnewlow holdlow
        (fun n hn => (hfree n hn).imp (fun h => by rw [clusterAt, h]) (hown n))
        (fun o ho => Or.inr (hown o ((hold o).2 ho)))
    rw [if_neg he, if_neg he, hcc, if_neg Bool.false_ne_true, if_neg Bool.false_ne_true]
    refine ⟨_, rfl, ?_, fun q => ?_, fun k => ?_,
      between_addOrUpdate lower _ _ old _ p _ _ (fun _ => decide_eq_true_iff) hnewlow holdlow⟩
    · rw [(heap_stopped_addNew lower _ _ _ _).1, heap_delOwned]
    · rw [(heap_stopped_addNew lower _ _ _ _).2, mem_stopped_delOwned]
      exact or_iff_left fun h => Bool.false_ne_true h.1
    · exact look_addOrUpdate lower m1 _ old _ p _ _ (fun _ => decide_eq_true_iff) (fun _ => decide_eq_true_iff)
        hnewlow holdlow hold hown k

/-- what a creation and an update have in common when they call `AddOrUpdateForServerNames` on heap `heap1`, and all that
    `applied_char` asks of either -/
structure Prepared (c : Str) (spec : Spec) (p : Nat) (old : List Str) (heap1 : List CI) (m : Mgr) : Prop where
  cell : heap1[p]? = some ⟨c, spec.aliases, spec.cert, spec.ca⟩
  other : ∀ q, q ≠ p → heap1[q]? = m.heap[q]?
  keys : ∀ k, m.look k = some p ↔ k ∈ old
  owner : ∀ k, clusterAt m k = some c ↔ m.look k = some p
  alive : p ∉ m.stopped

/-- the effect of an applied create/update event for `c` on a state satisfying the invariant -/
structure AppliedChar (c : Str) (spec : Spec) (p : Nat) (old : List Str) (m m' : Mgr) : Prop
    extends Prepared c spec p old m'.heap m where
  stopped : ∀ q, q ∈ m'.stopped ↔ q ∈ m.stopped
  look : ∀ k, m'.look k = if k ∈ objNames lower c spec then some p else if m.look k = some p then none else m.look k
  free : ∀ k ∈ objNames lower c spec, m.look k = none ∨ m.look k = some p

theorem applied_char (hl : ∀ s, lower (lower s) = lower s) {m : Mgr} (hI : Inv lower m) {c : Str} (hc : lower c = c)
    {spec : Spec} (hfree : FreeFor m c (objNames lower c spec)) {p : Nat} {old : List Str} {heap1 : List CI}
    (hprep : Prepared c spec p old heap1 m) :
    ∃ m2, addOrUpdateForServerNames lower { m with heap := heap1 } old p = some m2 ∧
      AppliedChar lower c spec p old m m2 ∧
      ∀ s ∈ addOrUpdateForServerNamesT lower { m with heap := heap1 } old p, Between m m2 s := by
  have hfree' : ∀ k ∈ objNames lower c spec, m.look k = none ∨ m.look k = some p := fun k hk =>
    (hfree k hk).imp (look_none_of_clusterAt lower hI) (hprep.owner k).1
  have hlow : ∀ n ∈ old, lower n = n := fun n hn => key_lower lower hl hI ((hprep.keys n).2 hn)
  obtain ⟨m2, hm2, hheap, hstop, hlook, hbet⟩ :=
    addOrUpdate_spec lower hl (m1 := { m with heap := heap1 }) hprep.cell hc hlow hprep.keys hfree'
  exact ⟨m2, hm2, ⟨hheap ▸ hprep, hstop, hlook, hfree'⟩, hbet⟩

theorem prepared_create {m : Mgr} (hI : Inv lower m) {c : Str} (hc : lower c = c) (spec : Spec)
    (hg : m.get lower c = none) :
    Prepared c spec m.heap.length [] (m.heap ++ [⟨c, spec.aliases, spec.cert, spec.ca⟩]) m := by
  -- the new pointer is fresh: nothing resolves to it, nothing stopped it
  have hfresh : ∀ q, (∃ ci, m.heap[q]? = some ci) → q ≠ m.heap.length :=
    fun q ⟨ci, hci⟩ => Nat.ne_of_lt (lt_of_getElem?_some hci)
  have hnokey : ∀ k, m.look k ≠ some m.heap.length := fun k hk => hfresh _ (hI.wf k _ hk) rfl
  exact ⟨List.getElem?_concat_length, fun q hq => (getElem?_concat _ _ q).trans (if_neg hq),
    fun k => ⟨fun h => absurd h (hnokey k), fun h => nomatch h⟩,
    fun k => ⟨fun h => absurd h (clusterAt_ne_of_get_none lower hI hc hg k), fun h => absurd h (hnokey k)⟩,
    fun hs => hfresh _ (hI.swf _ hs) rfl⟩

theorem prepared_update {m : Mgr} (hI : Inv lower m) {c : Str} (spec : Spec)
    {p : Nat} {info : CI} (hp : m.look c = some p) (hci : m.heap[p]? = some info) (hcl : info.cluster = c) :
    Prepared c spec p (loadServerNames lower info) (m.heap.set p (info.sync spec)) m := by
  refine ⟨?_, fun q hq => List.getElem?_set_ne (Ne.symm hq), (serves_of_inv lower hI hp hci).keys,
    fun k => ⟨fun h => ?_, fun h => ?_⟩, hI.alive c p hp⟩
  · rw [List.getElem?_set_self (lt_of_getElem?_some hci), CI.sync, hcl]
  · rw [look_of_clusterAt lower hI h, hp]
  · rw [clusterAt_of_look h hci, hcl]

/-! ## consequences of the characterisation of an applied event -/

section
variable {c : Str} {spec : Spec} {p : Nat} {old : List Str} {m m' : Mgr} (h : AppliedChar lower c spec p old m m')
include h

theorem serves_of_applied : Serves lower m' p ⟨c, spec.aliases, spec.cert, spec.ca⟩ := by
  refine ⟨h.cell, mt (h.stopped p).1 h.alive, fun k => ?_⟩
  show m'.look k = some p ↔ k ∈ objNames lower c spec
  rw [h.look]
  constructor
  · intro hk
    split at hk
    · assumption
    · split at hk
      · cases hk
      · rename_i hn
        exact absurd hk hn
  · intro hk
    rw [if_pos hk]

theorem untouched_of_applied {q : Nat} (hne : q ≠ p) : Untouched m m' q := by
  refine ⟨h.other q hne, h.stopped q, fun k => ?_⟩
  rw [h.look]
  constructor
  · intro hq
    split at hq
    · exact absurd (Option.some.inj hq).symm hne
    · split at hq
      · cases hq
      · exact hq
  · intro hq
    have hqp : m.look k ≠ some p := fun e => hne (Option.some.inj (hq.symm.trans e))
    rw [if_neg (fun hk => (h.free k hk).elim (fun e => nomatch hq.symm.trans e) hqp), if_neg hqp]
    exact hq

theorem inv_of_applied (hc : lower c = c) (hI : Inv lower m) : Inv lower m' := by
  refine inv_of_serves lower (fun k q hq => ?_) (fun q ci hci => ?_) fun q hs => ?_
  · by_cases hqp : q = p
    · subst hqp
      exact ⟨_, serves_of_applied lower h⟩
    · have hu := untouched_of_applied lower h hqp
      have hq0 := (hu.keys k).1 hq
      obtain ⟨ci, hci⟩ := hI.wf k q hq0
      exact ⟨ci, serves_of_untouched lower (serves_of_inv lower hI hq0 hci) hu⟩
  · by_cases hqp : q = p
    · subst hqp
      rw [h.cell] at hci; cases hci
      exact hc
    · rw [h.other q hqp] at hci
      exact hI.low q ci hci
  · by_cases hqp : q = p
    · subst hqp; exact ⟨_, h.cell⟩
    · rw [h.other q hqp]; exact hI.swf q ((h.stopped q).1 hs)

theorem frame_of_applied : Frame c m m' := by
  refine frame_of_untouched (fun k q ci hq hci hcl => untouched_of_applied lower h ?_)
    (fun k q ci hq hci hcl => untouched_of_applied lower h ?_) fun k => ?_
  · -- `p` serves `c` before …
    rintro rfl
    exact hcl (Option.some.inj ((clusterAt_of_look hq hci).symm.trans ((h.owner k).2 hq)))
  · -- … and afterwards
    rintro rfl
    exact hcl (congrArg CI.cluster (Option.some.inj (hci.symm.trans h.cell)))
  · by_cases hk : m'.look k = some p
    · exact Or.inr (Or.inl (clusterAt_of_look hk h.cell))
    · by_cases hn : m.look k = some p
      · exact Or.inr (Or.inr ((h.owner k).2 hn))
      · have hmem : k ∉ objNames lower c spec := fun hmem => hk (((serves_of_applied lower h).keys k).2 hmem)
        left; rw [h.look, if_neg hmem, if_neg hn]

theorem applied_of_char (hc : lower c = c) : Applied lower c spec m' := by
  have hs := serves_of_applied lower h
  exact ⟨⟨p, _, (get_some_iff_of_lower lower hc).2 ⟨(hs.keys c).2 List.mem_cons_self, hs.cell⟩, rfl, rfl, rfl, rfl, hs.alive,
    hs.keys⟩⟩

end

/-! ## one handler invocation -/

/-- what `syncUpstreamCluster` does to a state satisfying the invariant: nothing (requeue), a deletion or an application -/
inductive StepChar (c : Str) (m : Mgr) : Option Spec → Mgr → Outcome → Prop
  | requeue (spec : Spec) {o : Outcome} : o.requeue = true →
      ¬ FreeFor m c (objNames lower c spec) ∨ spec.bad = true → StepChar c m (some spec) m o
  | deleted {m' : Mgr} : DeletedChar c m m' → StepChar c m none m' .deleted
  | applied (spec : Spec) (p : Nat) (old : List Str) {m' : Mgr} {o : Outcome} : o.requeue = false →
      AppliedChar lower c spec p old m m' → StepChar c m (some spec) m' o

/-- Once the conflict check has passed, the inner `AddOrUpdateForServerNames` cannot fail under `Inv` (`applied_char`) and the
    `ClusterInfo` found carries the cluster's name (`cluster_of_free`): neither the `*AddFailed` outcomes nor the name-mismatch
    branch arise. -/
theorem sync_char (hl : ∀ s, lower (lower s) = lower s) (m : Mgr) (hI : Inv lower m) (name : Str)
    (latest : Option Spec) :
    StepChar lower (lower name) m latest (syncUpstreamCluster lower m name latest).1
      (syncUpstreamCluster lower m name latest).2 ∧
    ∀ s ∈ syncTrace lower m name latest, Between m (syncUpstreamCluster lower m name latest).1 s := by
  have hc : lower (lower name) = lower name := hl name
  unfold syncUpstreamCluster syncTrace
  cases latest with
  | none =>
    exact ⟨.deleted (deleteForServerNames_char lower hl m hI _ hc), between_deleteForServerNamesT lower m _⟩
  | some spec =>
    simp only
    by_cases hchk : checkUpstreamServerNameConflict lower m (lower name) spec = true
    · rw [if_pos hchk, if_pos hchk]
      refine ⟨.requeue spec rfl (Or.inl fun hf => ?_), fun s hs => nomatch hs⟩
      rw [(noconflict_iff lower hl hI hc spec).2 hf] at hchk
      cases hchk
    · rw [if_neg hchk, if_neg hchk]
      have hfree := (noconflict_iff lower hl hI hc spec).1 (Bool.not_eq_true _ ▸ hchk)
      cases hg : m.get lower (lower name) with
      | none =>
        simp only
        by_cases hb : spec.bad = true
        · rw [if_pos hb, if_pos hb]
          unfold deleteForServerNames deleteForServerNamesT
          rw [hg]
          exact ⟨.requeue spec rfl (Or.inr hb), fun s hs => nomatch hs⟩
        · rw [if_neg hb, if_neg hb]
          obtain ⟨m2, hm2, hchar, hbet⟩ := applied_char lower hl hI hc hfree (prepared_create lower hI hc spec hg)
          rw [hm2]
          exact ⟨.applied spec _ _ rfl hchar, hbet⟩
      | some pi =>
        obtain ⟨p, info⟩ := pi
        obtain ⟨hp, hci⟩ := (get_some_iff_of_lower lower hc).1 hg
        -- `lower name` is one of the claimed names, so it is not held by another cluster
        have hcl := cluster_of_free hfree List.mem_cons_self hp hci
        obtain ⟨m2, hm2, hchar, hbet⟩ := applied_char lower hl hI hc hfree (prepared_update lower hI spec hp hci hcl)
        simp only
        rw [if_neg (not_not_intro hcl), if_neg (not_not_intro hcl)]
        by_cases hb : spec.bad = true
        · rw [if_pos hb, if_pos hb]
          exact ⟨.requeue spec rfl (Or.inr hb), fun s hs => nomatch hs⟩
        · rw [if_neg hb, if_neg hb, hm2]
          exact ⟨.applied spec p _ rfl hchar, hbet⟩

/-! ## one handler invocation, in the specification's terms -/

theorem frame_refl (c : Str) (m : Mgr) : Frame c m m :=
  ⟨fun _ _ _ hp hci _ => ⟨hp, hci, Iff.rfl⟩, fun _ => Or.inl rfl, fun _ _ _ hp hci _ => ⟨hp, hci⟩⟩

section
variable {c : Str} {latest : Option Spec} {m m' : Mgr} {o : Outcome} (h : StepChar lower c m latest m' o)
include h

theorem inv_of_step (hc : lower c = c) (hI : Inv lower m) : Inv lower m' := by
  cases h with
  | requeue => exact hI
  | deleted hd => exact inv_of_deleted lower hd hI
  | applied _ _ _ _ ha => exact inv_of_applied lower ha hc hI

theorem stepOK_of_step (hc : lower c = c) : StepOK lower c latest o.requeue m m' := by
  unfold StepOK
  cases h with
  | requeue _ hr =>
    rw [hr, if_pos rfl]
    exact ⟨frame_refl c m, fun _ => rfl, rfl, fun _ => Iff.rfl⟩
  | deleted hd => exact ⟨frame_of_deleted hd, deleted_of_char lower hd hc⟩
  | applied spec _ _ hr ha =>
    rw [hr]
    exact ⟨frame_of_applied lower ha, applied_of_char lower ha hc⟩

theorem same_of_requeue (hr : o.requeue = true) :
    m' = m ∧ ∃ spec, latest = some spec ∧ (¬ FreeFor m c (objNames lower c spec) ∨ spec.bad = true) := by
  cases h with
  | requeue spec _ hwhy => exact ⟨rfl, spec, rfl, hwhy⟩
  | deleted => cases hr
  | applied _ _ _ hr' => rw [hr'] at hr; cases hr

end

theorem midOK_of_between {m m' s : Mgr} (hb : Between m m' s) : MidOK m m' s := by
  refine ⟨fun k p h1 h2 => ?_, fun k q hq => ?_⟩
  · rcases hb k with h3 | h3
    · rw [h3]; exact h1
    · rw [h3]; exact h2
  · exact (hb k).imp (fun h3 => h3.symm.trans hq) (fun h3 => h3.symm.trans hq)

/-! ## consequences of `Applied`, `Frame` and `Mirror` -/

theorem keys_of_applied {m : Mgr} (hI : Inv lower m) {c : Str} {spec : Spec} (ha : Applied lower c spec m) (k : Str) :
    clusterAt m k = some c ↔ k ∈ objNames lower c spec := by
  obtain ⟨p, ci, hg, hcl, _, _, _, _, hkeys⟩ := ha.served
  obtain ⟨hp, hci⟩ := (get_some_iff lower m c p ci).1 hg
  rw [← hkeys]
  constructor
  · intro h
    rw [owner_unique lower hI h (hcl ▸ clusterAt_of_look hp hci), hp]
  · intro h
    rw [clusterAt_of_look h hci, hcl]

theorem iff_of_applied (m : Mgr) (hI : Inv lower m) (c : Str) (spec : Spec) (ha : Applied lower c spec m)
    (H : Str) :
    (∃ p ci, resolve lower m H = some (p, ci) ∧ ci.cluster = c) ↔
      lower (hostWithoutPort lower H) ∈ objNames lower c spec :=
  (served_iff lower m _ c).trans (keys_of_applied lower hI ha _)

theorem get_of_applied {m : Mgr} {c : Str} {spec : Spec} (ha : Applied lower c spec m) :
    ∃ p ci, ci.cluster = c ∧ ci.cert = spec.cert ∧ ci.ca = spec.ca ∧
      ∀ name, lower name ∈ objNames lower c spec → m.get lower name = some (p, ci) := by
  obtain ⟨p, ci, hg, hcl, _, hcert, hca, _, hkeys⟩ := ha.served
  exact ⟨p, ci, hcl, hcert, hca, fun name hn =>
    (get_some_iff lower m name p ci).2 ⟨(hkeys _).2 hn, ((get_some_iff lower m c p ci).1 hg).2⟩⟩

theorem applied_preserved {m m' : Mgr} (hI' : Inv lower m') {c c' : Str} (hne : c ≠ c') {spec : Spec}
    (hf : Frame c' m m') (ha : Applied lower c spec m) : Applied lower c spec m' := by
  obtain ⟨p, ci, hg, hcl, hnames, hcert, hca, _, _⟩ := ha.served
  obtain ⟨hp, hci⟩ := (get_some_iff lower m c p ci).1 hg
  obtain ⟨hp', hci', _⟩ := hf.keep _ p ci hp hci (by rw [hcl]; exact hne)
  have hs := serves_of_inv lower hI' hp' hci'
  exact ⟨⟨p, ci, (get_some_iff lower m' c p ci).2 ⟨hp', hci'⟩, hcl, hnames, hcert, hca, hs.alive, hnames ▸ hs.keys⟩⟩

theorem clusterAt_back {c : Str} {m m' : Mgr} (hf : Frame c m m') {k c' : Str}
    (h : clusterAt m' k = some c') (hne : c' ≠ c) : clusterAt m k = some c' := by
  obtain ⟨p, ci, h1, h2, h3⟩ := (clusterAt_some_iff m' k c').1 h
  obtain ⟨h4, h5⟩ := hf.back k p ci h1 h2 (by rw [h3]; exact hne)
  rw [clusterAt_of_look h4 h5, h3]

theorem mirror_keys {lister : Lister} {m : Mgr} (hI : Inv lower m) (hM : Mirror lower lister m) (k c : Str) :
    clusterAt m k = some c ↔ ∃ n s, lister.get n = some s ∧ lower n = c ∧ k ∈ objNames lower c s := by
  constructor
  · intro hk
    obtain ⟨n, s, hg, rfl⟩ := hM.back k c hk
    exact ⟨n, s, hg, rfl, (keys_of_applied lower hI (hM.objs n s hg) k).1 hk⟩
  · rintro ⟨n, s, hg, rfl, hk⟩
    exact (keys_of_applied lower hI (hM.objs n s hg) k).2 hk

/-- A handler invocation for `n` that does not requeue keeps `Mirror` when the lister changed at `n` only: `StepOK` speaks for `n`'s
    object, `Frame` for the others; `hlow` and `hn` (names are lower-cased) make another name another cluster. -/
theorem mirror_step {lister lister' : Lister} {m m' : Mgr} {n : Str} (hM : Mirror lower lister m) (hI' : Inv lower m')
    (hlow : ∀ n' s', lister.get n' = some s' → lower n' = n') (hn : lower n = n)
    (hsame : ∀ n', n' ≠ n → lister'.get n' = lister.get n')
    (hstep : StepOK lower (lower n) (lister'.get n) false m m') : Mirror lower lister' m' := by
  obtain ⟨hf, hev⟩ := hstep
  rw [if_neg Bool.false_ne_true] at hev
  refine ⟨fun n' s' hg' => ?_, fun k c hk => ?_⟩
  · by_cases hne : n' = n
    · subst hne
      rw [hg'] at hev
      exact hev
    · -- the object of another cluster stays applied
      rw [hsame n' hne] at hg'
      exact applied_preserved lower hI' (by rw [hlow n' s' hg', hn]; exact hne) hf (hM.objs n' s' hg')
  · by_cases hc : c = lower n
    · subst hc
      cases hg : lister'.get n with
      | none =>
        rw [hg] at hev
        exact absurd hk (Deleted.gone hev k)
      | some s => exact ⟨n, s, hg, rfl⟩
    · -- a key of another cluster is there before the step
      obtain ⟨n', s', h1, h2⟩ := hM.back k c (clusterAt_back hf hk hc)
      have hne : n' ≠ n := fun e => hc (by rw [← h2, e])
      exact ⟨n', s', (hsame n' hne).trans h1, h2⟩

/-! ## the Boolean judges follow from the predicates they stand for -/

theorem invB_of (m : Mgr) (h : Inv lower m) : invB lower m = true := by
  unfold invB
  simp only [Bool.and_eq_true, List.all_eq_true, decide_eq_true_eq]
  refine ⟨⟨?_, ?_⟩, ?_⟩
  · intro e _
    split
    · rfl
    · rename_i p hp
      obtain ⟨ci, hci⟩ := h.wf e.1 p hp
      rw [hci]
      simp only [Bool.and_eq_true, decide_eq_true_eq, List.all_eq_true, Bool.not_eq_true', decide_eq_false_iff_not]
      exact ⟨⟨h.mem e.1 p ci hp hci, h.all e.1 p ci hp hci⟩, h.alive e.1 p hp⟩
  · intro ci hci
    obtain ⟨p, _, hp⟩ := List.getElem_of_mem hci
    exact h.low p ci (by rw [List.getElem?_eq_some_iff]; exact ⟨_, hp⟩)
  · intro p hp
    obtain ⟨ci, hci⟩ := h.swf p hp
    exact lt_of_getElem?_some hci

theorem frameB_of (c : Str) (m m' : Mgr) (h : Frame c m m') : frameB c m m' = true := by
  unfold frameB
  simp only [Bool.and_eq_true, List.all_eq_true]
  have honly : ∀ k, (decide (m'.look k = m.look k) || decide (clusterAt m' k = some c)
      || decide (clusterAt m k = some c)) = true := by
    intro k
    rcases h.only k with h1 | h1 | h1 <;> simp [h1]
  refine ⟨⟨⟨?_, fun e _ => honly e.1⟩, fun e _ => honly e.1⟩, ?_⟩
  · intro e _
    split
    · rfl
    · rename_i p hp
      split
      · rfl
      · rename_i ci hci
        by_cases hc : ci.cluster = c
        · rw [decide_eq_true hc]
          rfl
        · obtain ⟨h1, h2, h3⟩ := h.keep e.1 p ci hp hci hc
          rw [decide_eq_false hc, decide_eq_true h1, decide_eq_true h2, decide_eq_decide.2 h3, beq_self_eq_true]
          rfl
  · intro e _
    split
    · rfl
    · rename_i p hp
      split
      · rfl
      · rename_i ci hci
        by_cases hc : ci.cluster = c
        · rw [decide_eq_true hc]
          rfl
        · obtain ⟨h1, h2⟩ := h.back e.1 p ci hp hci hc
          rw [decide_eq_false hc, decide_eq_true h1, decide_eq_true h2]
          rfl

theorem unchangedB_of (m m' : Mgr) (h : Unchanged m m') : unchangedB m m' = true := by
  unfold unchangedB
  simp only [Bool.and_eq_true, List.all_eq_true, decide_eq_true_eq, beq_iff_eq]
  refine ⟨⟨⟨fun e _ => h.look e.1, fun e _ => h.look e.1⟩, h.heap⟩, ?_⟩
  intro p _
  exact decide_eq_decide.2 (h.stopped p)

theorem deletedB_of (c : Str) (m m' : Mgr) (h : Deleted lower c m m') : deletedB lower c m m' = true := by
  unfold deletedB
  simp only [Bool.and_eq_true, List.all_eq_true, decide_eq_true_eq]
  refine ⟨fun e _ => h.gone e.1, ?_⟩
  split
  · rename_i p ci hg
    by_cases hc : ci.cluster = c
    · simp [h.stop p ci hg hc]
    · simp [hc]
  · rfl

theorem appliedB_of (c : Str) (spec : Spec) (m' : Mgr) (h : Applied lower c spec m') :
    appliedB lower c spec m' = true := by
  obtain ⟨p, ci, hg, hcl, hnames, hcert, hca, hns, hkeys⟩ := h.served
  unfold appliedB
  rw [hg]
  simp only [Bool.and_eq_true, decide_eq_true_eq, Bool.not_eq_true', decide_eq_false_iff_not, List.all_eq_true,
    Bool.or_eq_true]
  refine ⟨⟨⟨⟨⟨⟨hcl, hnames⟩, hcert⟩, hca⟩, hns⟩, fun k hk => (hkeys k).2 hk⟩, ?_⟩
  intro e _
  by_cases hp : m'.look e.1 = some p
  · right; exact (hkeys e.1).1 hp
  · left; exact hp

theorem stepB_of (c : Str) (latest : Option Spec) (requeued : Bool) (m m' : Mgr)
    (h : StepOK lower c latest requeued m m') : stepB lower c latest requeued m m' = true := by
  unfold StepOK at h
  unfold stepB
  rw [frameB_of c m m' h.1, Bool.true_and]
  cases requeued with
  | true =>
    simp only [if_true] at h ⊢
    exact unchangedB_of m m' h.2
  | false =>
    simp only [Bool.false_eq_true, if_false] at h ⊢
    cases latest with
    | none => exact deletedB_of lower c m m' h.2
    | some spec => exact appliedB_of lower c spec m' h.2

theorem midB_of (m m' s : Mgr) (h : MidOK m m' s) : midB m m' s = true := by
  unfold midB
  simp only [Bool.and_eq_true, List.all_eq_true]
  refine ⟨?_, ?_⟩
  · intro e _
    split
    · rfl
    · rename_i p hp
      by_cases h2 : m'.look e.1 = some p
      · simp [h.kept e.1 p hp h2]
      · simp [h2]
  · intro e _
    split
    · rfl
    · rename_i q hq
      rcases h.nostray e.1 q hq with h1 | h1 <;> simp [h1]

theorem mirrorB_of (lister : Lister) (m : Mgr) (h : Mirror lower lister m) : mirrorB lower lister m = true := by
  unfold mirrorB
  simp only [Bool.and_eq_true, List.all_eq_true, Bool.or_eq_true, decide_eq_true_eq]
  refine ⟨?_, ?_⟩
  · intro u _
    by_cases hg : lister.get u.1 = some u.2
    · right; exact appliedB_of lower _ _ _ (h.objs u.1 u.2 hg)
    · left; exact hg
  · intro e _
    split
    · rfl
    · rename_i c hc
      obtain ⟨n, s, hg, hn⟩ := h.back e.1 c hc
      rw [List.any_eq_true]
      refine ⟨(n, s), lister_mem_of_get _ _ _ hg, ?_⟩
      simp [hg, hn]

end
end KG.Lemmas.Names
