import KG.Model.RemoteLimiter
import KG.Spec.RemoteLimiter
/-!
# Lemmas for C09: the clamp invariant of the gateway side of the global limiter

`Inv K cfg st m` relates a model state with the judge's monitor (KG.Spec.RemoteLimiter); `K` is the type of the schema
in force. `step_inv'`: every operation preserves it, never panics and gives an observation the judge accepts;
`run_inv'`, `run_cap'`, `exec_inv'` carry that over operation lists. A `step_*` lemma takes a related state apart by
`Inv.cases` and puts `Inv` together again by `stepOK_of` from its parts, each over the view of the state it reads:
`WOK`, `LInv` (`cinv_iff`), `WAcc` and `HAcc` (`flInv_iff`).
-/
namespace KG.Lemmas.RemoteLimiter
open KG.Model.RemoteLimiter KG.Spec.RemoteLimiter KG.Gen.C09


/-! ## arithmetic -/

/-- the size after the max-in-flight count wrapper's error fallback -/
def miFallback (obs localMax wmax : Int) : Int :=
  let x := if obs < localMax then localMax else obs
  if x > wmax then wmax else x

def clampAccept (limit reserve wmax : Int) : Int :=
  let l := if limit < reserve then reserve else limit
  if l > wmax then wmax else l

theorem i32sub_zero {x : Int} (h0 : 0 ≤ x) (h1 : x ≤ 2147483647) : i32sub x 0 = x := by
  unfold i32sub toI32; omega


theorem toU32_id {x : Int} (h0 : 0 ≤ x) (h1 : x ≤ maxInt32) : toU32 x = x := by
  unfold toU32; unfold maxInt32 at h1; omega

theorem toI32_id {x : Int} (h0 : 0 ≤ x) (h1 : x ≤ maxInt32) : toI32 x = x := by
  unfold toI32; unfold maxInt32 at h1; omega

theorem bound_range (v g : Int) (hg : 0 ≤ g) : 0 ≤ bound v g ∧ bound v g ≤ g := by
  simp only [bound]
  constructor <;> (split <;> split <;> omega)

theorem miReserve_range {m : Int} (h0 : 0 ≤ m) : 0 ≤ miReserve m ∧ miReserve m ≤ m := by
  simp only [miReserve, globalMaxInflightBurstMinInflight]
  generalize i32div (i32mul m globalMaxInflightBurstPercent) 100 = r
  by_cases h : r < 1
  · simp only [h, if_true]; constructor <;> (split <;> omega)
  · simp only [h, if_false]; constructor <;> (split <;> omega)

theorem tdiv_between {num den lo hi : Int} (hd : 0 < den) (hl : 0 ≤ lo)
    (h1 : ¬ num < lo * den) (h2 : ¬ num > hi * den) : lo ≤ Int.tdiv num den ∧ Int.tdiv num den ≤ hi := by
  have hn : 0 ≤ num := by
    have : 0 ≤ lo * den := Int.mul_nonneg hl (by omega)
    omega
  rw [Int.tdiv_eq_ediv_of_nonneg hn]
  exact ⟨Int.le_ediv_of_mul_le hd (by omega), Int.ediv_le_of_le_mul hd (by omega)⟩

theorem clampAccept_range {limit reserve wmax : Int} (h : reserve ≤ wmax) :
    reserve ≤ clampAccept limit reserve wmax ∧ clampAccept limit reserve wmax ≤ wmax ∧
      (if limit > wmax then wmax else limit) ≤ clampAccept limit reserve wmax := by
  simp only [clampAccept]
  by_cases h1 : limit < reserve
  · simp only [h1, if_true]; refine ⟨?_, ?_, ?_⟩ <;> (split <;> omega)
  · simp only [h1, if_false]; refine ⟨?_, ?_, ?_⟩ <;> (split <;> omega)

theorem miFallback_range {obs l wmax : Int} (h0 : 0 ≤ l) (h1 : 0 ≤ wmax) :
    0 ≤ miFallback obs l wmax ∧ miFallback obs l wmax ≤ wmax := by
  simp only [miFallback]
  by_cases h : obs < l
  · simp only [h, if_true]; constructor <;> (split <;> omega)
  · simp only [h, if_false]; constructor <;> (split <;> omega)

/-! ## limiters -/

@[simp] theorem resize_mi (s n b : Int) : ((Lim.mi s).resize n b).1 = .mi n := by
  simp only [Lim.resize]; split
  · rfl
  · rename_i h; simp only [ne_eq, Decidable.not_not] at h; rw [h]

@[simp] theorem resize_tb (q u n b : Int) : ((Lim.tb q u).resize n b).1 = .tb n b := by
  simp only [Lim.resize]; split
  · rfl
  · rename_i h
    have h1 : q = n := by false_or_by_contra; exact h (Or.inl ‹_›)
    have h2 : u = b := by false_or_by_contra; exact h (Or.inr ‹_›)
    rw [h1, h2]

theorem resize_mi_of {l : Lim} {sz x : Int} (h : l = .mi sz) (h0 : 0 ≤ x) (h1 : x ≤ maxInt32) :
    (l.resize (toU32 x) 0).1 = .mi x := by
  rw [h, resize_mi, toU32_id h0 h1]

/-! ## valid schemas -/

/-- a schema accepted by validation that carries a global limit, by type -/
inductive VS : Kind → Schema → Prop
  | mi (st : Strategy) (l g : Int) (h0 : 0 ≤ l) (h1 : l ≤ g) (h2 : g ≤ maxInt32) :
      VS .mi { strategy := st, exempt := false, mi := some l, tb := none, gmi := some g, gtb := none }
  | tb (st : Strategy) (q b gq gb : Int) (h0 : 0 < q) (h1 : q ≤ b) (h2 : q ≤ gq) (h3 : b ≤ gb)
      (h4 : gq ≤ maxInt32) (h5 : gb ≤ maxInt32) :
      VS .tb { strategy := st, exempt := false, mi := none, tb := some ⟨q, b⟩, gmi := none, gtb := some ⟨gq, gb⟩ }

theorem VS_of_valid {s : Schema} (h : validSchema s = true) : VS (guessType s) s := by
  obtain ⟨st, ex, mi, tb, gmi, gtb⟩ := s
  cases ex <;> cases mi <;> cases gmi <;> cases tb <;> cases gtb <;>
    simp [validSchema, guessType] at h ⊢
  · rename_i t gt
    obtain ⟨q, b⟩ := t; obtain ⟨gq, gb⟩ := gt
    simp at h
    exact VS.tb st q b gq gb (by omega) (by omega) (by omega) (by omega) (by omega) (by omega)
  · rename_i l g
    exact VS.mi st l g (by omega) (by omega) (by omega)

theorem valid_of_VS {K : Kind} {s : Schema} (h : VS K s) : validSchema s = true ∧ guessType s = K := by
  cases h <;> simp [validSchema, guessType] <;> omega

theorem VS_guess {K : Kind} {s : Schema} (h : VS K s) : guessType s = K := (valid_of_VS h).2

theorem VS_kind {K : Kind} {s : Schema} (h : VS K s) : K = .mi ∨ K = .tb := by
  cases h
  · exact Or.inl rfl
  · exact Or.inr rfl

theorem VS_limOf_kind {K : Kind} {s : Schema} (h : VS K s) : (limOf s).kind = K := by
  cases h <;> rfl

theorem VS_newLim {K : Kind} {s : Schema} (h : VS K s) : newLim s = .ok (limOf s) := by
  cases h with
  | mi st l g h0 h1 h2 =>
    simp [newLim, guessType, limOf, toU32_id h0 (by omega : l ≤ maxInt32)]
  | tb st q b gq gb h0 h1 h2 h3 h4 h5 =>
    simp [newLim, guessType, limOf, toU32_id (by omega : 0 ≤ q) (by omega : q ≤ maxInt32),
      toU32_id (by omega : 0 ≤ b) (by omega : b ≤ maxInt32)]

theorem VS_enable {K : Kind} {s : Schema} (h : VS K s) :
    enableGlobal s = (decide (s.strategy = .alloc) || decide (s.strategy = .count)) := by
  cases h with
  | mi st l g h0 h1 h2 => cases st <;> simp [enableGlobal]
  | tb st q b gq gb h0 h1 h2 h3 h4 h5 => cases st <;> simp [enableGlobal]

theorem VS_globalItem {K : Kind} {s : Schema} (h : VS K s) :
    itemType { strategy := s.strategy, mi := s.gmi, tb := s.gtb } = K := by
  cases h <;> rfl

/-- every component is an int32 natural, as in the global bound of a valid schema -/
structure BoundOK (b : Bound) : Prop where
  mi0 : 0 ≤ b.mi
  mi1 : b.mi ≤ maxInt32
  q0 : 0 ≤ b.qps
  q1 : b.qps ≤ maxInt32
  b0 : 0 ≤ b.burst
  b1 : b.burst ≤ maxInt32

theorem VS_globalOK {K : Kind} {s : Schema} (h : VS K s) : BoundOK (globalOf s) := by
  cases h with
  | mi st l g h0 h1 h2 =>
    refine ⟨?_, ?_, ?_, ?_, ?_, ?_⟩ <;>
      simp only [globalOf, Schema.globalMax, Schema.globalQps, Schema.globalBurst, maxInt32] at * <;> omega
  | tb st q b gq gb h0 h1 h2 h3 h4 h5 =>
    refine ⟨?_, ?_, ?_, ?_, ?_, ?_⟩ <;>
      simp only [globalOf, Schema.globalMax, Schema.globalQps, Schema.globalBurst, maxInt32] at * <;> omega

/-! ## bounds -/

def BLe (a b : Bound) : Prop := a.mi ≤ b.mi ∧ a.qps ≤ b.qps ∧ a.burst ≤ b.burst

namespace BLe

theorem refl (a : Bound) : BLe a a := ⟨Int.le_refl _, Int.le_refl _, Int.le_refl _⟩

theorem sup_left (a b : Bound) : BLe a (a.sup b) := by
  simp only [BLe, Bound.sup]; refine ⟨?_, ?_, ?_⟩ <;> (split <;> omega)

theorem sup_right (a b : Bound) : BLe b (a.sup b) := by
  simp only [BLe, Bound.sup]; refine ⟨?_, ?_, ?_⟩ <;> (split <;> omega)

theorem sup_le {a b G : Bound} (ha : BLe a G) (hb : BLe b G) : BLe (a.sup b) G := by
  obtain ⟨a1, a2, a3⟩ := ha
  obtain ⟨b1, b2, b3⟩ := hb
  simp only [BLe, Bound.sup]
  refine ⟨?_, ?_, ?_⟩ <;> (split <;> omega)

end BLe

theorem sup_eq_left {a b : Bound} (h : BLe b a) : a.sup b = a := by
  obtain ⟨h1, h2, h3⟩ := h
  cases a; cases b
  simp only [Bound.sup, Bound.mk.injEq] at *
  refine ⟨?_, ?_, ?_⟩ <;> (split <;> omega)

theorem leb_mono {l : Lim} {a b : Bound} (h : Lim.leb l a = true) (hab : BLe a b) : Lim.leb l b = true := by
  obtain ⟨h1, h2, h3⟩ := hab
  cases l with
  | exempt _ => simp [Lim.leb] at h
  | mi s => simp only [Lim.leb, Bool.and_eq_true, decide_eq_true_eq] at h ⊢; omega
  | tb q u => simp only [Lim.leb, Bool.and_eq_true, decide_eq_true_eq] at h ⊢; omega

structure ItemLe (a : Item) (b : Bound) : Prop where
  mi : ∀ m, a.mi = some m → 0 ≤ m ∧ m ≤ b.mi
  tb : ∀ t, a.tb = some t → 0 ≤ t.qps ∧ t.qps ≤ b.qps ∧ 0 ≤ t.burst ∧ t.burst ≤ b.burst

theorem boundByGlobalLimit_itemLe (s : Schema) (i : Item) (h : BoundOK (globalOf s)) :
    ItemLe (boundByGlobalLimit s i) (globalOf s) := by
  constructor
  · intro m hm
    simp only [boundByGlobalLimit, Option.map_eq_some_iff] at hm
    obtain ⟨v, _, rfl⟩ := hm
    exact bound_range _ _ h.mi0
  · intro t ht
    simp only [boundByGlobalLimit, Option.map_eq_some_iff] at ht
    obtain ⟨v, _, rfl⟩ := ht
    exact ⟨(bound_range _ _ h.q0).1, (bound_range _ _ h.q0).2, (bound_range _ _ h.b0).1, (bound_range _ _ h.b0).2⟩

theorem boundByGlobalLimit_itemType (s : Schema) (i : Item) : itemType (boundByGlobalLimit s i) = itemType i := by
  simp only [itemType, boundByGlobalLimit, Option.isSome_map]

theorem bound_strategy (s : Schema) (i : Item) : (boundByGlobalLimit s i).strategy = i.strategy := rfl

/-! ## the wrappers -/

theorem MIW_resize_avail (w : MIW) (n s : Int) (h : w.unavail = false) (hin : w.inner = .mi s)
    (hn0 : 0 ≤ n) (hn1 : n ≤ maxInt32) :
    (w.resize n).1 = { w with reserve := miReserve n, max := n, inner := .mi (miReserve n) } := by
  have hr := miReserve_range hn0
  simp only [MIW.resize, toI32_id hn0 hn1, h, Bool.not_false, if_true, hin, resize_mi,
    toU32_id hr.1 (by omega : miReserve n ≤ maxInt32)]

theorem MIW_resize_unavail (w : MIW) (n : Int) (h : w.unavail = true) (hn0 : 0 ≤ n) (hn1 : n ≤ maxInt32) :
    (w.resize n).1 = { w with reserve := miReserve n, max := n } := by
  simp [MIW.resize, toI32_id hn0 hn1, h]

theorem TBW_resize_avail (w : TBW) (q b q0 u0 : Int) (h : w.unavail = false) (hin : w.inner = .tb q0 u0) :
    (w.resize q b).1.inner = .tb q b ∧ (w.resize q b).1.qps = q ∧ (w.resize q b).1.burst = b ∧
      (w.resize q b).1.unavail = false := by
  refine ⟨?_, ?_, ?_, ?_⟩ <;> simp [TBW.resize, h, hin]

theorem TBW_resize_unavail (w : TBW) (q b : Int) (h : w.unavail = true) :
    (w.resize q b).1.inner = w.inner ∧ (w.resize q b).1.qps = q ∧ (w.resize q b).1.burst = b ∧
      (w.resize q b).1.unavail = true := by
  refine ⟨?_, ?_, ?_, ?_⟩ <;> simp [TBW.resize, h]

/-- wrapper invariant relative to the applied item `ap` and the outage bound `ob` -/
def GInv (g : GFC) (ap : Item) (ob : Bound) : Prop :=
  match g with
  | .empty l => l = limOfItem ap
  | .miw w => ∃ A sz, ap.mi = some A ∧ w.max = A ∧ 0 ≤ w.reserve ∧ w.reserve ≤ A ∧ w.inner = .mi sz ∧ 0 ≤ sz ∧
      (w.unavail = false → sz ≤ A) ∧ (w.unavail = true → sz ≤ ob.mi)
  | .tbw w => ∃ t q u, ap.mi = none ∧ ap.tb = some t ∧ w.qps = t.qps ∧ w.burst = t.burst ∧ w.inner = .tb q u ∧
      0 ≤ q ∧ 0 ≤ u ∧ (w.unavail = false → q ≤ t.qps ∧ u ≤ t.burst) ∧ (w.unavail = true → q ≤ ob.qps ∧ u ≤ ob.burst)

/-- the bound the remote limiter must respect after a step: see `Mon.next` -/
def obAfter (ob gs : Bound) (unavail : Bool) : Bound := if unavail then ob.sup gs else gs

theorem GInv_ob {g : GFC} {ap : Item} {ob ob' : Bound} (h : GInv g ap ob) (hle : g.unavail = true → BLe ob ob') :
    GInv g ap ob' := by
  cases g with
  | empty l => exact h
  | miw w =>
    obtain ⟨A, sz, a1, a2, a3, a4, a5, a6, a7, a8⟩ := h
    exact ⟨A, sz, a1, a2, a3, a4, a5, a6, a7, fun hu => Int.le_trans (a8 hu) (hle hu).1⟩
  | tbw w =>
    obtain ⟨t, q, u, a1, a2, a3, a4, a5, a6, a7, a8, a9⟩ := h
    exact ⟨t, q, u, a1, a2, a3, a4, a5, a6, a7, a8, fun hu =>
      ⟨Int.le_trans (a9 hu).1 (hle hu).2.1, Int.le_trans (a9 hu).2 (hle hu).2.2⟩⟩

theorem GInv_obAfter {g : GFC} {ap : Item} {ob : Bound} (gs : Bound) (h : GInv g ap ob) :
    GInv g ap (obAfter ob gs g.unavail) :=
  GInv_ob h fun hu => by rw [obAfter, hu]; exact BLe.sup_left ob gs

/-- `maxInflightWrapper.Resize`: a degraded wrapper keeps its frozen size, which is within the old outage bound only
    (the callers widen by `GInv_obAfter`) -/
theorem GInv_miw_resize {w : MIW} {ap : Item} {ob : Bound} {am sz : Int} (hin : w.inner = .mi sz)
    (hob : w.unavail = true → 0 ≤ sz ∧ sz ≤ ob.mi) (hm : ap.mi = some am) (h0 : 0 ≤ am) (h1 : am ≤ maxInt32) :
    GInv (.miw (w.resize am).1) ap ob ∧ (w.resize am).1.unavail = w.unavail ∧ (w.resize am).1.inner.kind = .mi := by
  have hr := miReserve_range h0
  cases hu : w.unavail with
  | false =>
    rw [MIW_resize_avail w am sz hu hin h0 h1]
    exact ⟨⟨am, _, hm, rfl, hr.1, hr.2, rfl, hr.1, fun _ => hr.2, fun h => Bool.noConfusion (hu.symm.trans h)⟩, hu, rfl⟩
  | true =>
    rw [MIW_resize_unavail w am hu h0 h1]
    exact ⟨⟨am, sz, hm, rfl, hr.1, hr.2, hin, (hob hu).1, fun h => Bool.noConfusion (hu.symm.trans h),
      fun _ => (hob hu).2⟩, hu, congrArg Lim.kind hin⟩

/-- `tokenBucketWrapper.Resize`: likewise -/
theorem GInv_tbw_resize {w : TBW} {ap : Item} {ob : Bound} {t : TB} {q0 u0 : Int} (hin : w.inner = .tb q0 u0)
    (hob : w.unavail = true → 0 ≤ q0 ∧ 0 ≤ u0 ∧ q0 ≤ ob.qps ∧ u0 ≤ ob.burst) (hm : ap.mi = none)
    (ht : ap.tb = some t) (hq : 0 ≤ t.qps) (hb : 0 ≤ t.burst) :
    GInv (.tbw (w.resize t.qps t.burst).1) ap ob ∧
      (w.resize t.qps t.burst).1.unavail = w.unavail ∧ (w.resize t.qps t.burst).1.inner.kind = .tb := by
  cases hu : w.unavail with
  | false =>
    obtain ⟨e1, e2, e3, e4⟩ := TBW_resize_avail w t.qps t.burst q0 u0 hu hin
    exact ⟨⟨t, _, _, hm, ht, e2, e3, e1, hq, hb, fun _ => ⟨Int.le_refl _, Int.le_refl _⟩,
      fun h => Bool.noConfusion (e4.symm.trans h)⟩, e4, congrArg Lim.kind e1⟩
  | true =>
    obtain ⟨e1, e2, e3, e4⟩ := TBW_resize_unavail w t.qps t.burst hu
    obtain ⟨c1, c2, c3, c4⟩ := hob hu
    exact ⟨⟨t, q0, u0, hm, ht, e2, e3, e1.trans hin, c1, c2, fun h => Bool.noConfusion (e4.symm.trans h),
      fun _ => ⟨c3, c4⟩⟩, e4, congrArg Lim.kind (e1.trans hin)⟩

/-- the wrapper `g` is a sound limiter of type `K` for the applied item `ap` -/
structure WOK (K : Kind) (g : GFC) (ap : Item) (gs ob : Bound) : Prop where
  type : itemType ap = K
  le : ItemLe ap gs
  inv : GInv g ap ob
  kind : g.inner.kind = K

theorem WOK.after {K : Kind} {g : GFC} {ap : Item} {gs ob : Bound} (h : WOK K g ap gs ob) (gs' : Bound) :
    WOK K g ap gs (obAfter ob gs' g.unavail) :=
  ⟨h.type, h.le, GInv_obAfter gs' h.inv, h.kind⟩

theorem WOK.leb {K : Kind} {g : GFC} {ap : Item} {gs ob : Bound} (h : WOK K g ap gs ob) (hK : K = .mi ∨ K = .tb)
    (hob : g.unavail = false → ob = gs) : Lim.leb g.inner ob = true := by
  obtain ⟨hT, hle, hg, -⟩ := h
  cases g with
  | empty l =>
    have : ob = gs := hob rfl
    subst this
    simp only [GInv] at hg
    subst hg
    obtain ⟨st, mi, tb⟩ := ap
    cases mi with
    | some A =>
      have := hle.mi A rfl
      simp [GFC.inner, limOfItem, Lim.leb, this.1, this.2]
    | none =>
      cases tb with
      | none => simp [itemType] at hT; rcases hK with h | h <;> simp [← hT] at h
      | some t =>
        have := hle.tb t rfl
        simp [GFC.inner, limOfItem, Lim.leb, this.1, this.2.1, this.2.2.1, this.2.2.2]
  | miw w =>
    obtain ⟨A, sz, a1, a2, a3, a4, a5, a6, a7, a8⟩ := hg
    have hA := hle.mi A a1
    simp only [GFC.inner, a5, Lim.leb, a6, decide_true, Bool.true_and, decide_eq_true_eq]
    cases hu : w.unavail with
    | false =>
      have : ob = gs := hob hu
      subst this
      have := a7 hu
      omega
    | true => exact a8 hu
  | tbw w =>
    obtain ⟨t, q, u, a1, a2, a3, a4, a5, a6, a7, a8, a9⟩ := hg
    have ht := hle.tb t a2
    simp only [GFC.inner, a5, Lim.leb, a6, a7, decide_true, Bool.true_and, Bool.and_true, Bool.and_eq_true,
      decide_eq_true_eq]
    cases hu : w.unavail with
    | false =>
      have : ob = gs := hob hu
      subst this
      have := a8 hu
      omega
    | true => exact a9 hu

theorem WOK.addAcquiring {K : Kind} {g : GFC} {ap : Item} {gs ob : Bound} (h : WOK K g ap gs ob) (hits : Int) :
    WOK K (g.addAcquiring hits) ap gs ob ∧ (g.addAcquiring hits).unavail = g.unavail := by
  cases g with
  | empty l => exact ⟨h, rfl⟩
  | miw w => exact ⟨h, rfl⟩
  | tbw w => exact ⟨⟨h.type, h.le, h.inv, h.kind⟩, rfl⟩

/-- `remoteWrapper.newFlowControl`: a count wrapper is a fresh one, resized -/
theorem newGFC_inv {K : Kind} {ap : Item} {gs : Bound} (ob : Bound) (hK : K = .mi ∨ K = .tb) (hT : itemType ap = K)
    (hle : ItemLe ap gs) (hgs : BoundOK gs) : ∃ g, newGFC ap = .ok g ∧ WOK K g ap gs ob ∧ g.unavail = false := by
  obtain ⟨st, mi, tb⟩ := ap
  cases mi with
  | some A =>
    have hA := hle.mi A rfl
    have hA1 : A ≤ maxInt32 := Int.le_trans hA.2 hgs.mi1
    have hT' : K = .mi := by simp [itemType] at hT; exact hT.symm
    subst hT'
    by_cases hs : st = .count
    · subst hs
      obtain ⟨k1, k2, k3⟩ := GInv_miw_resize (w := { inner := .mi A, max := A }) (ap := ⟨.count, some A, tb⟩) (ob := ob)
        rfl (fun h => nomatch h) rfl hA.1 hA1
      refine ⟨_, ?_, ⟨hT, hle, k1, k3⟩, k2⟩
      simp only [newGFC, toSchema, newLim, guessType, Option.isSome_some, Bool.true_or, Bool.false_eq_true, if_false,
        if_true, toU32_id hA.1 hA1, bind, Except.bind, newCounter, ne_eq, not_true_eq_false, Lim.kind]
    · refine ⟨.empty (.mi A), ?_, ⟨hT, hle, rfl, rfl⟩, rfl⟩
      simp [newGFC, toSchema, newLim, guessType, toU32_id hA.1 hA1, bind, Except.bind, newCounter, hs]
  | none =>
    cases tb with
    | none => simp [itemType] at hT; rcases hK with h | h <;> simp [← hT] at h
    | some t =>
      have ht := hle.tb t rfl
      have hq1 : t.qps ≤ maxInt32 := Int.le_trans ht.2.1 hgs.q1
      have hb1 : t.burst ≤ maxInt32 := Int.le_trans ht.2.2.2 hgs.b1
      have hT' : K = .tb := by simp [itemType] at hT; exact hT.symm
      subst hT'
      by_cases hs : st = .count
      · subst hs
        obtain ⟨k1, k2, k3⟩ := GInv_tbw_resize (w := { inner := .tb t.qps t.burst }) (ap := ⟨.count, none, some t⟩)
          (ob := ob) rfl (fun h => nomatch h) rfl rfl ht.1 ht.2.2.1
        refine ⟨_, ?_, ⟨hT, hle, k1, k3⟩, k2⟩
        simp only [newGFC, toSchema, newLim, guessType, Option.isSome_some, Option.isSome_none, Bool.or_self,
          Bool.true_or, Bool.false_eq_true, if_false, if_true, toU32_id ht.1 hq1, toU32_id ht.2.2.1 hb1, bind,
          Except.bind, newCounter, ne_eq, not_true_eq_false, Lim.kind]
      · refine ⟨.empty (.tb t.qps t.burst), ?_, ⟨hT, hle, rfl, rfl⟩, rfl⟩
        simp [newGFC, toSchema, newLim, guessType, toU32_id ht.1 hq1, toU32_id ht.2.2.1 hb1, bind, Except.bind,
          newCounter, hs]

theorem GInv_kind_mi {g : GFC} {ap : Item} {ob : Bound} (h : GInv g ap ob) (hk : g.inner.kind = .mi) :
    (∃ x, g = .empty (.mi x)) ∨ (∃ w, g = .miw w) := by
  cases g with
  | empty l =>
    cases l with
    | mi x => exact Or.inl ⟨x, rfl⟩
    | exempt _ => simp [GFC.inner, Lim.kind] at hk
    | tb _ _ => simp [GFC.inner, Lim.kind] at hk
  | miw w => exact Or.inr ⟨w, rfl⟩
  | tbw w =>
    obtain ⟨t, q, u, a1, a2, a3, a4, a5, _⟩ := h
    simp [GFC.inner, a5, Lim.kind] at hk

theorem GInv_kind_tb {g : GFC} {ap : Item} {ob : Bound} (h : GInv g ap ob) (hk : g.inner.kind = .tb) :
    (∃ q u, g = .empty (.tb q u)) ∨ (∃ w, g = .tbw w) := by
  cases g with
  | empty l =>
    cases l with
    | tb q u => exact Or.inl ⟨q, u, rfl⟩
    | exempt _ => simp [GFC.inner, Lim.kind] at hk
    | mi _ => simp [GFC.inner, Lim.kind] at hk
  | tbw w => exact Or.inr ⟨w, rfl⟩
  | miw w =>
    obtain ⟨A, sz, a1, a2, a3, a4, a5, _⟩ := h
    simp [GFC.inner, a5, Lim.kind] at hk

/-- the three outcomes of `remoteWrapper.Sync`: nothing to do, resized in place, built anew -/
theorem remoteSync_cases (r : Remote) (s : Schema) (i : Item) :
    (some i = r.remoteConfig ∧ some (boundByGlobalLimit s i) = r.appliedConfig ∧ remoteRecreates r s i = false ∧
      remoteSync r s i = .ok r) ∨
    (∃ g n b, r.fc = some g ∧ g.inner.kind = itemType i ∧ r.strategy = i.strategy ∧ remoteRecreates r s i = false ∧
      remoteSync r s i = .ok { remoteConfig := some i, appliedConfig := some (boundByGlobalLimit s i),
                               fc := some (g.resize n b) } ∧
      ((∃ am, (boundByGlobalLimit s i).mi = some am ∧ n = toU32 am ∧ g.inner.kind = .mi) ∨
       (∃ t, (boundByGlobalLimit s i).mi = none ∧ (boundByGlobalLimit s i).tb = some t ∧ n = toU32 t.qps ∧
         b = toU32 t.burst ∧ g.inner.kind = .tb))) ∨
    (remoteRecreates r s i = true ∧ ¬ (some i = r.remoteConfig ∧ some (boundByGlobalLimit s i) = r.appliedConfig) ∧
      (∀ g, r.fc = some g → g.inner.kind ≠ itemType i ∨ r.strategy ≠ i.strategy ∨ itemType i = .unknown) ∧
      remoteSync r s i = do
        let g' ← newGFC (boundByGlobalLimit s i)
        pure { remoteConfig := some i, appliedConfig := some (boundByGlobalLimit s i), fc := some g' }) := by
  unfold remoteSync remoteRecreates
  simp only []
  by_cases hearly : some i = r.remoteConfig ∧ some (boundByGlobalLimit s i) = r.appliedConfig
  · rw [if_pos hearly, if_pos hearly]; exact Or.inl ⟨hearly.1, hearly.2, rfl, rfl⟩
  · rw [if_neg hearly, if_neg hearly]
    cases hfc : r.fc with
    | none => exact Or.inr (Or.inr ⟨rfl, hearly, (fun _ h => by cases h), rfl⟩)
    | some g =>
      simp only []
      by_cases hmis : g.inner.kind ≠ itemType i ∨ r.strategy ≠ i.strategy
      · rw [if_pos hmis, if_pos hmis]
        refine Or.inr (Or.inr ⟨rfl, hearly, fun g' h => ?_, rfl⟩)
        cases h; rcases hmis with h | h
        · exact Or.inl h
        · exact Or.inr (Or.inl h)
      · rw [if_neg hmis, if_neg hmis]
        have hk : g.inner.kind = itemType i := Decidable.not_not.1 fun h => hmis (Or.inl h)
        have hst : r.strategy = i.strategy := Decidable.not_not.1 fun h => hmis (Or.inr h)
        obtain ⟨ist, imi, itb⟩ := i
        cases imi with
        | some v =>
          have hk' : g.inner.kind = .mi := hk
          rw [hk']
          exact Or.inr (Or.inl ⟨g, _, _, rfl, hk', hst, rfl, rfl, Or.inl ⟨_, rfl, rfl, hk'⟩⟩)
        | none =>
          cases itb with
          | some t =>
            have hk' : g.inner.kind = .tb := hk
            rw [hk']
            exact Or.inr (Or.inl ⟨g, _, _, rfl, hk', hst, rfl, rfl, Or.inr ⟨_, rfl, rfl, rfl, rfl, hk'⟩⟩)
          | none =>
            have hk' : g.inner.kind = .unknown := hk
            rw [hk']
            exact Or.inr (Or.inr ⟨rfl, hearly, fun g' _ => Or.inr (Or.inr rfl), rfl⟩)


/-- a degraded wrapper keeps its frozen size, within the larger of the old outage bound and the new global limit only:
    hence `obAfter` -/
theorem GInv_resize {g : GFC} {ap0 ap : Item} {gs ob : Bound} {n b : Int} (h : GInv g ap0 ob) (hle : ItemLe ap gs)
    (hgs : BoundOK gs)
    (hc : (∃ am, ap.mi = some am ∧ n = toU32 am ∧ g.inner.kind = .mi) ∨
      (∃ t, ap.mi = none ∧ ap.tb = some t ∧ n = toU32 t.qps ∧ b = toU32 t.burst ∧ g.inner.kind = .tb)) :
    GInv (g.resize n b) ap (obAfter ob gs (g.resize n b).unavail) ∧ (g.resize n b).inner.kind = g.inner.kind := by
  rcases hc with ⟨am, hm, rfl, hk⟩ | ⟨t, hm, ht, rfl, rfl, hk⟩
  · have ham := hle.mi am hm
    have ham1 : am ≤ maxInt32 := Int.le_trans ham.2 hgs.mi1
    rw [toU32_id ham.1 ham1]
    rcases GInv_kind_mi h hk with ⟨x, rfl⟩ | ⟨w, rfl⟩
    · exact ⟨by simp only [GFC.resize, resize_mi, GInv, limOfItem, hm], by simp [GFC.resize, GFC.inner, Lim.kind]⟩
    · obtain ⟨A, sz, -, -, -, -, a5, a6, -, a8⟩ := h
      obtain ⟨k1, -, k3⟩ := GInv_miw_resize a5 (fun hu => ⟨a6, a8 hu⟩) hm ham.1 ham1
      exact ⟨GInv_obAfter gs k1, k3.trans hk.symm⟩
  · have hq := hle.tb t ht
    rw [toU32_id hq.1 (Int.le_trans hq.2.1 hgs.q1), toU32_id hq.2.2.1 (Int.le_trans hq.2.2.2 hgs.b1)]
    rcases GInv_kind_tb h hk with ⟨q0, u0, rfl⟩ | ⟨w, rfl⟩
    · exact ⟨by simp only [GFC.resize, resize_tb, GInv, limOfItem, hm, ht], by simp [GFC.resize, GFC.inner, Lim.kind]⟩
    · obtain ⟨t0, q0, u0, -, -, -, -, a5, a6, a7, -, a9⟩ := h
      obtain ⟨k1, -, k3⟩ := GInv_tbw_resize a5 (fun hu => ⟨a6, a7, a9 hu⟩) hm ht hq.1 hq.2.2.1
      exact ⟨GInv_obAfter gs k1, k3.trans hk.symm⟩

theorem remoteSync_inv {K : Kind} {r : Remote} {s : Schema} {i : Item} {gs ob : Bound} (hs : VS K s)
    (hi : itemType i = K) (hr : r = {} ∨ ∃ i0 ap0 g0, r = ⟨some i0, some ap0, some g0⟩ ∧ WOK K g0 ap0 gs ob) :
    ∃ g', remoteSync r s i = .ok ⟨some i, some (boundByGlobalLimit s i), some g'⟩ ∧
      WOK K g' (boundByGlobalLimit s i) (globalOf s) (obAfter ob (globalOf s) g'.unavail) := by
  have hgs := VS_globalOK hs
  have hap := boundByGlobalLimit_itemLe s i hgs
  have hapT : itemType (boundByGlobalLimit s i) = K := by rw [boundByGlobalLimit_itemType]; exact hi
  rcases remoteSync_cases r s i with ⟨e1, e2, -, e⟩ | ⟨g, n, b, hfc, -, -, -, e, hc⟩ | ⟨-, -, -, e⟩
  · rcases hr with rfl | ⟨i0, ap0, g, rfl, h⟩
    · cases e1
    · cases e1; cases e2
      exact ⟨g, e, hapT, hap, GInv_obAfter _ h.inv, h.kind⟩
  · rcases hr with rfl | ⟨i0, ap0, g0, rfl, h⟩
    · cases hfc
    · cases hfc
      obtain ⟨k1, k2⟩ := GInv_resize h.inv hap hgs hc
      exact ⟨_, e, hapT, hap, k1, k2.trans h.kind⟩
  · obtain ⟨g', h1, h2, h3⟩ := newGFC_inv (obAfter ob (globalOf s) false) (VS_kind hs) hapT hap hgs
    exact ⟨g', by rw [e, h1]; rfl, by rw [h3]; exact h2⟩

theorem remoteSync_norecreate {r r' : Remote} {s : Schema} {i : Item} (hn : remoteRecreates r s i = false)
    (hs : remoteSync r s i = .ok r') (hr : r = {} ∨ ∃ g, r.fc = some g) :
    ∃ g, r.fc = some g ∧ (r'.fc = some g ∨ ∃ n b, r'.fc = some (g.resize n b)) := by
  rcases remoteSync_cases r s i with ⟨e1, -, -, e⟩ | ⟨g, n, b, hfc, -, -, -, e, -⟩ | ⟨e, -⟩
  · rw [e] at hs; cases hs
    rcases hr with rfl | ⟨g, hg⟩
    · cases e1
    · exact ⟨g, hg, Or.inl hg⟩
  · rw [e] at hs; cases hs
    exact ⟨g, hfc, Or.inr ⟨n, b, rfl⟩⟩
  · rw [hn] at e; cases e

theorem remoteSync_recreate {r r' : Remote} {s : Schema} {i : Item} (hn : remoteRecreates r s i = true)
    (hs : remoteSync r s i = .ok r') : ∃ g', newGFC (boundByGlobalLimit s i) = .ok g' ∧ r'.fc = some g' := by
  rcases remoteSync_cases r s i with ⟨-, -, e, -⟩ | ⟨g, n, b, -, -, -, e, -⟩ | ⟨-, -, -, e⟩
  · rw [hn] at e; cases e
  · rw [hn] at e; cases e
  · rw [e] at hs
    cases hg : newGFC (boundByGlobalLimit s i) with
    | error _ => rw [hg] at hs; cases hs
    | ok g' => rw [hg] at hs; cases hs; exact ⟨g', rfl, rfl⟩

theorem resize_tokenInflight (w : TBW) (n b : Int) : (w.resize n b).1.tokenInflight = w.tokenInflight := by
  simp only [TBW.resize]
  split <;> rfl

theorem newGFC_tbw_fresh {ap : Item} {w : TBW} (h : newGFC ap = .ok (.tbw w)) : w.tokenInflight = 0 := by
  unfold newGFC at h
  cases hl : newLim (toSchema ap) with
  | error e => simp [hl, bind, Except.bind] at h
  | ok fc =>
    simp only [hl, bind, Except.bind, newCounter] at h
    split at h
    · cases h
    · split at h
      · split at h <;> cases h
      · split at h
        · have := Except.ok.inj h
          injection this with hw
          rw [← hw]
          exact resize_tokenInflight _ _ _
        · cases h

theorem resize_wkind (g : GFC) (n b : Int) : (match g.resize n b with | .empty _ => 1 | .miw _ => 2 | .tbw _ => 3)
    = (match g with | .empty _ => 1 | .miw _ => 2 | .tbw _ => (3 : Nat)) := by
  cases g <;> rfl

/-! ## acquire results: `SetLimit` of the two count wrappers -/

/-- the four kinds of acquire result a count wrapper tells apart: ignored, the error that starts an outage, accepted,
    refused; only the max-in-flight wrapper checks the request time (`stale`) -/
theorem reply_cases (stale : Prop) (u : Bool) (r : Reply) :
    (stale ∨ r.err = .tooOld ∨ (r.err = .other ∧ u = true)) ∨ (¬ stale ∧ r.err = .other ∧ u = false) ∨
    (¬ stale ∧ r.err = .none ∧ r.accept = true) ∨ (¬ stale ∧ r.err = .none ∧ r.accept = false) := by
  by_cases hst : stale
  · exact Or.inl (Or.inl hst)
  · cases he : r.err with
    | tooOld => exact Or.inl (Or.inr (Or.inl rfl))
    | other =>
      cases hu : u with
      | true => exact Or.inl (Or.inr (Or.inr ⟨rfl, rfl⟩))
      | false => exact Or.inr (Or.inl ⟨hst, rfl, rfl⟩)
    | none =>
      cases ha : r.accept with
      | true => exact Or.inr (Or.inr (Or.inl ⟨hst, rfl, rfl⟩))
      | false => exact Or.inr (Or.inr (Or.inr ⟨hst, rfl, rfl⟩))

theorem miw_setLimit_ignored (w : MIW) (loc : Schema) (obs : Int) (r : Reply)
    (h : (r.rt > 0 ∧ r.rt ≤ w.lastAcquireTime) ∨ r.err = .tooOld ∨ (r.err = .other ∧ w.unavail = true)) :
    w.setLimit loc obs r = .ok w := by
  unfold MIW.setLimit
  by_cases hst : r.rt > 0 ∧ r.rt ≤ w.lastAcquireTime
  · rw [if_pos hst]
  · rw [if_neg hst]
    rcases h with h | h | h
    · exact (hst h).elim
    · simp only [h]
    · simp only [h.1, h.2, Bool.not_true, Bool.false_eq_true, if_false]

/-- `loc.mi.getD obs`: with no local limit of the wrapper's type the fallback is the observed in-flight itself -/
theorem miw_setLimit_error {w : MIW} {r : Reply} (loc : Schema) (obs : Int)
    (hfresh : ¬ (r.rt > 0 ∧ r.rt ≤ w.lastAcquireTime)) (he : r.err = .other) (hu : w.unavail = false) :
    w.setLimit loc obs r = .ok { w with
      inner := (w.inner.resize (toU32 (miFallback obs (loc.mi.getD obs) w.max)) 0).1, unavail := true } := by
  unfold MIW.setLimit
  rw [if_neg hfresh]
  simp only [he, hu, Bool.not_false, if_true]
  cases loc.mi with
  | some l => rfl
  | none => simp only [Option.getD_none, miFallback, Int.lt_irrefl, if_false]

theorem miw_setLimit_accept {w : MIW} {r : Reply} (loc : Schema) (obs : Int)
    (hfresh : ¬ (r.rt > 0 ∧ r.rt ≤ w.lastAcquireTime)) (he : r.err = .none) (ha : r.accept = true) :
    w.setLimit loc obs r = .ok { w with
      unavail := false, overLimited := 0, acquired := clampAccept r.limit w.reserve w.max,
      inner := (w.inner.resize (toU32 (clampAccept r.limit w.reserve w.max)) 0).1, lastAcquireTime := r.rt } := by
  unfold MIW.setLimit
  rw [if_neg hfresh]
  simp only [he, ha, if_true]
  rfl

theorem miw_setLimit_refuse {w : MIW} {r : Reply} (loc : Schema) (obs : Int)
    (hfresh : ¬ (r.rt > 0 ∧ r.rt ≤ w.lastAcquireTime)) (he : r.err = .none) (ha : r.accept = false) :
    w.setLimit loc obs r = .ok { w with
      overLimited := 1, acquired := bound r.limit w.max,
      inner := (w.inner.resize (toU32 (bound r.limit w.max)) 0).1, lastAcquireTime := r.rt } := by
  unfold MIW.setLimit
  rw [if_neg hfresh]
  simp only [he, ha, Bool.false_eq_true, if_false]
  rfl

/-- whatever the outage flag becomes: `x ≤ max ≤` the global limit `≤` the outage bound -/
theorem WOK.miw_resized {w : MIW} {ap : Item} {gs ob : Bound} {x : Int} (h : WOK .mi (.miw w) ap gs ob)
    (hgs : BoundOK gs) (h0 : 0 ≤ x) (h1 : x ≤ w.max) (u : Bool) (t a o : Int) :
    (w.inner.resize (toU32 x) 0).1 = .mi x ∧
    WOK .mi (.miw { w with inner := (w.inner.resize (toU32 x) 0).1, unavail := u, lastAcquireTime := t, acquired := a,
                           overLimited := o }) ap gs (obAfter ob gs u) := by
  obtain ⟨A, sz, a1, rfl, a3, a4, a5, -⟩ := h.inv
  have hA := h.le.mi _ a1
  have hin : (w.inner.resize (toU32 x) 0).1 = .mi x :=
    resize_mi_of a5 h0 (Int.le_trans h1 (Int.le_trans hA.2 hgs.mi1))
  refine ⟨hin, h.type, h.le, ⟨w.max, x, a1, rfl, a3, a4, hin, h0, fun _ => h1, fun hu => ?_⟩, congrArg Lim.kind hin⟩
  rw [obAfter, show u = true from hu, if_pos rfl]
  exact Int.le_trans h1 (Int.le_trans hA.2 (BLe.sup_right ob gs).1)

theorem miw_setLimit_inv {w : MIW} {ap : Item} {gs ob : Bound} {s : Schema} (hs : VS .mi s)
    (h : WOK .mi (.miw w) ap gs ob) (hgs : BoundOK gs) (obs : Int) (r : Reply) :
    ∃ w', w.setLimit s obs r = .ok w' ∧ WOK .mi (.miw w') ap gs (obAfter ob gs w'.unavail) ∧
      judgeMISet w.lastAcquireTime w.max w.unavail (some w.inner) s.mi r (some w'.inner) = [] := by
  obtain ⟨A, sz, a1, rfl, a3, a4, a5, -⟩ := h.inv
  have hA := h.le.mi _ a1
  have hfresh : ¬ (r.rt > 0 ∧ r.rt ≤ w.lastAcquireTime) →
      (!(decide (r.rt > 0) && decide (r.rt ≤ w.lastAcquireTime))) = true := fun hst => by
    simp only [Bool.not_eq_true', Bool.and_eq_false_iff, decide_eq_false_iff_not]
    by_cases h : r.rt > 0
    · exact Or.inr (fun h' => hst ⟨h, h'⟩)
    · exact Or.inl h
  cases hs with
  | mi st l g h0 h1 h2 =>
  rcases reply_cases (r.rt > 0 ∧ r.rt ≤ w.lastAcquireTime) w.unavail r with
    hig | ⟨hst, he, hu⟩ | ⟨hst, he, ha⟩ | ⟨hst, he, ha⟩
  · refine ⟨w, miw_setLimit_ignored w _ obs r hig, h.after gs, ?_⟩
    rcases hig with h' | h' | h' <;> simp [judgeMISet, h']
  · have hf := miFallback_range (obs := obs) h0 hA.1
    obtain ⟨k1, k2⟩ := h.miw_resized hgs hf.1 hf.2 true w.lastAcquireTime w.acquired w.overLimited
    refine ⟨_, miw_setLimit_error _ obs hst he hu, k2, ?_⟩
    simp [judgeMISet, he, hu, hfresh hst, k1, isMI]
  · have hc := clampAccept_range (limit := r.limit) a4
    obtain ⟨k1, k2⟩ := h.miw_resized hgs (Int.le_trans a3 hc.1) hc.2.1 false r.rt (clampAccept r.limit w.reserve w.max) 0
    refine ⟨_, miw_setLimit_accept _ obs hst he ha, k2, ?_⟩
    simp [judgeMISet, he, ha, hfresh hst, k1, hc.2.2]
  · have hn := bound_range r.limit w.max hA.1
    obtain ⟨k1, k2⟩ := h.miw_resized hgs hn.1 hn.2 w.unavail r.rt (bound r.limit w.max) 1
    refine ⟨_, miw_setLimit_refuse _ obs hst he ha, k2, ?_⟩
    simp [judgeMISet, he, ha, hfresh hst]

theorem tbDegradedQps_range {mt : Meter} {ql wq : Int} (hd : 0 < mt.rateDen) (hq0 : 0 < ql) (hq1 : ql ≤ maxInt32)
    (hw0 : 0 ≤ wq) (hw1 : wq ≤ maxInt32) : 0 ≤ tbDegradedQps mt ql wq ∧ tbDegradedQps mt ql wq ≤ wq := by
  simp only [tbDegradedQps, rateToU32, toU32_id (by omega : 0 ≤ ql) hq1]
  by_cases h1 : mt.rateNum < ql * mt.rateDen
  · simp only [h1, if_true]
    constructor <;> (split <;> omega)
  · simp only [h1, if_false]
    by_cases h2 : mt.rateNum > wq * mt.rateDen
    · simp only [h2, if_true]; exact ⟨hw0, Int.le_refl _⟩
    · simp only [h2, if_false]
      have hb := tdiv_between hd (by omega : 0 ≤ ql) h1 h2
      rw [toU32_id (by omega) (by omega)]
      exact ⟨by omega, hb.2⟩

@[simp] theorem noteRequest_inner (w : TBW) (r : Reply) : (w.noteRequest r).inner = w.inner := by
  simp only [TBW.noteRequest]; split <;> rfl
@[simp] theorem noteRequest_unavail (w : TBW) (r : Reply) : (w.noteRequest r).unavail = w.unavail := by
  simp only [TBW.noteRequest]; split <;> rfl
@[simp] theorem noteRequest_qps (w : TBW) (r : Reply) : (w.noteRequest r).qps = w.qps := by
  simp only [TBW.noteRequest]; split <;> rfl
@[simp] theorem noteRequest_burst (w : TBW) (r : Reply) : (w.noteRequest r).burst = w.burst := by
  simp only [TBW.noteRequest]; split <;> rfl

theorem tbw_setLimit_ignored (w : TBW) (loc : Schema) (m : Meter) (r : Reply)
    (h : r.err = .tooOld ∨ (r.err = .other ∧ w.unavail = true)) :
    w.setLimit loc m r = .ok (w.noteRequest r, (w.noteRequest r).expectMore) := by
  unfold TBW.setLimit
  rcases h with h | ⟨h, hu⟩
  · simp only [h]
  · simp only [h, noteRequest_unavail, hu, Bool.not_true, Bool.false_eq_true, if_false]

/-- `getD 0`: with no local bucket the degraded qps is computed from a local qps of 0 -/
theorem tbw_setLimit_error {w : TBW} {r : Reply} (loc : Schema) (m : Meter) (he : r.err = .other)
    (hu : w.unavail = false) :
    w.setLimit loc m r = .ok ((w.noteRequest r).degrade ((loc.tb.map (·.qps)).getD 0) m,
      ((w.noteRequest r).degrade ((loc.tb.map (·.qps)).getD 0) m).expectMore) := by
  unfold TBW.setLimit
  simp only [he, noteRequest_unavail, hu, Bool.not_false, if_true]
  cases loc.tb <;> rfl

theorem tbw_setLimit_accept {w : TBW} {r : Reply} (loc : Schema) (m : Meter) (he : r.err = .none)
    (ha : r.accept = true) :
    w.setLimit loc m r = .ok ({ (w.noteRequest r).recover.addTokens r.limit with lastAcquireTime := r.rt },
      ({ (w.noteRequest r).recover.addTokens r.limit with lastAcquireTime := r.rt } : TBW).expectMore) := by
  unfold TBW.setLimit
  simp only [he, ha, if_true]

theorem tbw_setLimit_refuse {w : TBW} {r : Reply} (loc : Schema) (m : Meter) (he : r.err = .none)
    (ha : r.accept = false) :
    w.setLimit loc m r = .ok ({ w.noteRequest r with lastAcquireTime := r.rt },
      ({ w.noteRequest r with lastAcquireTime := r.rt } : TBW).expectMore) := by
  unfold TBW.setLimit
  simp only [he, ha, Bool.false_eq_true, if_false]

theorem recover_of_avail {w : TBW} (h : w.unavail = false) : w.recover = w := by
  simp only [TBW.recover, h, Bool.false_eq_true, if_false]

theorem recover_of_unavail {w : TBW} (h : w.unavail = true) :
    w.recover = { w with inner := (w.inner.resize w.qps w.burst).1, unavail := false } := by
  simp only [TBW.recover, h, if_true]

theorem WOK.tbw_congr {w w1 : TBW} {ap : Item} {gs ob : Bound} (h : WOK .tb (.tbw w) ap gs ob) (e1 : w1.inner = w.inner)
    (e2 : w1.unavail = w.unavail) (e3 : w1.qps = w.qps) (e4 : w1.burst = w.burst) : WOK .tb (.tbw w1) ap gs ob := by
  obtain ⟨t, q, u, a1, a2, a3, a4, a5, a6, a7, a8, a9⟩ := h.inv
  exact ⟨h.type, h.le, ⟨t, q, u, a1, a2, e3 ▸ a3, e4 ▸ a4, e1 ▸ a5, a6, a7, e2 ▸ a8, e2 ▸ a9⟩,
    (congrArg Lim.kind e1).trans h.kind⟩

theorem WOK.tbw_resized {w w1 : TBW} {ap : Item} {gs ob : Bound} {q b : Int} (h : WOK .tb (.tbw w) ap gs ob)
    (hq0 : 0 ≤ q) (hq1 : q ≤ w.qps) (hb0 : 0 ≤ b) (hb1 : b ≤ w.burst) (e1 : w1.qps = w.qps)
    (e2 : w1.burst = w.burst) (e3 : w1.inner = (w.inner.resize q b).1) :
    w1.inner = .tb q b ∧ WOK .tb (.tbw w1) ap gs (obAfter ob gs w1.unavail) := by
  obtain ⟨t, q0, u0, a1, a2, a3, a4, a5, -⟩ := h.inv
  have ht := h.le.tb t a2
  have hin : w1.inner = .tb q b := by rw [e3, a5, resize_tb]
  refine ⟨hin, h.type, h.le, ⟨t, q, b, a1, a2, e1.trans a3, e2.trans a4, hin, hq0, hb0, fun _ => ⟨a3 ▸ hq1, a4 ▸ hb1⟩,
    fun hu => ?_⟩, congrArg Lim.kind hin⟩
  rw [obAfter, hu, if_pos rfl]
  exact ⟨Int.le_trans (a3 ▸ hq1) (Int.le_trans ht.2.1 (BLe.sup_right ob gs).2.1),
    Int.le_trans (a4 ▸ hb1) (Int.le_trans ht.2.2.2 (BLe.sup_right ob gs).2.2)⟩

theorem ite_min_range {q b : Int} (hq : 0 ≤ q) (hb : 0 ≤ b) :
    0 ≤ (if q > b then b else q) ∧ (if q > b then b else q) ≤ b := by
  split <;> omega

theorem tbw_setLimit_inv {w : TBW} {ap : Item} {gs ob : Bound} {s : Schema} (hs : VS .tb s)
    (h : WOK .tb (.tbw w) ap gs ob) (hgs : BoundOK gs) (mt : Meter) (hd : 0 < mt.rateDen) (r : Reply) :
    ∃ w' b, w.setLimit s mt r = .ok (w', b) ∧ WOK .tb (.tbw w') ap gs (obAfter ob gs w'.unavail) ∧
      judgeTBSet w.qps w.burst w.unavail (some w.inner) s.tb r (some w'.inner) = [] := by
  have keep : ∀ w1 : TBW, w1.inner = w.inner → w1.unavail = w.unavail → w1.qps = w.qps → w1.burst = w.burst →
      WOK .tb (.tbw w1) ap gs (obAfter ob gs w1.unavail) := fun w1 e1 e2 e3 e4 =>
    (h.tbw_congr e1 e2 e3 e4).after gs
  obtain ⟨t, q, u, a1, a2, a3, a4, a5, -⟩ := h.inv
  have ht := h.le.tb t a2
  have hq0 : 0 ≤ w.qps := a3 ▸ ht.1
  have hb0 : 0 ≤ w.burst := a4 ▸ ht.2.2.1
  cases hs with
  | tb st ql bl gq gb h0 h1 h2 h3 h4 h5 =>
  rcases reply_cases False w.unavail r with hig | ⟨-, he, hu⟩ | ⟨-, he, ha⟩ | ⟨-, he, ha⟩
  · have hig := hig.resolve_left id
    refine ⟨_, _, tbw_setLimit_ignored w _ mt r hig, keep _ (by simp) (by simp) (by simp) (by simp), ?_⟩
    rcases hig with h' | h' <;> simp [judgeTBSet, h']
  · obtain ⟨hd0, hd1⟩ := tbDegradedQps_range (mt := mt) (ql := ql) (wq := w.qps) hd h0 (Int.le_trans h2 h4) hq0
      (a3 ▸ Int.le_trans ht.2.1 hgs.q1)
    obtain ⟨hm0, hm1⟩ := ite_min_range (b := w.burst) hd0 hb0
    obtain ⟨k1, k2⟩ := h.tbw_resized (w1 := (w.noteRequest r).degrade ql mt) hd0 hd1 hm0 hm1
      (by simp [TBW.degrade]) (by simp [TBW.degrade]) (by simp [TBW.degrade])
    refine ⟨_, _, tbw_setLimit_error _ mt he hu, k2, ?_⟩
    simp [judgeTBSet, he, hu, k1, isTB]
  · cases hu : w.unavail with
    | false =>
      have hrec : (w.noteRequest r).recover = w.noteRequest r := recover_of_avail (by simp [hu])
      refine ⟨_, _, tbw_setLimit_accept _ mt he ha, ?_, ?_⟩
      · rw [hrec]
        exact keep { (w.noteRequest r).addTokens r.limit with lastAcquireTime := r.rt }
          (by simp [TBW.addTokens]) (by simp [TBW.addTokens]) (by simp [TBW.addTokens]) (by simp [TBW.addTokens])
      · simp [judgeTBSet, he, ha]
    | true =>
      have hrec := recover_of_unavail (w := w.noteRequest r) (by simp [hu])
      obtain ⟨k1, k2⟩ := h.tbw_resized
        (w1 := { (w.noteRequest r).recover.addTokens r.limit with lastAcquireTime := r.rt }) hq0 (Int.le_refl _)
        hb0 (Int.le_refl _) (by simp [TBW.addTokens, hrec]) (by simp [TBW.addTokens, hrec])
        (by simp [TBW.addTokens, hrec])
      have k1' : ((w.noteRequest r).recover.addTokens r.limit).inner = .tb w.qps w.burst := k1
      refine ⟨_, _, tbw_setLimit_accept _ mt he ha, k2, ?_⟩
      simp [judgeTBSet, he, ha, k1']
  · refine ⟨_, _, tbw_setLimit_refuse _ mt he ha, keep _ (by simp) (by simp) (by simp) (by simp), ?_⟩
    simp [judgeTBSet, he, ha]

theorem tbw_setLimit_tokenInflight {w w' : TBW} {loc : Schema} {mt : Meter} {r : Reply} {b : Bool}
    (h : w.setLimit loc mt r = .ok (w', b)) : w'.tokenInflight = (w.noteRequest r).tokenInflight := by
  have recover_ti : ∀ x : TBW, x.recover.tokenInflight = x.tokenInflight := fun x => by
    simp only [TBW.recover]; split <;> rfl
  rcases reply_cases False w.unavail r with hig | ⟨-, he, hu⟩ | ⟨-, he, ha⟩ | ⟨-, he, ha⟩
  · rw [tbw_setLimit_ignored w loc mt r (hig.resolve_left id)] at h; cases h; rfl
  · rw [tbw_setLimit_error loc mt he hu] at h; cases h; rfl
  · rw [tbw_setLimit_accept loc mt he ha] at h; cases h; exact recover_ti _
  · rw [tbw_setLimit_refuse loc mt he ha] at h; cases h; rfl

theorem gfcSetLimit_miw {w w' : MIW} {loc : Schema} {m : Meter} {r : Reply}
    (h : w.setLimit loc m.maxInflight r = .ok w') : gfcSetLimit (.miw w) loc m r = .ok (.miw w', false) := by
  simp only [gfcSetLimit, h, bind, Except.bind, pure, Except.pure]

theorem gfcSetLimit_tbw {w w' : TBW} {b : Bool} {loc : Schema} {m : Meter} {r : Reply}
    (h : w.setLimit loc m r = .ok (w', b)) : gfcSetLimit (.tbw w) loc m r = .ok (.tbw w', b) := by
  simp only [gfcSetLimit, h, bind, Except.bind, pure, Except.pure]

/-! ## readiness; which limiter `Load` hands out -/

theorem everUp_of_ready : ∀ h, specReady h = true → everUp h = true
  | [] => by simp [specReady]
  | (true, t) :: rest => by simp [everUp]
  | (false, t) :: rest => by
    intro h
    simp only [specReady, Bool.and_eq_true] at h
    have := everUp_of_ready rest h.1
    simp only [everUp, List.any_cons] at this ⊢
    simp [this]

theorem mustDown_not_ready {h : List (Bool × Int)} (hd : specMustDown h = true) : specReady h = false := by
  cases hr : specReady h with
  | false => rfl
  | true =>
    exfalso
    have hu := everUp_of_ready h hr
    simp only [specMustDown, hu, Bool.not_true, Bool.false_or] at hd
    cases h with
    | nil => simp at hd
    | cons x rest =>
      obtain ⟨ok, now⟩ := x
      cases ok with
      | true => simp at hd
      | false =>
        simp only [specReady, Bool.and_eq_true, Bool.not_eq_true', decide_eq_false_iff_not] at hr
        simp only [decide_eq_true_eq] at hd
        exact hr.2 hd

theorem mustUp_ready {h : List (Bool × Int)} (hu : specMustUp h = true) : specReady h = true := by
  cases h with
  | nil => simp [specMustUp] at hu
  | cons x rest =>
    obtain ⟨ok, t⟩ := x
    cases ok <;> simp [specMustUp, specReady] at hu ⊢

theorem failRunStart_false (t : Int) (rest : List (Bool × Int)) :
    failRunStart ((false, t) :: rest) = some ((failRunStart rest).getD t) := by
  simp only [failRunStart]; cases failRunStart rest <;> rfl

theorem failRunStart_true (t : Int) (rest : List (Bool × Int)) : failRunStart ((true, t) :: rest) = none := rfl

theorem specReady_true (t : Int) (rest : List (Bool × Int)) : specReady ((true, t) :: rest) = true := rfl

theorem specReady_false (now : Int) (rest : List (Bool × Int)) :
    specReady ((false, now) :: rest) =
      (specReady rest && !decide (now > (failRunStart rest).getD now + serverHeartBeatTimeout)) := rfl

theorem hbAfter_now (now : Int) : hbAfter (some now) now = false := by
  simp [hbAfter, serverHeartBeatTimeout]; omega

theorem hbStep_ok (h : HB) (now : Int) :
    hbStep h true now = { lastState := true, ready := true, lastChange := if h.lastState then h.lastChange else some now } := by
  obtain ⟨lc, ls, rd⟩ := h
  cases ls <;> cases rd <;> simp [hbStep]

theorem hbStep_fail_first (h : HB) (now : Int) (hl : h.lastState = true) :
    hbStep h false now = { lastState := false, ready := h.ready, lastChange := some now } := by
  obtain ⟨lc, ls, rd⟩ := h
  simp only at hl; subst hl
  cases rd <;> simp [hbStep, hbAfter_now]

theorem hbStep_fail_next (h : HB) (now : Int) (hl : h.lastState = false) :
    hbStep h false now = { h with ready := h.ready && !hbAfter h.lastChange now } := by
  obtain ⟨lc, ls, rd⟩ := h
  simp only at hl; subst hl
  cases rd <;> simp [hbStep]
  cases hbAfter lc now <;> simp

/-- the heartbeat status mirrors the declarative readiness of the history. `lastChange` is tied to the history only while
    ready with a failed last heartbeat: that is the one situation in which `hbStep` reads it (the time-out test). -/
def HBInv (hb : Option HB) (hist : List (Bool × Int)) : Prop :=
  match hb with
  | none => hist = []
  | some h => (∃ x rest, hist = x :: rest ∧ h.lastState = x.1) ∧ h.ready = specReady hist ∧
              (h.ready = true → h.lastState = false → h.lastChange = failRunStart hist)

theorem hbStep_inv {hb : Option HB} {hist : List (Bool × Int)} (h : HBInv hb hist) (ok : Bool) (now : Int) :
    HBInv (some (hbStep (hb.getD {}) ok now)) ((ok, now) :: hist) := by
  cases ok with
  | true =>
    rw [hbStep_ok]
    exact ⟨⟨_, _, rfl, rfl⟩, rfl, fun _ h => by cases h⟩
  | false =>
    cases hb with
    | none =>
      simp only [HBInv] at h
      subst h
      rw [Option.getD_none, hbStep_fail_next _ _ rfl]
      exact ⟨⟨_, _, rfl, rfl⟩, rfl, fun h => by cases h⟩
    | some hb =>
      obtain ⟨⟨x, rest, rfl, hls⟩, hr, hc⟩ := h
      obtain ⟨xs, xt⟩ := x
      simp only at hls
      simp only [Option.getD_some]
      cases xs with
      | true =>
        rw [hbStep_fail_first _ _ hls]
        have hrd : hb.ready = true := by rw [hr]; rfl
        refine ⟨⟨_, _, rfl, rfl⟩, ?_, fun _ _ => ?_⟩
        · rw [specReady_false, specReady_true, failRunStart_true]
          simp [hrd, serverHeartBeatTimeout]; omega
        · rw [failRunStart_false, failRunStart_true]; rfl
      | false =>
        rw [hbStep_fail_next _ _ hls]
        refine ⟨⟨_, _, rfl, hls⟩, ?_, ?_⟩
        · rw [specReady_false, ← hr]
          cases hrd : hb.ready with
          | false => simp
          | true =>
            have hc1 := hc hrd hls
            rw [failRunStart_false] at hc1
            simp [hc1, hbAfter, failRunStart_false]
        · intro h1 _
          simp only [Bool.and_eq_true] at h1
          have hc1 := hc h1.1 hls
          rw [failRunStart_false] at hc1 ⊢
          rw [failRunStart_false]
          simpa using hc1

theorem isReady_spec {st : State} {m : Mon} (hs : m.shards = st.shardCount) (hb : HBInv st.hb m.hist) :
    isReady st = (decide (m.shards ≠ 0) && specReady m.hist) := by
  simp only [isReady, hs]
  by_cases h0 : st.shardCount = 0
  · simp [h0]
  · simp only [h0, if_false, ne_eq, not_false_eq_true, decide_true, Bool.true_and]
    cases h : st.hb with
    | none => rw [h] at hb; simp only [HBInv] at hb; rw [hb]; rfl
    | some x => rw [h] at hb; exact hb.2.1

theorem load_none {cfg : Cfg} {st : State} (h : st.cache = none) : load cfg st = .dflt := by simp [load, h]

theorem load_some {cfg : Cfg} {st : State} {c : Cache} (h : st.cache = some c) : load cfg st =
    if cfg.rateLimiter = .remote ∧ c.loc.config.strategy ≠ .empty ∧ c.loc.config.strategy ≠ .loc ∧ cfg.hasCS = true ∧
      isReady st = true ∧ c.remote.isSome = true then .remote else .loc := by
  unfold load
  rw [h]
  cases hr : cfg.rateLimiter with
  | loc => exact (if_neg (fun h => nomatch h.1)).symm
  | other => exact (if_neg (fun h => nomatch h.1)).symm
  | remote =>
    show (if _ then Choice.loc else _) = _
    by_cases h1 : c.loc.config.strategy = .empty
    · rw [if_pos h1, if_neg (fun h => h.2.1 h1)]
    rw [if_neg h1]
    by_cases h2 : c.loc.config.strategy = .loc
    · rw [if_pos h2, if_neg (fun h => h.2.2.1 h2)]
    rw [if_neg h2]
    cases h3 : cfg.hasCS with
    | false => exact (if_neg (fun h => nomatch h.2.2.2.1)).symm
    | true =>
      cases h4 : isReady st with
      | false => exact (if_neg (fun h => nomatch h.2.2.2.2.1)).symm
      | true =>
        cases h5 : c.remote.isSome with
        | false => exact (if_neg (fun h => nomatch h.2.2.2.2.2)).symm
        | true => exact (if_pos ⟨rfl, h1, h2, rfl, rfl, rfl⟩).symm

theorem load_ne_dflt {cfg : Cfg} {st : State} {c : Cache} (h : st.cache = some c) : load cfg st ≠ .dflt := by
  rw [load_some h]; split <;> exact Choice.noConfusion

theorem remote_isSome_of_load {cfg : Cfg} {st : State} {c : Cache} (h : st.cache = some c) (hl : load cfg st = .remote) :
    c.remote.isSome = true := by
  rw [load_some h] at hl
  split at hl
  · rename_i hc; exact hc.2.2.2.2.2
  · cases hl

/-! ## views of a state; what the observation shows of it -/

/-- the global-count wrapper of a state, if any -/
def gfcOf (st : State) : Option GFC := st.cache.bind (fun c => c.remote.bind (·.fc))

/-- the counter of the flow control (none: the zero value) -/
def cntOf (st : State) : Counter := match st.cache with | some c => c.cnt | none => {}

/-- the limiters of a state: what `CInv` reads of the cache -/
def limsOf (st : State) : Option (Local × Option Remote) := st.cache.map fun c => (c.loc, c.remote)

theorem limsOf_eq {st : State} {c : Cache} {l : Local} {r : Option Remote} (h : st.cache = some c) (hl : c.loc = l)
    (hr : c.remote = r) : limsOf st = some (l, r) := by
  rw [limsOf, h, ← hl, ← hr]; rfl

/-- the remote wrapper of a state, if any -/
def remOf (st : State) : Option Remote := st.cache.bind (·.remote)

theorem gfcOf_rem (st : State) : gfcOf st = (remOf st).bind (·.fc) := by
  unfold gfcOf remOf; cases st.cache <;> rfl

theorem remOf_lims {st st' : State} (h : limsOf st' = limsOf st) : remOf st' = remOf st := by
  have : ∀ s : State, remOf s = (limsOf s).bind (·.2) := fun s => by unfold remOf limsOf; cases s.cache <;> rfl
  rw [this, this, h]

/-- what the in-flight accounting reads of a cache -/
structure FV where
  outer : Nat
  inner : Nat
  count : Int
  live : Bool

def fvOf (c : Cache) : FV := ⟨c.fl.remOuter, c.fl.remInner, c.fl.remCount, c.remote.isSome⟩

theorem fvOf_wrapper {c : Cache} {rm : Remote} (hrm : c.remote = some rm) (r' : Remote) (k : Counter) :
    fvOf { c with remote := some r', cnt := k } = fvOf c := by
  rw [fvOf, fvOf, hrm]; rfl

theorem observe_rlim (cfg : Cfg) (st : State) : (observe cfg st).rlim = (gfcOf st).map (·.inner) := by
  simp only [observe, gfcOf]
  cases h : (st.cache.bind fun c => c.remote.bind (·.fc)) with
  | none => rfl
  | some g => cases g <;> rfl

theorem observe_unavail (cfg : Cfg) (st : State) : (observe cfg st).unavail = ((gfcOf st).map (·.unavail)).getD false := by
  simp only [observe, gfcOf]
  cases h : (st.cache.bind fun c => c.remote.bind (·.fc)) with
  | none => rfl
  | some g => cases g <;> rfl

theorem observe_choice (cfg : Cfg) (st : State) : (observe cfg st).choice = load cfg st := by
  simp only [observe]
  cases h : (st.cache.bind fun c => c.remote.bind (·.fc)) with
  | none => rfl
  | some g => cases g <;> rfl

theorem observe_ready (cfg : Cfg) (st : State) : (observe cfg st).ready = isReady st := by
  simp only [observe]
  cases h : (st.cache.bind fun c => c.remote.bind (·.fc)) with
  | none => rfl
  | some g => cases g <;> rfl

theorem observe_lim (cfg : Cfg) (st : State) :
    (observe cfg st).lim = (match load cfg st with
      | .dflt => none
      | .loc => st.cache.bind (·.loc.fc)
      | .remote => (gfcOf st).map (·.inner)) := by
  simp only [observe, gfcOf]
  cases h : (st.cache.bind fun c => c.remote.bind (·.fc)) with
  | none => rfl
  | some g => cases g <;> rfl

def GFC.wkind : GFC → Nat
  | .empty _ => 1
  | .miw _ => 2
  | .tbw _ => 3

theorem observe_wkind (cfg : Cfg) (st : State) : (observe cfg st).wkind = ((gfcOf st).map GFC.wkind).getD 0 := by
  simp only [observe, gfcOf]
  cases h : (st.cache.bind fun c => c.remote.bind (·.fc)) with
  | none => rfl
  | some g => cases g <;> rfl

theorem observe_wkind0 {cfg : Cfg} {st : State} (h : gfcOf st = none) : (observe cfg st).wkind = 0 := by
  rw [observe_wkind, h]; rfl

theorem observe_remoteConfig (cfg : Cfg) (st : State) :
    (observe cfg st).remoteConfig = st.cache.bind (fun c => c.remote.bind (·.remoteConfig)) := by
  simp only [observe]
  cases h : (st.cache.bind fun c => c.remote.bind (·.fc)) with
  | none => rfl
  | some g => cases g <;> rfl

theorem observe_req (cfg : Cfg) (st : State) : (observe cfg st).req = st.lastReq := by
  simp only [observe]
  cases h : (st.cache.bind fun c => c.remote.bind (·.fc)) with
  | none => rfl
  | some g => cases g <;> rfl

theorem observe_admitted (cfg : Cfg) (st : State) : (observe cfg st).admitted = st.lastAdmit := by
  simp only [observe]
  cases h : (st.cache.bind fun c => c.remote.bind (·.fc)) with
  | none => rfl
  | some g => cases g <;> rfl

/-- what an observation shows of a max-in-flight count wrapper -/
structure ObsMIW (o : Obs) (w : MIW) : Prop where
  wkind : o.wkind = 2
  lastAcq : o.lastAcq = w.lastAcquireTime
  wreserve : o.wreserve = w.reserve
  wmax : o.wmax = w.max
  unavail : o.unavail = w.unavail
  rlim : o.rlim = some w.inner

theorem observe_miw {cfg : Cfg} {st : State} {w : MIW} (h : gfcOf st = some (.miw w)) : ObsMIW (observe cfg st) w := by
  simp only [gfcOf] at h
  simp only [observe, h]
  exact ⟨rfl, rfl, rfl, rfl, rfl, rfl⟩

/-- what an observation shows of a token-bucket count wrapper -/
structure ObsTBW (o : Obs) (w : TBW) : Prop where
  wkind : o.wkind = 3
  wqps : o.wqps = w.qps
  wburst : o.wburst = w.burst
  unavail : o.unavail = w.unavail
  rlim : o.rlim = some w.inner
  wreserve : o.wreserve = w.reserve
  tokens : o.tokens = w.tokens
  tokenBatch : o.tokenBatch = w.tokenBatch
  lastAcq : o.lastAcq = w.lastAcquireTime

theorem observe_tbw {cfg : Cfg} {st : State} {w : TBW} (h : gfcOf st = some (.tbw w)) : ObsTBW (observe cfg st) w := by
  simp only [gfcOf] at h
  simp only [observe, h]
  exact ⟨rfl, rfl, rfl, rfl, rfl, rfl, rfl, rfl, rfl⟩

/-! ## the invariant -/

/-- the remote wrapper holds a limiter of the schema's type, built from an applied item within `gs` -/
def RInv (K : Kind) (r : Remote) (gs ob : Bound) : Prop :=
  ∃ i ap g, r.remoteConfig = some i ∧ r.appliedConfig = some ap ∧ r.fc = some g ∧ itemType ap = K ∧
    ItemLe ap gs ∧ GInv g ap ob ∧ g.inner.kind = K

/-- the cache part of the invariant -/
def CInv (K : Kind) (c : Option Cache) (m : Mon) : Prop :=
  match c, m.schema with
  | none, none => m.synced = false
  | some c, some s => c.loc.config = s ∧ VS K s ∧ c.loc.fc = some (limOf s) ∧ m.synced = c.remote.isSome ∧
      ∀ r, c.remote = some r → RInv K r m.gs m.ob
  | _, _ => False

/-- `CInv` over what it reads, so that carrying it over a step is rewriting; one constructor per shape of the cache -/
inductive LInv (K : Kind) (gs ob : Bound) (l : Option (Local × Option Remote)) (sch : Option Schema) (sy : Bool) : Prop
  | none (hl : l = none) (hs : sch = none) (hy : sy = false)
  | loc (s : Schema) (hl : l = some (⟨s, some (limOf s)⟩, none)) (hs : sch = some s) (hv : VS K s) (hy : sy = false)
  | rem (s : Schema) (i ap : Item) (g : GFC) (hl : l = some (⟨s, some (limOf s)⟩, some ⟨some i, some ap, some g⟩))
      (hs : sch = some s) (hv : VS K s) (hy : sy = true) (hw : WOK K g ap gs ob)

theorem cinv_iff {K : Kind} {co : Option Cache} {m : Mon} :
    CInv K co m ↔ LInv K m.gs m.ob (co.map fun c => (c.loc, c.remote)) m.schema m.synced := by
  unfold CInv
  constructor
  · intro h
    cases co with
    | none =>
      cases hs : m.schema with
      | none => rw [hs] at h; exact .none rfl rfl h
      | some s => rw [hs] at h; exact h.elim
    | some c =>
      cases hs : m.schema with
      | none => rw [hs] at h; exact h.elim
      | some s =>
        rw [hs] at h
        obtain ⟨⟨cf, fc⟩, rem, cnt, fl⟩ := c
        obtain ⟨h1, hv, h3, hsy, hr⟩ := h
        have h1 : cf = s := h1
        subst h1
        have h3 : fc = some (limOf cf) := h3
        subst h3
        cases rem with
        | none => exact .loc _ rfl rfl hv hsy
        | some r =>
          obtain ⟨i, ap, g, r1, r2, r3, r4, r5, r6, r7⟩ := hr r rfl
          obtain ⟨rc, ac, f⟩ := r
          cases r1; cases r2; cases r3
          exact .rem _ i ap g rfl rfl hv hsy ⟨r4, r5, r6, r7⟩
  · intro h
    rcases h with ⟨hl, hs, hy⟩ | ⟨s, hl, hs, hv, hy⟩ | ⟨s, i, ap, g, hl, hs, hv, hy, hw⟩
    · cases co with
      | none => rw [hs]; exact hy
      | some c => cases hl
    · cases co with
      | none => cases hl
      | some c =>
        obtain ⟨e1, e2⟩ := Prod.mk.inj (Option.some.inj hl)
        rw [hs]
        exact ⟨by rw [e1], hv, by rw [e1], by rw [hy, e2]; rfl, fun r hr => by rw [e2] at hr; cases hr⟩
    · cases co with
      | none => cases hl
      | some c =>
        obtain ⟨e1, e2⟩ := Prod.mk.inj (Option.some.inj hl)
        rw [hs]
        exact ⟨by rw [e1], hv, by rw [e1], by rw [hy, e2]; rfl, fun r hr => by
          rw [e2] at hr; cases hr; exact ⟨i, ap, g, rfl, rfl, rfl, hw.type, hw.le, hw.inv, hw.kind⟩⟩

/-- the request side: the counter against the monitor's clock, `contact` and `mayEvent` -/
structure CntInv (st : State) (m : Mon) : Prop where
  clock : m.clock = st.clock
  contact0 : 0 ≤ m.contact
  contact : ∀ c, st.cache = some c → c.cnt.lastSync ≤ m.contact
  may : ∀ c, st.cache = some c → c.cnt.event = true → m.mayEvent = true

theorem CntInv.cntOf {st : State} {m : Mon} (h : CntInv st m) :
    (cntOf st).lastSync ≤ m.contact ∧ ((cntOf st).event = true → m.mayEvent = true) := by
  unfold RemoteLimiter.cntOf
  cases hc : st.cache with
  | none => exact ⟨h.contact0, fun e => by cases e⟩
  | some c => exact ⟨h.contact c hc, h.may c hc⟩

/-! ### requests in flight, token accounting

`FlInv` is two accounts (`flInv_iff`), each over the little it reads of the state: what the monitor knows of the wrapper
(`WAcc`) and the requests in flight (`HAcc`). Only a sync that builds a new wrapper changes both. -/


/-- does this request count against the limiter inside the remote wrapper now? -/
def flagOf (c : Cache) (h : Handle) : Bool :=
  decide (h.side = .rem) && decide (h.gen = c.fl.remOuter) && decide (h.inner = c.fl.remInner) && c.remote.isSome

/-- what the monitor's `held` list must be -/
def heldOf (co : Option Cache) (hs : List Handle) : List (Nat × Bool) :=
  match co with
  | some c => hs.map fun h => (h.id, flagOf c h)
  | none => hs.map fun h => (h.id, false)

theorem heldOf_any (co : Option Cache) (hs : List Handle) (id : Nat) :
    (heldOf co hs).any (·.1 == id) = hs.any (·.id == id) := by
  cases co <;> simp [heldOf, List.any_map, Function.comp_def]

theorem heldOf_filter (co : Option Cache) (hs : List Handle) (id : Nat) :
    (heldOf co hs).filter (fun h => !(h.1 == id)) = heldOf co (hs.filter fun x => !(x.id == id)) := by
  cases co <;> simp [heldOf, List.filter_map, Function.comp_def]

theorem heldOf_countP (c : Cache) (hs : List Handle) : (heldOf (some c) hs).countP (·.2) = hs.countP (flagOf c) := by
  simp [heldOf, List.countP_map, Function.comp_def]

structure FlInv (cfg : Cfg) (st : State) (m : Mon) : Prop where
  cfgv : st.cfgv = cfg
  applied : ∀ c r, st.cache = some c → c.remote = some r → m.applied = r.appliedConfig
  owed : ∀ w, gfcOf st = some (.tbw w) → w.tokenInflight = m.owed
  must : m.mustEvent = true → ∃ c g, st.cache = some c ∧ gfcOf st = some g ∧ GFC.wkind g ≠ 1 ∧ c.cnt.event = true
  held : m.held = heldOf st.cache st.handles
  nodup : (st.handles.map (·.id)).Nodup
  gens : ∀ c, st.cache = some c → ∀ h ∈ st.handles, h.side = .rem → h.gen ≤ c.fl.remOuter ∧ h.inner ≤ c.fl.remInner
  nocache : st.cache = none → ∀ h ∈ st.handles, h.side = .dflt
  cur : ∀ c, st.cache = some c →
    (c.remote.isSome = true → c.fl.remCount = (st.handles.countP (flagOf c) : Int)) ∧
    ∀ h ∈ st.handles, h.side = .rem → h.gen = c.fl.remOuter → c.remote.isSome = true → h.inner = c.fl.remInner

theorem filter_id_self {hs : List Handle} {id : Nat} (h : id ∉ hs.map (·.id)) :
    hs.filter (fun x => !(x.id == id)) = hs := by
  apply List.filter_eq_self.2
  intro a ha
  have : a.id ≠ id := fun e => h (e ▸ List.mem_map.2 ⟨a, ha, rfl⟩)
  simp [this]

theorem find_none_notin {hs : List Handle} {id : Nat} (h : hs.find? (·.id == id) = none) : id ∉ hs.map (·.id) := by
  intro hm
  obtain ⟨a, ha, e⟩ := List.mem_map.1 hm
  have := List.find?_eq_none.1 h a ha
  simp [e] at this

theorem any_false_notin {hs : List Handle} {id : Nat} (h : hs.any (·.id == id) = false) : id ∉ hs.map (·.id) := by
  intro hm
  obtain ⟨a, ha, e⟩ := List.mem_map.1 hm
  have : hs.any (·.id == id) = true := List.any_eq_true.2 ⟨a, ha, by simp [e]⟩
  rw [h] at this; cases this

theorem countP_filter_id {p : Handle → Bool} {hs : List Handle} {h : Handle} {id : Nat}
    (hn : (hs.map (·.id)).Nodup) (hfind : hs.find? (·.id == id) = some h) :
    ((hs.filter fun x => !(x.id == id)).countP p : Int) = (hs.countP p : Int) - (if p h then 1 else 0) := by
  induction hs with
  | nil => simp at hfind
  | cons a t ih =>
    simp only [List.map_cons, List.nodup_cons] at hn
    by_cases ha : a.id = id
    · have hah : a = h := by simpa [List.find?_cons, ha] using hfind
      subst hah
      have hni : id ∉ t.map (·.id) := ha ▸ hn.1
      rw [List.filter_cons]
      simp only [ha, beq_self_eq_true, Bool.not_true, Bool.false_eq_true, if_false]
      rw [filter_id_self hni, List.countP_cons]
      cases p a <;> simp <;> omega
    · have hne : (a.id == id) = false := by simp [ha]
      have hf' : t.find? (·.id == id) = some h := by simpa [List.find?_cons, hne] using hfind
      rw [List.filter_cons]
      simp only [hne, Bool.not_false, if_true]
      rw [List.countP_cons, List.countP_cons, Int.natCast_add, Int.natCast_add, ih hn.2 hf']
      omega

theorem find_mem {hs : List Handle} {h : Handle} {id : Nat} (hfind : hs.find? (·.id == id) = some h) :
    h ∈ hs ∧ h.id = id := by
  refine ⟨List.mem_of_find?_eq_some hfind, ?_⟩
  have := List.find?_some hfind
  simpa using this

def FV.flag (x : FV) (h : Handle) : Bool :=
  decide (h.side = .rem) && decide (h.gen = x.outer) && decide (h.inner = x.inner) && x.live

def flagV : Option FV → Handle → Bool
  | some x, h => x.flag h
  | none, _ => false

/-- the in-flight account: the monitor's `held` list and the bucket's count against the handles -/
structure HAcc (v : Option FV) (hs : List Handle) (held : List (Nat × Bool)) : Prop where
  held : held = hs.map fun h => (h.id, flagV v h)
  nodup : (hs.map (·.id)).Nodup
  nocache : v = none → ∀ h ∈ hs, h.side = .dflt
  gens : ∀ x, v = some x → ∀ h ∈ hs, h.side = .rem → h.gen ≤ x.outer ∧ h.inner ≤ x.inner
  cur : ∀ x, v = some x → x.live = true → x.count = (hs.countP x.flag : Int) ∧
    ∀ h ∈ hs, h.side = .rem → h.gen = x.outer → h.inner = x.inner

/-- the wrapper account: the monitor's `applied`, `owed`, `mustEvent` against the wrapper and the counter's event flag -/
structure WAcc (r : Option Remote) (ev : Bool) (a : Option Item) (o : Int) (mu : Bool) : Prop where
  applied : ∀ x, r = some x → a = x.appliedConfig
  owed : ∀ w, r.bind (·.fc) = some (.tbw w) → w.tokenInflight = o
  must : mu = true → ev = true ∧ ∃ g, r.bind (·.fc) = some g ∧ GFC.wkind g ≠ 1

theorem flInv_iff {cfg : Cfg} {st : State} {m : Mon} :
    FlInv cfg st m ↔ st.cfgv = cfg ∧ WAcc (remOf st) (cntOf st).event m.applied m.owed m.mustEvent ∧
      HAcc (st.cache.map fvOf) st.handles m.held := by
  have hg := gfcOf_rem st
  have hheld : heldOf st.cache st.handles = st.handles.map fun h => (h.id, flagV (st.cache.map fvOf) h) := by
    unfold heldOf; cases st.cache <;> rfl
  constructor
  · intro h
    refine ⟨h.cfgv, ⟨fun x hx => ?_, fun w hw => h.owed w (hg ▸ hw), fun hm => ?_⟩, h.held.trans hheld, h.nodup,
      fun hc => h.nocache (Option.map_eq_none_iff.1 hc), fun x hx => ?_, fun x hx hl => ?_⟩
    · cases hc : st.cache with
      | none => rw [remOf, hc] at hx; cases hx
      | some c => rw [remOf, hc] at hx; exact h.applied c x hc hx
    · obtain ⟨c, g, k1, k2, k3, k4⟩ := h.must hm
      exact ⟨by rw [cntOf, k1]; exact k4, g, hg ▸ k2, k3⟩
    · obtain ⟨c, hc, rfl⟩ := Option.map_eq_some_iff.1 hx
      exact h.gens c hc
    · obtain ⟨c, hc, rfl⟩ := Option.map_eq_some_iff.1 hx
      exact ⟨(h.cur c hc).1 hl, fun a ha s g => (h.cur c hc).2 a ha s g hl⟩
  · rintro ⟨h0, ⟨w1, w2, w3⟩, hh⟩
    refine ⟨h0, fun c r hc hr => w1 r (by rw [remOf, hc]; exact hr), fun w hw => w2 w (hg ▸ hw), fun hm => ?_,
      hh.held.trans hheld.symm, hh.nodup, fun c hc => hh.gens _ (by rw [hc]; rfl),
      fun hc => hh.nocache (by rw [hc]; rfl), fun c hc => ?_⟩
    · obtain ⟨e, g, k1, k2⟩ := w3 hm
      cases hc : st.cache with
      | none => rw [remOf, hc] at k1; cases k1
      | some c => exact ⟨c, g, rfl, hg.trans k1, k2, by rw [cntOf, hc] at e; exact e⟩
    · have := hh.cur (fvOf c) (by rw [hc]; rfl)
      exact ⟨fun hl => (this hl).1, fun a ha s g hl => (this hl).2 a ha s g⟩

namespace WAcc

theorem mono {r : Option Remote} {ev ev' mu mu' : Bool} {a : Option Item} {o : Int} (h : WAcc r ev a o mu)
    (hm : mu' = true → mu = true ∧ (ev = true → ev' = true)) : WAcc r ev' a o mu' :=
  ⟨h.applied, h.owed, fun x => ⟨(hm x).2 (h.must (hm x).1).1, (h.must (hm x).1).2⟩⟩

/-- the limiter inside the remote wrapper is replaced (`SetLimit`, a request sent) -/
theorem wrap {rm : Remote} {ev ev' mu mu' : Bool} {a : Option Item} {o o' : Int} {g' : GFC}
    (h : WAcc (some rm) ev a o mu) (ho : ∀ w', g' = .tbw w' → w'.tokenInflight = o')
    (hm : mu' = true → ev' = true ∧ GFC.wkind g' ≠ 1) : WAcc (some { rm with fc := some g' }) ev' a o' mu' :=
  ⟨fun x hx => by cases hx; exact h.applied rm rfl, fun w hw => ho w (Option.some.inj hw),
    fun x => ⟨(hm x).1, g', rfl, (hm x).2⟩⟩


/-- after `remoteWrapper.Sync`: a wrapper built anew owes nothing and has a new counter -/
theorem sync {ro : Option Remote} {r' : Remote} {s : Schema} {i : Item} {ev mu : Bool} {a : Option Item} {o : Int}
    (h : WAcc ro ev a o mu) (hfc : ∀ r, ro = some r → ∃ g, r.fc = some g)
    (hs : remoteSync (ro.getD {}) s i = .ok r') (happ : r'.appliedConfig = some (boundByGlobalLimit s i)) :
    WAcc (some r') (if remoteRecreates (ro.getD {}) s i then false else ev) (some (boundByGlobalLimit s i))
      (if remoteRecreates (ro.getD {}) s i then 0 else o) (mu && !remoteRecreates (ro.getD {}) s i) := by
  cases hrc : remoteRecreates (ro.getD {}) s i with
  | true =>
    obtain ⟨g', hg1, hg2⟩ := remoteSync_recreate hrc hs
    refine ⟨fun x hx => by cases hx; exact happ.symm, fun w hw => ?_, fun hm => by simp at hm⟩
    have : g' = .tbw w := Option.some.inj (hg2.symm.trans hw)
    subst this
    exact newGFC_tbw_fresh hg1
  | false =>
    cases ro with
    | none => simp [remoteRecreates] at hrc
    | some r =>
      obtain ⟨g, hg1, hg2⟩ := remoteSync_norecreate hrc hs (Or.inr (hfc r rfl))
      have hw0 : ∀ w0, g = .tbw w0 → w0.tokenInflight = o := fun w0 e => h.owed w0 (hg1.trans (congrArg some e))
      refine ⟨fun x hx => by cases hx; exact happ.symm, fun w hw => ?_, fun hm => ?_⟩
      · rcases hg2 with e | ⟨n, b, e⟩
        · exact hw0 w (Option.some.inj (e.symm.trans hw))
        · have e' : g.resize n b = .tbw w := Option.some.inj (e.symm.trans hw)
          cases g with
          | tbw w0 =>
            cases e'
            exact (resize_tokenInflight w0 n b).trans (hw0 w0 rfl)
          | empty l => cases e'
          | miw w0 => cases e'
      · simp only [Bool.not_false, Bool.and_true] at hm
        obtain ⟨he, g1, k1, k2⟩ := h.must hm
        cases hg1.symm.trans k1
        refine ⟨he, ?_⟩
        rcases hg2 with e | ⟨n, b, e⟩
        · exact ⟨g, e, k2⟩
        · exact ⟨g.resize n b, e, fun x => k2 ((resize_wkind g n b).symm.trans x)⟩

end WAcc

namespace HAcc

/-- a request is admitted -/
theorem push {v : Option FV} {hs : List Handle} {held : List (Nat × Bool)} {h : Handle} {b : Bool}
    (hv : HAcc v hs held) (hid : hs.any (·.id == h.id) = false) (hb : flagV v h = b) (hd : v = none → h.side = .dflt)
    (hr : ∀ x, v = some x → h.side = .rem → h.gen = x.outer ∧ h.inner = x.inner) :
    HAcc (v.map fun x => { x with count := bif b then x.count + 1 else x.count }) (h :: hs) ((h.id, b) :: held) := by
  subst hb
  refine ⟨?_, by rw [List.map_cons, List.nodup_cons]; exact ⟨any_false_notin hid, hv.nodup⟩, fun hn a ha => ?_,
    fun y hy a ha s => ?_, fun y hy hl => ?_⟩
  · rw [hv.held]; cases v <;> rfl
  · have hn' := Option.map_eq_none_iff.1 hn
    rcases List.mem_cons.1 ha with rfl | ha
    · exact hd hn'
    · exact hv.nocache hn' a ha
  · obtain ⟨x, rfl, rfl⟩ := Option.map_eq_some_iff.1 hy
    rcases List.mem_cons.1 ha with rfl | ha
    · exact ⟨Nat.le_of_eq (hr x rfl s).1, Nat.le_of_eq (hr x rfl s).2⟩
    · exact hv.gens x rfl a ha s
  · obtain ⟨x, rfl, rfl⟩ := Option.map_eq_some_iff.1 hy
    obtain ⟨c1, c2⟩ := hv.cur x rfl hl
    refine ⟨?_, fun a ha s g => ?_⟩
    · show (bif x.flag h then x.count + 1 else x.count) = ((h :: hs).countP x.flag : Int)
      rw [List.countP_cons, c1]
      cases x.flag h <;> simp
    · rcases List.mem_cons.1 ha with rfl | ha
      · exact (hr x rfl s).2
      · exact c2 a ha s g

/-- a request finishes; the count `Release` decrements is positive because the handle is flagged -/
theorem pop {v : Option FV} {hs : List Handle} {held : List (Nat × Bool)} {h : Handle} {id : Nat}
    (hv : HAcc v hs held) (hfind : hs.find? (·.id == id) = some h) {v' : Option FV}
    (hv' : v' = v.map fun x => { x with count :=
        if h.side = .rem ∧ h.gen = x.outer ∧ x.live = true then decCount x.count else x.count }) :
    HAcc v' (hs.filter fun a => !(a.id == id)) (held.filter fun p => !(p.1 == id)) := by
  subst hv'
  have hsub : ∀ a, a ∈ hs.filter (fun a => !(a.id == id)) → a ∈ hs := fun a ha => (List.mem_filter.1 ha).1
  refine ⟨?_, ((List.filter_sublist).map _).nodup hv.nodup,
    fun hn a ha => hv.nocache (Option.map_eq_none_iff.1 hn) a (hsub a ha), fun y hy a ha => ?_, fun y hy hl => ?_⟩
  · rw [hv.held, List.filter_map]; cases v <;> rfl
  · obtain ⟨x, rfl, rfl⟩ := Option.map_eq_some_iff.1 hy
    exact hv.gens x rfl a (hsub a ha)
  · obtain ⟨x, rfl, rfl⟩ := Option.map_eq_some_iff.1 hy
    have hl' : x.live = true := hl
    obtain ⟨c1, c2⟩ := hv.cur x rfl hl'
    refine ⟨?_, fun a ha => c2 a (hsub a ha)⟩
    obtain ⟨hmem, -⟩ := find_mem hfind
    show (if _ then _ else _) = ((hs.filter fun a => !(a.id == id)).countP x.flag : Int)
    rw [countP_filter_id hv.nodup hfind, ← c1]
    by_cases hc : h.side = .rem ∧ h.gen = x.outer ∧ x.live = true
    · have hf : x.flag h = true := by simp [FV.flag, hc.1, hc.2.1, hl', c2 h hmem hc.1 hc.2.1]
      have hpos : 0 < hs.countP x.flag := List.countP_pos_iff.2 ⟨h, hmem, hf⟩
      rw [if_pos hc, hf, if_pos rfl, decCount, c1]
      split <;> omega
    · have hf : x.flag h = false := by
        cases hf : x.flag h with
        | false => rfl
        | true =>
          simp only [FV.flag, Bool.and_eq_true, decide_eq_true_eq] at hf
          exact absurd ⟨hf.1.1.1, hf.1.1.2, hf.2⟩ hc
      rw [if_neg hc, hf]; simp

theorem held_false {v : Option FV} {hs : List Handle} {held : List (Nat × Bool)} (hv : HAcc v hs held) :
    (held.map fun p => (p.1, false)) = hs.map fun h => (h.id, false) := by
  rw [hv.held, List.map_map]; rfl

/-- no request in flight counts any more: the wrapper is gone, or new with an empty bucket -/
theorem drop {v : Option FV} {hs : List Handle} {held : List (Nat × Bool)} {y : FV} (hv : HAcc v hs held)
    (hle : ∀ x, v = some x → x.outer ≤ y.outer ∧ x.inner ≤ y.inner)
    (hnew : y.live = false ∨ (y.count = 0 ∧ ∀ x, v = some x → x.outer < y.outer)) :
    HAcc (some y) hs (hs.map fun h => (h.id, false)) := by
  have hgens : ∀ h ∈ hs, h.side = .rem → (h.gen ≤ y.outer ∧ h.inner ≤ y.inner) ∧
      (y.live = true → h.gen < y.outer) := by
    intro h hh hs
    cases v with
    | none => rw [hv.nocache rfl h hh] at hs; cases hs
    | some x =>
      obtain ⟨g1, g2⟩ := hv.gens x rfl h hh hs
      obtain ⟨l1, l2⟩ := hle x rfl
      refine ⟨⟨Nat.le_trans g1 l1, Nat.le_trans g2 l2⟩, fun hl => ?_⟩
      rcases hnew with hd | ⟨-, hlt⟩
      · rw [hd] at hl; cases hl
      · exact Nat.lt_of_le_of_lt g1 (hlt x rfl)
  have hflag : ∀ h ∈ hs, y.flag h = false := by
    intro h hh
    cases hf : y.flag h with
    | false => rfl
    | true =>
      simp only [FV.flag, Bool.and_eq_true, decide_eq_true_eq] at hf
      have := (hgens h hh hf.1.1.1).2 hf.2
      omega
  refine ⟨?_, hv.nodup, (fun h => nomatch h), fun x hx h hh hs => ?_, fun x hx hl => ?_⟩
  · exact List.map_congr_left fun h hh => by rw [flagV, hflag h hh]
  · cases hx; exact (hgens h hh hs).1
  · cases hx
    refine ⟨?_, fun h hh hs hg => ?_⟩
    · rw [List.countP_eq_zero.2 fun h hh => by rw [hflag h hh]; exact Bool.false_ne_true]
      rcases hnew with hd | ⟨h0, -⟩
      · rw [hd] at hl; cases hl
      · exact h0
    · have := (hgens h hh hs).2 hl
      omega

end HAcc

/-! ### `Inv`; the judge's clauses about a state follow from it -/

structure Inv (K : Kind) (cfg : Cfg) (st : State) (m : Mon) : Prop where
  meter : m.meter = st.meter
  meterOK : 0 < st.meter.rateDen
  shards : m.shards = st.shardCount
  hb : HBInv st.hb m.hist
  prev : m.prev = observe cfg st
  gsOK : BoundOK m.gs
  gsob : BLe m.gs m.ob
  obgs : (observe cfg st).unavail = false → m.ob = m.gs
  cache : CInv K st.cache m
  leader : m.leader = st.leader
  cnt : CntInv st m
  fl : FlInv cfg st m

theorem inv_init (K : Kind) (cfg : Cfg) : Inv K cfg (initState cfg) {} := by
  refine ⟨rfl, (by simp [initState] : (0:Int) < _), rfl, rfl, ?_, ?_, BLe.refl _, fun _ => rfl, rfl, rfl,
    ⟨rfl, Int.le_refl _, fun c hc => (by cases hc), fun c hc _ => (by cases hc)⟩,
    ⟨rfl, fun c r hc => (by cases hc), fun w hw => (by simp [gfcOf, initState] at hw), fun h => (by cases h), rfl,
      List.nodup_nil, fun c hc => (by cases hc), fun _ h hh => (by cases hh), fun c hc => (by cases hc)⟩⟩
  · cases cfg with | mk rl cs => cases rl <;> rfl
  · constructor <;> simp [maxInt32] <;> decide

namespace Inv

theorem lims {K : Kind} {cfg : Cfg} {st : State} {m : Mon} (hi : Inv K cfg st m) :
    LInv K m.gs m.ob (limsOf st) m.schema m.synced := cinv_iff.1 hi.cache

theorem wacc {K : Kind} {cfg : Cfg} {st : State} {m : Mon} (hi : Inv K cfg st m) :
    WAcc (remOf st) (cntOf st).event m.applied m.owed m.mustEvent := (flInv_iff.1 hi.fl).2.1

theorem hacc {K : Kind} {cfg : Cfg} {st : State} {m : Mon} (hi : Inv K cfg st m) :
    HAcc (st.cache.map fvOf) st.handles m.held := (flInv_iff.1 hi.fl).2.2

theorem schema {K : Kind} {cfg : Cfg} {st : State} {m : Mon} {s : Schema} (hi : Inv K cfg st m)
    (hs : m.schema = some s) : VS K s := by
  rcases hi.lims with ⟨-, h, -⟩ | ⟨s', -, h, hv, -⟩ | ⟨s', _, _, _, -, h, hv, -⟩
  · cases hs.symm.trans h
  · cases hs.symm.trans h; exact hv
  · cases hs.symm.trans h; exact hv

/-- the three shapes of a related state: no cache yet; a cache without, or with, a remote wrapper -/
theorem cases {K : Kind} {cfg : Cfg} {st : State} {m : Mon} (hi : Inv K cfg st m) :
    (st.cache = none ∧ m.schema = none ∧ m.synced = false ∧ gfcOf st = none) ∨
    ∃ c s, st.cache = some c ∧ m.schema = some s ∧ VS K s ∧ c.loc = { config := s, fc := some (limOf s) } ∧
      WAcc c.remote c.cnt.event m.applied m.owed m.mustEvent ∧ HAcc (some (fvOf c)) st.handles m.held ∧
      ((c.remote = none ∧ m.synced = false ∧ gfcOf st = none) ∨
       ∃ i ap g, c.remote = some { remoteConfig := some i, appliedConfig := some ap, fc := some g } ∧ m.synced = true ∧
         gfcOf st = some g ∧ WOK K g ap m.gs m.ob) := by
  obtain ⟨-, hw, hh⟩ := flInv_iff.1 hi.fl
  have shape : ∀ l r, limsOf st = some (l, r) → ∃ c, st.cache = some c ∧ c.loc = l ∧ c.remote = r ∧
      WAcc c.remote c.cnt.event m.applied m.owed m.mustEvent ∧ HAcc (some (fvOf c)) st.handles m.held := by
    intro l r hl
    obtain ⟨c, hc, e⟩ := Option.map_eq_some_iff.1 hl
    rw [remOf, cntOf, hc] at hw
    rw [hc] at hh
    exact ⟨c, hc, (Prod.mk.inj e).1, (Prod.mk.inj e).2, hw, hh⟩
  rcases hi.lims with ⟨hl, hs, hy⟩ | ⟨s, hl, hs, hv, hy⟩ | ⟨s, i, ap, g, hl, hs, hv, hy, hwk⟩
  · have hc : st.cache = none := Option.map_eq_none_iff.1 hl
    exact Or.inl ⟨hc, hs, hy, by rw [gfcOf, hc]; rfl⟩
  · obtain ⟨c, hc, e1, e2, hw, hh⟩ := shape _ _ hl
    exact Or.inr ⟨c, s, hc, hs, hv, e1, hw, hh, Or.inl ⟨e2, hy, by rw [gfcOf, hc]; simp [e2]⟩⟩
  · obtain ⟨c, hc, e1, e2, hw, hh⟩ := shape _ _ hl
    exact Or.inr ⟨c, s, hc, hs, hv, e1, hw, hh, Or.inr ⟨i, ap, g, e2, hy, by rw [gfcOf, hc]; simp [e2], hwk⟩⟩

/-- the judge's capacity clause -/
theorem rlim {K : Kind} {cfg : Cfg} {st : State} {m : Mon} {g : GFC} (hi : Inv K cfg st m)
    (hg : gfcOf st = some g) : Lim.leb g.inner m.ob = true ∧ g.inner.kind = K := by
  rcases hi.cases with ⟨-, -, -, h⟩ | ⟨c, s, -, -, hv, -, -, -, ⟨-, -, h⟩ | ⟨i, ap, g0, -, -, h, hw⟩⟩
  · rw [hg] at h; cases h
  · rw [hg] at h; cases h
  · cases hg.symm.trans h
    exact ⟨hw.leb (VS_kind hv) fun hu => hi.obgs (by rw [observe_unavail, hg]; exact hu), hw.kind⟩

end Inv

theorem judgePost_ok {K : Kind} {cfg : Cfg} {st : State} {m : Mon} (hi : Inv K cfg st m) :
    judgePost cfg m (observe cfg st) = [] := by
  -- clause by clause: the observation is rewritten to the state (`observe_*`), and the test of each clause is refuted from
  -- readiness (`isReady_spec`), the choice (`load_*`) and the shape of the state (`Inv.cases`)
  have hrd := isReady_spec hi.shards hi.hb
  have hdown : (m.shards = 0 ∨ specMustDown m.hist = true) → isReady st = false := by
    rw [hrd]; rintro (h | h)
    · simp [h]
    · simp [mustDown_not_ready h]
  have hup : m.shards ≠ 0 → specMustUp m.hist = true → isReady st = true := fun h1 h2 => by
    rw [hrd, mustUp_ready h2]; simp [h1]
  unfold judgePost
  rw [observe_ready, observe_choice, observe_lim, observe_rlim,
    if_neg (fun h => Bool.noConfusion ((hdown h.1).symm.trans h.2)),
    if_neg (fun h => Bool.noConfusion ((hup h.1 h.2.1).symm.trans h.2.2))]
  rcases hi.cases with ⟨hc, hs, -, -⟩ | ⟨c, s, hc, hs, hv, hloc, -, -, hrem⟩
  · rw [hs, load_none hc]; rfl
  · have hlocal : mustLocal cfg m s (observe cfg st) = true → load cfg st = .loc := by
      intro hl
      rw [load_some hc, hloc]
      refine if_neg fun ⟨c1, c2, c3, c4, c5, c6⟩ => ?_
      simp only [mustLocal, Bool.or_eq_true, decide_eq_true_eq, Bool.not_eq_true', Option.isNone_iff_eq_none,
        observe_ready, observe_rlim] at hl
      rcases hl with ((((((hl | hl) | hl) | hl) | hl) | hl) | hl) | hl
      · exact hl c1
      · exact c2 hl
      · exact c3 hl
      · rw [c4] at hl; cases hl
      · rw [hdown (Or.inl hl)] at c5; cases c5
      · rw [hdown (Or.inr hl)] at c5; cases c5
      · rw [hl] at c5; cases c5
      · rcases hrem with ⟨hr, -, -⟩ | ⟨i, ap, g, hr, -, hg, -⟩
        · rw [hr] at c6; cases c6
        · rw [hg] at hl; cases hl
    have hremote : mustRemote cfg m s (observe cfg st) = true → load cfg st = .remote := by
      intro hr
      simp only [mustRemote, Bool.and_eq_true, decide_eq_true_eq, Bool.not_eq_true'] at hr
      obtain ⟨⟨⟨⟨⟨⟨⟨⟨r1, r2⟩, r3⟩, r4⟩, r5⟩, r6⟩, r7⟩, -⟩, -⟩ := hr
      rw [load_some hc, hloc]
      refine if_pos ⟨r1, r2, r3, r4, hup r5 r6, ?_⟩
      rcases hrem with ⟨-, hsy, -⟩ | ⟨i, ap, g, hr, -⟩
      · rw [hsy] at r7; cases r7
      · rw [hr]; rfl
    rw [hs]
    simp only []
    rw [if_neg (load_ne_dflt hc), if_neg (fun h => h.2 (hlocal h.1)), if_neg (fun h => h.2 (hremote h.1))]
    have hll : load cfg st = .loc → (match load cfg st with
        | .dflt => none | .loc => st.cache.bind (·.loc.fc) | .remote => (gfcOf st).map (·.inner)) = some (limOf s) := by
      intro h; rw [h, hc, Option.bind_some, hloc]
    have hlr : load cfg st = .remote → (match load cfg st with
        | .dflt => none | .loc => st.cache.bind (·.loc.fc) | .remote => (gfcOf st).map (·.inner))
        = (gfcOf st).map (·.inner) := by
      intro h; rw [h]
    rw [if_neg (fun h => h.2 (hll h.1)), if_neg (fun h => h.2 (hlr h.1))]
    rcases hrem with ⟨-, -, hg⟩ | ⟨i, ap, g, -, -, hg, hT, hle, hgi, hk⟩
    · rw [hg]; rfl
    · rw [hg]
      simp only [Option.map_some, List.nil_append]
      rw [if_neg (not_not_intro (hk.trans (VS_guess hv).symm)), if_pos (hi.rlim hg).1]

/-! ## every operation preserves the invariant -/

/-- what the theorems require of an operation; the schema's type may change from one sync to the next, and answers,
    replies and heartbeats are arbitrary -/
def OpOK' : Op → Prop
  | .schema s => ∃ K, VS K s
  | .meter x => 0 < x.rateDen
  | _ => True

/-- the conclusion of every per-operation lemma -/
def StepOK (K : Kind) (cfg : Cfg) (st : State) (m : Mon) (op : Op) : Prop :=
  ∃ st', step st op = .ok st' ∧ Inv K cfg st' (m.next op (observe cfg st')) ∧
    judgeStep cfg m op (observe cfg st') = []

/-! ### the monitor's step -/

section
variable {m : Mon} {op : Op} (o : Obs)

theorem next_ob : (m.next op o).ob = obAfter m.ob (m.next op o).gs o.unavail := rfl

theorem rebuilds_false (he : effective m op = false) : rebuilds m op = false := by
  rw [rebuilds, he]; rfl

theorem newBucket_false (he : effective m op = false) : newBucket m op = false := by
  rw [newBucket, rebuilds_false he]; rfl

theorem next_gs (he : effective m op = false) : (m.next op o).gs = m.gs := by
  show (if effective m op = true then _ else m.gs) = m.gs
  rw [he]; rfl

theorem next_applied (he : effective m op = false) : (m.next op o).applied = m.applied := by
  show (if effective m op = true then _ else m.applied) = m.applied
  rw [he]; rfl

theorem next_contact (he : effective m op = false) : (m.next op o).contact = match (generalizing := false) op with
    | .tick now (some _) => if o.req.isSome then (if m.contact < unixS now then unixS now else m.contact) else m.contact
    | _ => m.contact := by
  show (if effective m op = true then _ else _) = _
  rw [he]; rfl

theorem next_held (he : effective m op = false) (hs : stopsRemote m op = false) : (m.next op o).held = match (generalizing := false) op with
    | .acquire id =>
      if o.admitted = some true ∧ !(m.held.any (·.1 == id)) then (id, decide (m.prev.choice = .remote)) :: m.held
      else m.held
    | .release id => m.held.filter fun h => !(h.1 == id)
    | _ => m.held := by
  show (if (newBucket m op || stopsRemote m op) = true then _ else _) = _
  rw [newBucket_false he, hs]; rfl

theorem next_mustEvent (he : effective m op = false) (hs : stopsRemote m op = false) :
    (m.next op o).mustEvent = match (generalizing := false) op with
    | .event => decide (m.prev.wkind = 2 ∨ m.prev.wkind = 3)
    | .tick _ _ => false
    | _ => m.mustEvent := by
  show (match op with
    | .event => decide (m.prev.wkind = 2 ∨ m.prev.wkind = 3)
    | .tick _ _ => false
    | _ => m.mustEvent && !rebuilds m op && !stopsRemote m op) = _
  rw [rebuilds_false he, hs]
  cases op <;> first | rfl | exact Bool.and_true _ |>.trans (Bool.and_true _)

theorem next_owed (he : effective m op = false) (hs : stopsRemote m op = false) :
    (m.next op o).owed = match (generalizing := false) op with
    | .tick _ ans =>
      if m.prev.wkind = 3 then
        match o.req with
        | some hits => if ans.isSome then i32add (i32add m.owed hits) (toI32 (-hits)) else i32add m.owed hits
        | none => m.owed
      else m.owed
    | .setLimit r => if m.prev.wkind = 3 then (if r.hasReq then i32add m.owed (toI32 (-r.tokens)) else m.owed) else m.owed
    | _ => m.owed := by
  show (if (rebuilds m op || stopsRemote m op) = true then _ else _) = _
  rw [rebuilds_false he, hs]
  cases op <;> first | rfl | exact ite_self _

end

example (m : Mon) (n : Nat) (o : Obs) : (m.next (.shards n) o).held = m.held := next_held o rfl rfl
example (m : Mon) (n : Nat) (o : Obs) : (m.next (.shards n) o).owed = m.owed := next_owed o rfl rfl
example (m : Mon) (n : Nat) (o : Obs) : (m.next (.shards n) o).contact = m.contact := next_contact o rfl


/-- the monitor `m'` after an effective sync of the remote limiter -/
structure SyncNext (m : Mon) (op : Op) (s : Schema) (i : Item) (m' : Mon) : Prop where
  schema : m'.schema = some s
  synced : m'.synced = true
  gs : m'.gs = globalOf s
  applied : m'.applied = some (boundByGlobalLimit s i)
  contact : m'.contact = if m.contact < unixS m.clock then unixS m.clock else m.contact
  mayEvent : m'.mayEvent = m.mayEvent
  owed : m'.owed = if rebuilds m op then 0 else m.owed
  mustEvent : m'.mustEvent = (m.mustEvent && !rebuilds m op)
  held : m'.held = if newBucket m op then m.held.map (fun h => (h.1, false)) else m.held

theorem next_remoteSync {m : Mon} {op : Op} {s : Schema} {i : Item} (o : Obs)
    (hop : op = .reconcileCount ∨ ∃ item, op = .answer true item) (heff : effective m op = true)
    (hsch : m.schema = some s) (hitem : syncItem m op = some i) : SyncNext m op s i (m.next op o) := by
  have hst : stopsRemote m op = false := by rcases hop with rfl | ⟨item, rfl⟩ <;> rfl
  refine ⟨?_, ?_, ?_, ?_, ?_, ?_, ?_, ?_, ?_⟩
  · rcases hop with rfl | ⟨item, rfl⟩ <;> exact hsch
  · rcases hop with rfl | ⟨item, rfl⟩ <;> exact (congrArg (m.synced || ·) heff).trans (Bool.or_true _)
  · show (if effective m op = true then (match m.schema with | some s => globalOf s | none => m.gs) else m.gs) = _
    rw [heff, hsch]; rfl
  · show (if effective m op = true then (match syncItem m op, m.schema with
        | some item, some s => some (boundByGlobalLimit s item) | _, _ => m.applied) else m.applied) = _
    rw [heff, hitem, hsch]; rfl
  · show (if effective m op = true then _ else _) = _
    rw [heff]; rfl
  · rcases hop with rfl | ⟨item, rfl⟩ <;> rfl
  · show (if (rebuilds m op || stopsRemote m op) = true then 0 else _) = _
    rw [hst, Bool.or_false]
    rcases hop with rfl | ⟨item, rfl⟩ <;> (split <;> first | rfl | exact ite_self _)
  · rcases hop with rfl | ⟨item, rfl⟩ <;>
      exact (congrArg (m.mustEvent && !rebuilds m _ && ·) (congrArg not hst)).trans (Bool.and_true _)
  · show (if (newBucket m op || stopsRemote m op) = true then _ else _) = _
    rw [hst, Bool.or_false]
    rcases hop with rfl | ⟨item, rfl⟩ <;> rfl

theorem next_schema {m : Mon} {op : Op} (o : Obs) (hns : ∀ s, op ≠ .schema s) :
    (m.next op o).schema = m.schema ∧ (m.next op o).synced = (m.synced || effective m op) := by
  cases op <;> first | exact ⟨rfl, rfl⟩ | exact absurd rfl (hns _)

theorem next_synced_schema (m : Mon) (s : Schema) (o : Obs) :
    (m.next (.schema s) o).synced = if stopsRemote m (.schema s) then false else m.synced := by
  show (match m.schema with | some old => _ | none => m.synced) = _
  unfold stopsRemote
  cases m.schema with
  | none => rfl
  | some old => simp only [Bool.and_eq_true, Bool.or_eq_true, decide_eq_true_eq, Bool.not_eq_true']

theorem contact_mono (m : Mon) (op : Op) (o : Obs) : m.contact ≤ (m.next op o).contact := by
  have key : ∀ x : Int, m.contact ≤ if m.contact < x then x else m.contact := fun x => by split <;> omega
  show m.contact ≤ if effective m op = true then _ else _
  split
  · exact key _
  · split
    · split
      · exact key _
      · exact Int.le_refl _
    · exact Int.le_refl _


/-! ### the state outside the cache -/

/-- what an operation does to the state outside the cache and the requests in flight -/
structure Frame (st st' : State) (op : Op) : Prop where
  cfgv : st'.cfgv = st.cfgv
  meter : st'.meter = match (generalizing := false) op with | .meter x => x | _ => st.meter
  shards : st'.shardCount = match (generalizing := false) op with | .shards n => n | .sync false n _ _ => n | _ => st.shardCount
  clock : st'.clock = match (generalizing := false) op with | .hb _ now false => now | .sync _ _ _ now => now | .tick now _ => now | _ => st.clock
  leader : st'.leader = match (generalizing := false) op with | .sync false _ (some l) _ => l | _ => st.leader
  hb : st'.hb = match (generalizing := false) op with
    | .hb ok now false => some (hbStep (st.hb.getD {}) ok now)
    | .sync false _ (some l) now => if st.leader ≠ l then some (hbStep (st.hb.getD {}) true now) else st.hb
    | _ => st.hb

theorem scalars_next {K : Kind} {cfg : Cfg} {st st' : State} {m : Mon} {op : Op} (hi : Inv K cfg st m) (hop : OpOK' op)
    (hf : Frame st st' op) (o : Obs) :
    (m.next op o).meter = st'.meter ∧ 0 < st'.meter.rateDen ∧ (m.next op o).shards = st'.shardCount ∧
    HBInv st'.hb (m.next op o).hist ∧ (m.next op o).leader = st'.leader ∧ (m.next op o).clock = st'.clock := by
  obtain ⟨-, e1, e2, e3, e4, e5⟩ := hf
  rw [e1, e2, e3, e4, e5]
  have h := And.intro hi.meter (And.intro hi.meterOK (And.intro hi.shards (And.intro hi.hb (And.intro hi.leader hi.cnt.clock))))
  cases op with
  | meter x => exact ⟨rfl, hop, hi.shards, hi.hb, hi.leader, hi.cnt.clock⟩
  | shards n => exact ⟨hi.meter, hi.meterOK, rfl, hi.hb, hi.leader, hi.cnt.clock⟩
  | tick now ans => exact ⟨hi.meter, hi.meterOK, hi.shards, hi.hb, hi.leader, rfl⟩
  | hb ok now other =>
    cases other with
    | true => exact h
    | false => exact ⟨hi.meter, hi.meterOK, hi.shards, hbStep_inv hi.hb ok now, hi.leader, rfl⟩
  | sync fail n leader now =>
    cases fail with
    | true => exact ⟨hi.meter, hi.meterOK, hi.shards, hi.hb, hi.leader, rfl⟩
    | false =>
      cases leader with
      | none => exact ⟨hi.meter, hi.meterOK, rfl, hi.hb, hi.leader, rfl⟩
      | some l =>
        by_cases hne : st.leader = l
        · have hl : leaderChange m (.sync false n (some l) now) = none := by
            simp only [leaderChange, hi.leader, hne, ne_eq, not_true_eq_false, if_false]
          refine ⟨hi.meter, hi.meterOK, rfl, ?_, ?_, rfl⟩
          · show HBInv (if st.leader ≠ l then _ else st.hb) (match leaderChange m _ with
              | some (_, now) => (true, now) :: m.hist | none => m.hist)
            rw [hl, if_neg (not_not_intro hne)]; exact hi.hb
          · show (match leaderChange m _ with | some (l, _) => l | none => m.leader) = l
            rw [hl, hi.leader]; exact hne
        · have hl : leaderChange m (.sync false n (some l) now) = some (l, now) := by
            simp only [leaderChange, hi.leader, hne, ne_eq, not_false_eq_true, if_true]
          refine ⟨hi.meter, hi.meterOK, rfl, ?_, ?_, rfl⟩
          · show HBInv (if st.leader ≠ l then _ else st.hb) (match leaderChange m _ with
              | some (_, now) => (true, now) :: m.hist | none => m.hist)
            rw [hl, if_pos hne]; exact hbStep_inv hi.hb true now
          · show (match leaderChange m _ with | some (l, _) => l | none => m.leader) = l
            rw [hl]
  | _ => exact h

/-! ### `Inv` from its parts -/

theorem next_gsOK {K : Kind} {cfg : Cfg} {st : State} {m : Mon} (hi : Inv K cfg st m) (op : Op) (o : Obs) :
    BoundOK (m.next op o).gs := by
  show BoundOK (if effective m op = true then (match m.schema with | some s => globalOf s | none => m.gs) else m.gs)
  split
  · cases hs : m.schema with
    | none => exact hi.gsOK
    | some s => exact VS_globalOK (hi.schema hs)
  · exact hi.gsOK

/-- `Inv` after an operation from its parts (`m'`: the monitor after it). The trailing defaults, here and in
    `stepOK_keep`, `stepOK_request`, `stepOK_frame`, go through when `op` is a constructor application and `st'` a record
    update of `st` -/
theorem stepOK_of {K K' : Kind} {cfg : Cfg} {st st' : State} {m : Mon} {op : Op} (hi : Inv K cfg st m)
    (hs : step st op = .ok st') {m' : Mon} (hm : m' = m.next op (observe cfg st'))
    (lims : LInv K' m'.gs m'.ob (limsOf st') m'.schema m'.synced)
    (cnt : (cntOf st').lastSync ≤ m'.contact ∧ ((cntOf st').event = true → m'.mayEvent = true))
    (wacc : WAcc (remOf st') (cntOf st').event m'.applied m'.owed m'.mustEvent)
    (hacc : HAcc (st'.cache.map fvOf) st'.handles m'.held)
    (judge : judgeTrans m op (observe cfg st') = []) (hop : OpOK' op := by exact trivial)
    (hf : Frame st st' op := by exact ⟨rfl, rfl, rfl, rfl, rfl, rfl⟩) : StepOK K' cfg st m op := by
  subst hm
  obtain ⟨s1, s2, s3, s4, s5, s6⟩ := scalars_next hi hop hf (observe cfg st')
  have hk' : ∀ c, st'.cache = some c → c.cnt.lastSync ≤ (m.next op (observe cfg st')).contact ∧
      (c.cnt.event = true → (m.next op (observe cfg st')).mayEvent = true) := fun c h => by
    unfold cntOf at cnt; rw [h] at cnt; exact cnt
  have hinv : Inv K' cfg st' (m.next op (observe cfg st')) := by
    refine ⟨s1, s2, s3, s4, rfl, next_gsOK hi _ _, ?_, ?_, cinv_iff.2 lims, s5,
      ⟨s6, Int.le_trans hi.cnt.contact0 (contact_mono _ _ _), fun c h => (hk' c h).1, fun c h => (hk' c h).2⟩,
      flInv_iff.2 ⟨hf.cfgv.trans hi.fl.cfgv, wacc, hacc⟩⟩
    · rw [next_ob]
      cases (observe cfg st').unavail
      · exact BLe.refl _
      · exact BLe.sup_right _ _
    · intro hu; rw [next_ob, hu]; rfl
  exact ⟨st', hs, hinv, by rw [judgeStep, judgePost_ok hinv, judge]; rfl⟩

theorem next_ob_keep {K : Kind} {cfg : Cfg} {st : State} {m : Mon} {op : Op} {o : Obs} (hi : Inv K cfg st m)
    (he : effective m op = false) (hu : o.unavail = (observe cfg st).unavail) : (m.next op o).ob = m.ob := by
  rw [next_ob, next_gs o he, hu]
  cases hu' : (observe cfg st).unavail
  · exact (hi.obgs hu').symm
  · exact sup_eq_left hi.gsob

theorem stepOK_keep {K : Kind} {cfg : Cfg} {st st' : State} {m : Mon} {op : Op} (hi : Inv K cfg st m)
    (hs : step st op = .ok st') {m' : Mon} (hm : m' = m.next op (observe cfg st'))
    (lims : limsOf st' = limsOf st) (lastSync : (cntOf st').lastSync = (cntOf st).lastSync)
    (event : (cntOf st').event = true → m'.mayEvent = true)
    (wacc : WAcc (remOf st') (cntOf st').event m'.applied m'.owed m'.mustEvent)
    (hacc : HAcc (st'.cache.map fvOf) st'.handles m'.held)
    (judge : judgeTrans m op (observe cfg st') = []) (hop : OpOK' op := by exact trivial)
    (he : effective m op = false := by exact rfl)
    (hns : match (generalizing := false) op with | .schema _ => False | _ => True := by exact trivial)
    (hf : Frame st st' op := by exact ⟨rfl, rfl, rfl, rfl, rfl, rfl⟩) : StepOK K cfg st m op := by
  subst hm
  obtain ⟨e1, e2⟩ := next_schema (m := m) (op := op) (observe cfg st') (fun s h => by subst h; exact hns)
  refine stepOK_of hi hs rfl ?_ ⟨lastSync ▸ Int.le_trans hi.cnt.cntOf.1 (contact_mono _ _ _), event⟩ wacc hacc judge hop hf
  rw [lims, e1, e2, he, Bool.or_false, next_gs _ he,
    next_ob_keep hi he (by rw [observe_unavail, observe_unavail, gfcOf_rem, gfcOf_rem, remOf_lims lims])]
  exact hi.lims

/-- the limiter inside the remote wrapper is replaced (`SetLimit`, a request sent) -/
theorem linv_wrapper {K : Kind} {cfg : Cfg} {st' : State} {m : Mon} {op : Op} {c' : Cache} {s : Schema} {i ap : Item}
    {g' : GFC} (hsch : m.schema = some s) (hv : VS K s) (hsy : m.synced = true) (hc' : st'.cache = some c')
    (hloc : c'.loc = ⟨s, some (limOf s)⟩) (hrm : c'.remote = some ⟨some i, some ap, some g'⟩)
    (hw : WOK K g' ap m.gs (obAfter m.ob m.gs g'.unavail)) (he : effective m op = false := by exact rfl)
    (hns : match (generalizing := false) op with | .schema _ => False | _ => True := by exact trivial) :
    LInv K (m.next op (observe cfg st')).gs (m.next op (observe cfg st')).ob (limsOf st')
      (m.next op (observe cfg st')).schema (m.next op (observe cfg st')).synced := by
  obtain ⟨e1, e2⟩ := next_schema (m := m) (op := op) (observe cfg st') (fun s h => by subst h; exact hns)
  have hun : (observe cfg st').unavail = g'.unavail := by
    rw [observe_unavail, gfcOf, hc']; simp [hrm]
  rw [next_ob, next_gs _ he, hun]
  exact .rem s i ap g' (limsOf_eq hc' hloc hrm) (e1.trans hsch) hv (by rw [e2, he, hsy]; rfl) hw

/-! ### operations that leave the cache alone -/

theorem stepOK_frame {K : Kind} {cfg : Cfg} {st st' : State} {m : Mon} {op : Op} (hi : Inv K cfg st m)
    (hs : step st op = .ok st') (hop : OpOK' op := by exact trivial)
    (hq : match (generalizing := false) op with
      | .schema _ | .event | .acquire _ | .release _ | .tick _ _ => False | _ => True := by exact trivial)
    (he : effective m op = false := by exact rfl) (hf : Frame st st' op := by exact ⟨rfl, rfl, rfl, rfl, rfl, rfl⟩)
    (hc : st'.cache = st.cache := by exact rfl) (hh : st'.handles = st.handles := by exact rfl)
    (hw : match (generalizing := false) op with | .setLimit _ => gfcOf st = none | _ => True := by exact trivial) :
    StepOK K cfg st m op := by
  have hl : limsOf st' = limsOf st := by rw [limsOf, hc]; rfl
  have hk : cntOf st' = cntOf st := by rw [cntOf, hc]; rfl
  -- the monitor keeps what it knows of the counter, the wrapper and the requests in flight
  have keep : (match (generalizing := false) op with | .schema _ => False | _ => True) →
      (m.next op (observe cfg st')).mayEvent = m.mayEvent → (m.next op (observe cfg st')).owed = m.owed →
      (m.next op (observe cfg st')).mustEvent = m.mustEvent → (m.next op (observe cfg st')).held = m.held →
      judgeTrans m op (observe cfg st') = [] → StepOK K cfg st m op := fun hns e1 e2 e3 e4 hj =>
    stepOK_keep hi hs rfl hl (by rw [hk]) (by rw [hk, e1]; exact hi.cnt.cntOf.2)
      (by rw [remOf_lims hl, hk, next_applied _ he, e2, e3]; exact hi.wacc) (by rw [hc, hh, e4]; exact hi.hacc) hj hop he hns hf
  cases op with
  | schema _ | event | acquire _ | release _ | tick _ _ => exact hq.elim
  | setLimit r =>
    have hw3 : m.prev.wkind = 0 := by rw [hi.prev]; exact observe_wkind0 hw
    refine keep trivial rfl ?_ (next_mustEvent _ rfl rfl) (next_held _ rfl rfl)
      (by simp only [judgeTrans, judgeSetLimit, hw3]; rfl)
    rw [next_owed _ rfl rfl, hw3]; rfl
  | answer named item =>
    refine keep trivial rfl (next_owed _ he rfl) (next_mustEvent _ he rfl) (next_held _ he rfl) ?_
    cases named
    · rfl
    · simp only [judgeTrans, he, Bool.false_and, Bool.false_eq_true, if_false]
  | _ => exact keep trivial rfl (next_owed _ he rfl) (next_mustEvent _ he rfl) (next_held _ he rfl) rfl

theorem step_sync {K : Kind} {cfg : Cfg} {st : State} {m : Mon} (hi : Inv K cfg st m) (fail : Bool) (n : Nat)
    (leader : Option Nat) (now : Int) : StepOK K cfg st m (.sync fail n leader now) := by
  cases fail with
  | true => exact stepOK_frame hi rfl
  | false =>
    cases leader with
    | none => exact stepOK_frame hi rfl
    | some l =>
      by_cases hne : st.leader = l
      · exact stepOK_frame hi (st' := { st with shardCount := n, clock := now }) (if_neg (not_not_intro hne))
          (hf := ⟨rfl, rfl, rfl, rfl, hne, (if_neg (not_not_intro hne)).symm⟩)
      · exact stepOK_frame hi (if_pos hne) (hf := ⟨rfl, rfl, rfl, rfl, rfl, (if_pos hne).symm⟩)

/-! ### a schema sync -/

theorem localSync_VS {K : Kind} {l : Local} {old s : Schema} (ho : VS K old) (hs : VS K s)
    (hc : l.config = old) (hf : l.fc = some (limOf old)) :
    localSync l s = .ok ({ config := s, fc := some (limOf s) }, decide (s ≠ old) && !enableGlobal s) := by
  obtain ⟨cfg0, fc0⟩ := l
  simp only at hc hf
  subst hc hf
  unfold localSync
  by_cases heq : s = cfg0
  · subst heq; simp
  · simp only [heq, if_false, ne_eq, not_false_eq_true, decide_true, Bool.true_and]
    cases ho with
    | mi st0 l0 g0 a0 a1 a2 =>
      cases hs with
      | mi st l g h0 h1 h2 =>
        simp [limOf, Lim.kind, guessType, toU32_id h0 (by omega : l ≤ maxInt32)]
    | tb st0 q0 b0 gq0 gb0 a0 a1 a2 a3 a4 a5 =>
      cases hs with
      | tb st q b gq gb h0 h1 h2 h3 h4 h5 =>
        simp [limOf, Lim.kind, guessType, toU32_id (by omega : 0 ≤ q) (by omega : q ≤ maxInt32),
          toU32_id (by omega : 0 ≤ b) (by omega : b ≤ maxInt32)]

/-- `localWrapper.Sync` from one valid schema to another, of any two types -/
theorem localSync_valid {K K' : Kind} {l : Local} {old s : Schema} (ho : VS K old) (hs : VS K' s)
    (hc : l.config = old) (hf : l.fc = some (limOf old)) :
    localSync l s = .ok (⟨s, some (limOf s)⟩, decide (s ≠ old) && (decide (K' ≠ K) || !enableGlobal s)) ∧
    localRecreates l s = decide (K' ≠ K) := by
  by_cases hk : K' = K
  · subst hk
    rw [localSync_VS ho hs hc hf]
    simp [localRecreates, hf, VS_limOf_kind ho, VS_guess hs]
  · obtain ⟨cfg0, fc0⟩ := l
    simp only at hc hf
    subst hc hf
    have hsne : s ≠ cfg0 := fun e => hk (by rw [← VS_guess ho, ← VS_guess hs, e])
    have hne : K ≠ K' := fun e => hk e.symm
    constructor
    · unfold localSync
      simp only [if_neg hsne, VS_limOf_kind ho, VS_guess hs]
      rw [if_pos hne]
      simp [VS_newLim hs, bind, Except.bind, pure, Except.pure, hsne, hk]
    · simp [localRecreates, hsne, VS_limOf_kind ho, VS_guess hs, hne, hk]

/-- `upstreamLimiter.Sync`: `localSync_valid` in `step` -/
theorem step_schema_valid {K K' : Kind} {st : State} {c : Cache} {old s : Schema} (ho : VS K old) (hs : VS K' s)
    (hc : st.cache = some c) (hl : c.loc.config = old) (hf : c.loc.fc = some (limOf old)) :
    step st (.schema s) = .ok { st with cache := some { c with
      loc := { config := s, fc := some (limOf s) },
      remote := if (decide (s ≠ old) && (decide (K' ≠ K) || !enableGlobal s)) = true then none else c.remote,
      fl := if decide (K' ≠ K) = true then { c.fl with locGen := c.fl.locGen + 1, locCount := 0 } else c.fl } } := by
  obtain ⟨h1, h2⟩ := localSync_valid ho hs hl hf
  simp only [step, hc, h1, h2]

/-- the monitor's `stopsRemote` is the stop flag of `localWrapper.Sync` -/
theorem stopsRemote_eq {K K' : Kind} {m : Mon} {old s : Schema} (hsch : m.schema = some old) (ho : VS K old)
    (hs : VS K' s) : stopsRemote m (.schema s) = (decide (s ≠ old) && (decide (K' ≠ K) || !enableGlobal s)) := by
  simp only [stopsRemote, hsch, VS_guess ho, VS_guess hs]

/-- `K'` may differ from `K`: the remote wrapper is then stopped, so no limiter of the old type is handed out again -/
theorem step_schema {K K' : Kind} {cfg : Cfg} {st : State} {m : Mon} (hi : Inv K cfg st m) (s : Schema)
    (hs : VS K' s) : StepOK K' cfg st m (.schema s) := by
  -- afterwards there is no remote wrapper: there was none, or it has been stopped
  have noremote : ∀ (c' : Cache) (st' : State) (m' : Mon), st' = { st with cache := some c' } →
      m' = m.next (.schema s) (observe cfg st') → step st (.schema s) = .ok st' →
      c'.loc = { config := s, fc := some (limOf s) } → c'.remote = none → cntOf st' = cntOf st →
      (if stopsRemote m (.schema s) then false else m.synced) = false →
      (m.mustEvent && !stopsRemote m (.schema s)) = false → m'.held = st.handles.map (fun h => (h.id, false)) →
      (∀ x, st.cache.map fvOf = some x → x.outer ≤ c'.fl.remOuter ∧ x.inner ≤ c'.fl.remInner) →
      StepOK K' cfg st m (.schema s) := by
    intro c' st' m' hst hm hstep hloc hrem hcnt hsy hmust hheld hgens
    subst hst hm
    refine stepOK_of hi hstep rfl
      (.loc s (limsOf_eq rfl hloc hrem) rfl hs ((next_synced_schema m s _).trans hsy))
      ⟨hcnt ▸ Int.le_trans hi.cnt.cntOf.1 (contact_mono _ _ _), hcnt ▸ hi.cnt.cntOf.2⟩ ?_
      (hheld ▸ hi.hacc.drop hgens (Or.inl (by rw [fvOf, hrem]; rfl))) rfl (hop := ⟨_, hs⟩)
    show WAcc c'.remote _ _ _ (m.mustEvent && !rebuilds m (.schema s) && !stopsRemote m (.schema s))
    rw [hrem, rebuilds_false rfl, Bool.not_false, Bool.and_true, hmust]
    exact ⟨(fun x hx => nomatch hx), (fun w hw => nomatch hw), (fun h => nomatch h)⟩
  rcases hi.cases with ⟨hcache, hsch, hsy, -⟩ | ⟨c, old, hcache, hsch, h2, hloc, hw, hh, hrem⟩
  · have hst : stopsRemote m (.schema s) = false := by simp [stopsRemote, hsch]
    refine noremote { loc := { config := s, fc := some (limOf s) }, remote := none } _ _ rfl rfl
      (by simp [step, hcache, VS_newLim hs])
      rfl rfl (by rw [cntOf, cntOf, hcache]) (by rw [hst]; exact hsy) ?_ ?_ (fun x hx => by rw [hcache] at hx; cases hx)
    · cases hm : m.mustEvent with
      | false => rfl
      | true => obtain ⟨-, g, k, -⟩ := hi.wacc.must hm; rw [remOf, hcache] at k; cases k
    · rw [next_held _ rfl hst]; exact hi.hacc.held.trans (by rw [hcache]; rfl)
  · have hstep := step_schema_valid h2 hs hcache (congrArg Local.config hloc) (congrArg Local.fc hloc)
    rw [← stopsRemote_eq hsch h2 hs] at hstep
    have hfl : ∀ b : Bool, (if b then ({ c.fl with locGen := c.fl.locGen + 1, locCount := 0 } : Flight) else c.fl).remOuter
        = c.fl.remOuter ∧ (if b then ({ c.fl with locGen := c.fl.locGen + 1, locCount := 0 } : Flight) else c.fl).remInner
        = c.fl.remInner := fun b => by cases b <;> exact ⟨rfl, rfl⟩
    cases hst : stopsRemote m (.schema s) with
    | true =>
      rw [hst] at hstep
      refine noremote _ _ _ rfl rfl hstep rfl rfl (by rw [cntOf, cntOf, hcache]) (by rw [hst]; rfl) (by rw [hst]; simp) ?_
        (fun x hx => by rw [hcache] at hx; cases hx; exact ⟨Nat.le_of_eq (hfl _).1.symm, Nat.le_of_eq (hfl _).2.symm⟩)
      show (if (newBucket m (.schema s) || stopsRemote m (.schema s)) = true then _ else _) = _
      rw [hst, Bool.or_true, if_pos rfl, hi.hacc.held_false]
    | false =>
      -- only the local limiter changes
      have hk : K' = K := by
        false_or_by_contra
        rename_i hne
        have : s ≠ old := fun e => hne (by rw [← VS_guess hs, ← VS_guess h2, e])
        simp [stopsRemote_eq hsch h2 hs, this, hne] at hst
      subst hk
      rw [hst] at hstep
      have hg : gfcOf { st with cache := some { c with loc := { config := s, fc := some (limOf s) } } } = gfcOf st := by
        simp [gfcOf, hcache]
      refine stepOK_of hi (st' := { st with cache := some { c with loc := { config := s, fc := some (limOf s) } } })
        (by rw [hstep]; simp) rfl ?_
        ⟨Int.le_trans (hi.cnt.contact c hcache) (contact_mono _ _ _), hi.cnt.may c hcache⟩
        (by rw [next_applied _ rfl, next_owed _ rfl hst, next_mustEvent _ rfl hst]; exact hw)
        (by rw [next_held _ rfl hst]; exact hh) rfl (hop := ⟨_, hs⟩)
      rw [next_synced_schema, hst, next_gs _ rfl,
        next_ob_keep hi rfl (by rw [observe_unavail, observe_unavail, hg])]
      rcases hrem with ⟨hrm, hsy, -⟩ | ⟨i, ap, g, hrm, hsy, -, hwk⟩
      · exact .loc s (limsOf_eq rfl rfl hrm) rfl hs hsy
      · exact .rem s i ap g (limsOf_eq rfl rfl hrm) rfl hs hsy hwk

/-! ### syncs of the remote limiter: reconcile, answer -/

theorem rebuilds_eq {K : Kind} {cfg : Cfg} {st : State} {m : Mon} {c : Cache} {s : Schema} {op : Op} {i : Item}
    (hi : Inv K cfg st m) (hcache : st.cache = some c) (hsch : m.schema = some s) (heff : effective m op = true)
    (hitem : syncItem m op = some i) (hT : itemType i = K) :
    rebuilds m op = remoteRecreates (c.remote.getD {}) s i := by
  simp only [rebuilds, heff, hitem, hsch, Bool.true_and, hi.prev, observe_remoteConfig, observe_wkind, observe_rlim]
  rcases hi.cases with ⟨h, -⟩ | ⟨c0, s0, hc0, hs0, h2, -, -, -, hrem⟩
  · rw [hcache] at h; cases h
  rw [hcache] at hc0; cases hc0
  rw [hsch] at hs0; cases hs0
  rcases hrem with ⟨hrm, -, hg⟩ | ⟨i0, ap0, g, hrm, -, hg, -, -, -, q7⟩
  · simp [hcache, hrm, hg, remoteRecreates]
  · have happ : m.applied = some ap0 := hi.fl.applied c _ hcache hrm
    have hwk : GFC.wkind g ≠ 0 := by cases g <;> simp [GFC.wkind]
    simp only [hcache, hrm, hg, Option.bind_some, Option.getD_some, happ, Option.map_some]
    rcases remoteSync_cases ⟨some i0, some ap0, some g⟩ s i with ⟨e1, e2, e, -⟩ | ⟨g', n, b, hfc, hk, hst, e, -⟩ | ⟨e, hne, hall, -⟩
    · -- a repetition
      cases e1; cases e2
      rw [e]; simp
    · -- same type, same strategy: resized in place
      cases hfc
      rw [e]
      simp [hwk, hk, ← (show Remote.strategy ⟨some i0, some ap0, some g⟩ = i0.strategy from rfl), hst]
    · rw [e]
      simp only [Bool.and_eq_true, Bool.not_eq_true', Bool.and_eq_false_iff, Bool.or_eq_true, decide_eq_true_eq,
        decide_eq_false_iff_not]
      refine ⟨?_, ?_⟩
      · by_cases a : some i0 = some i
        · exact Or.inr fun b => hne ⟨a.symm, b.symm⟩
        · exact Or.inl a
      · rcases hall g rfl with h | h | h
        · exact Or.inl (Or.inr fun x => h (Option.some.inj x))
        · exact Or.inr h
        · rw [hT] at h; rcases VS_kind h2 with rfl | rfl <;> cases h

theorem newBucket_eq {K : Kind} {cfg : Cfg} {st : State} {m : Mon} {c : Cache} {s : Schema} {op : Op} {i : Item}
    (hi : Inv K cfg st m) (hcache : st.cache = some c) (hsch : m.schema = some s) (heff : effective m op = true)
    (hitem : syncItem m op = some i) (hT : itemType i = K) :
    newBucket m op = remoteNewBucket (c.remote.getD {}) s i ∧
    (remoteNewBucket (c.remote.getD {}) s i = true → c.remote = none) := by
  simp only [newBucket, remoteNewBucket, rebuilds_eq hi hcache hsch heff hitem hT, hitem, hi.prev, observe_wkind,
    observe_rlim]
  rcases hi.cases with ⟨h, -⟩ | ⟨c0, -, hc0, -, -, -, -, -, hrem⟩
  · rw [hcache] at h; cases h
  rw [hcache] at hc0; cases hc0
  rcases hrem with ⟨hrm, -, hg⟩ | ⟨i0, ap0, g, hrm, -, hg, -, -, -, q7⟩
  · simp [hg, hrm]
  · have hwk : GFC.wkind g ≠ 0 := by cases g <;> simp [GFC.wkind]
    simp [hg, hrm, hwk, q7, hT]

/-- a rebuild keeps the limiter and the requests it counts; only a remote wrapper that did not exist starts with an
    empty bucket, which no request in flight holds -/
theorem stepOK_remoteSync {K : Kind} {cfg : Cfg} {st : State} {m : Mon} {op : Op} {c : Cache} {s : Schema} {i : Item}
    (hi : Inv K cfg st m) (hop : op = .reconcileCount ∨ ∃ item, op = .answer true item)
    (hcache : st.cache = some c) (hsch : m.schema = some s) (heff : effective m op = true)
    (hitem : syncItem m op = some i) (hT : itemType i = K)
    (hstep : ∀ c', cacheRemoteSync c i (unixS st.clock) = .ok c' → step st op = .ok { st with cache := some c' })
    (hj : ∀ st' g', (observe cfg st').wkind = GFC.wkind g' → (observe cfg st').rlim = some g'.inner →
      GInv g' (boundByGlobalLimit s i) (m.next op (observe cfg st')).ob → judgeTrans m op (observe cfg st') = []) :
    StepOK K cfg st m op := by
  rcases hi.cases with ⟨h, -⟩ | ⟨c0, s0, hc0, hs0, h2, hloc, hw, hh, hrem⟩
  · rw [hcache] at h; cases h
  cases hcache.symm.trans hc0
  cases hsch.symm.trans hs0
  have h1 : c.loc.config = s := by rw [hloc]
  have hr : c.remote.getD {} = {} ∨
      ∃ i0 ap0 g0, c.remote.getD {} = ⟨some i0, some ap0, some g0⟩ ∧ WOK K g0 ap0 m.gs m.ob := by
    rcases hrem with ⟨hrm, -⟩ | ⟨i0, ap0, g0, hrm, -, -, hwk⟩
    · rw [hrm]; exact Or.inl rfl
    · rw [hrm]; exact Or.inr ⟨i0, ap0, g0, rfl, hwk⟩
  obtain ⟨g', e1, hw'⟩ := remoteSync_inv (i := i) h2 hT hr
  generalize hr' : (⟨some i, some (boundByGlobalLimit s i), some g'⟩ : Remote) = r' at e1
  have hOK : OpOK' op := by rcases hop with rfl | ⟨_, rfl⟩ <;> trivial
  have hrb := rebuilds_eq hi hcache hsch heff hitem hT
  obtain ⟨hnb, hnone⟩ := newBucket_eq hi hcache hsch heff hitem hT
  have key : ∀ (k : Counter) (fl' : Flight),
      k = (if remoteRecreates (c.remote.getD {}) s i then { event := false, lastSync := unixS st.clock } else c.cnt) →
      fl' = flightAfterSync c.fl c.remote.isNone (remoteNewBucket (c.remote.getD {}) s i) →
      StepOK K cfg st m op := by
    intro k fl' hk hfl'
    have hn :=
      next_remoteSync (observe cfg { st with cache := some { c with remote := some r', cnt := k, fl := fl' } }) hop heff hsch hitem
    have hun : (observe cfg { st with cache := some { c with remote := some r', cnt := k, fl := fl' } }).unavail
        = g'.unavail := by rw [observe_unavail]; simp [gfcOf, ← hr']
    have hob : (m.next op (observe cfg { st with cache := some { c with remote := some r', cnt := k, fl := fl' } })).ob
        = obAfter m.ob (globalOf s) g'.unavail := by rw [next_ob, hn.gs, hun]
    refine stepOK_of hi (hstep _ (by simp only [cacheRemoteSync, h1, e1, bind, Except.bind, pure, Except.pure, ← hk, ← hfl']))
      rfl (lims := ?_) (cnt := ?_) (wacc := ?_) (hacc := ?_) (judge := hj _ g' ?_ ?_ (hob ▸ hw'.inv)) (hop := hOK)
      (hf := by rcases hop with rfl | ⟨_, rfl⟩ <;> constructor <;> rfl)
    · rw [hn.schema, hn.synced, hn.gs, hob]
      exact .rem s i _ g' (limsOf_eq rfl hloc (congrArg some hr'.symm)) rfl h2 rfl hw'
    · show k.lastSync ≤ _ ∧ (k.event = true → _)
      rw [hn.contact, hn.mayEvent, hk, hi.cnt.clock]
      have hl := hi.cnt.contact c hcache
      split
      · exact ⟨by show unixS st.clock ≤ _; split <;> omega, fun h => nomatch h⟩
      · exact ⟨by split <;> omega, hi.cnt.may c hcache⟩
    · rw [hn.applied, hn.owed, hn.mustEvent, hrb]
      have := hw.sync (fun r hr => by rcases hrem with ⟨h, -⟩ | ⟨_, _, g0, h, -⟩ <;> rw [h] at hr <;> cases hr; exact ⟨g0, rfl⟩)
        e1 (by rw [← hr'])
      rw [hk]
      exact this.mono fun h => ⟨h, by split <;> exact id⟩
    · rw [hn.held, hnb]
      show HAcc (some (fvOf { c with remote := some r', cnt := k, fl := fl' })) st.handles _
      cases hnw : remoteNewBucket (c.remote.getD {}) s i with
      | false =>
        obtain ⟨r, hrm⟩ : ∃ r, c.remote = some r := by
          cases hrm : c.remote with
          | some r => exact ⟨r, rfl⟩
          | none => rw [hrm] at hnw; simp [remoteNewBucket, remoteRecreates] at hnw
        have : fvOf { c with remote := some r', cnt := k, fl := fl' } = fvOf c := by
          rw [fvOf, fvOf, hfl', hnw, hrm]; rfl
        rw [this]; exact hh
      | true =>
        rw [if_pos rfl, hh.held_false]
        have : fvOf { c with remote := some r', cnt := k, fl := fl' } =
            ⟨c.fl.remOuter + 1, c.fl.remInner + 1, 0, true⟩ := by rw [hfl', hnw, hnone hnw]; rfl
        rw [this]
        exact hh.drop (fun x hx => by cases hx; exact ⟨Nat.le_succ _, Nat.le_succ _⟩)
          (Or.inr ⟨rfl, fun x hx => by cases hx; exact Nat.lt_succ_self _⟩)
    · rw [observe_wkind]; simp [gfcOf, ← hr']
    · rw [observe_rlim]; simp [gfcOf, ← hr']
  exact key _ _ rfl rfl

/-- the monitor's `effective` is the guard of the model's reconcile and answer -/
theorem step_effective {K : Kind} {cfg : Cfg} {st : State} {m : Mon} {op : Op} (hi : Inv K cfg st m)
    (hop : op = .reconcileCount ∨ ∃ item, op = .answer true item) :
    (effective m op = false ∧ step st op = .ok st) ∨
    ∃ c s i, effective m op = true ∧ st.cache = some c ∧ m.schema = some s ∧ syncItem m op = some i ∧ itemType i = K ∧
      ∀ c', cacheRemoteSync c i (unixS st.clock) = .ok c' → step st op = .ok { st with cache := some c' } := by
  rcases hi.cases with ⟨hcache, hsch, -, -⟩ | ⟨c, s, hcache, hsch, h2, hloc, -, -, -⟩
  · refine Or.inl ?_
    rcases hop with rfl | ⟨item, rfl⟩ <;> exact ⟨by simp [effective, hsch], by simp [step, hcache]⟩
  have h1 : c.loc.config = s := by rw [hloc]
  rcases hop with rfl | ⟨item, rfl⟩
  · by_cases hg : s.strategy = .count ∧ enableGlobal s = true
    · refine Or.inr ⟨c, s, _, by simp [effective, hsch, hg.1, hg.2], hcache, hsch, by simp [syncItem, hsch],
        VS_globalItem h2, fun c' hc' => ?_⟩
      simp only [step, hcache, h1, hg.1, ne_eq, not_true_eq_false, if_false, hg.2, Bool.not_true, Bool.false_eq_true]
      rw [hg.1] at hc'; rw [hc']
    · refine Or.inl ⟨by simpa [effective, hsch] using hg, ?_⟩
      by_cases hcount : s.strategy = .count
      · simp [step, hcache, h1, hcount, Bool.eq_false_iff.2 fun h => hg ⟨hcount, h⟩]
      · simp [step, hcache, h1, hcount]
  · by_cases hg : enableGlobal s = true ∧ itemType item = guessType s
    · refine Or.inr ⟨c, s, item, by simp [effective, hsch, hg.1, hg.2], hcache, hsch, rfl,
        hg.2.trans (VS_guess h2), fun c' hc' => ?_⟩
      simp only [step, hcache, h1, hg.1, Bool.not_true, Bool.false_eq_true, if_false, hg.2, ne_eq, not_true_eq_false, hc']
    · refine Or.inl ⟨by simpa [effective, hsch] using hg, ?_⟩
      cases hen : enableGlobal s with
      | false => simp [step, hcache, h1, hen]
      | true =>
        have hty : itemType item ≠ guessType s := fun h => hg ⟨hen, h⟩
        simp [step, hcache, h1, hen, hty]

theorem step_remoteSync {K : Kind} {cfg : Cfg} {st : State} {m : Mon} {op : Op} (hi : Inv K cfg st m)
    (hop : op = .reconcileCount ∨ ∃ item, op = .answer true item) : StepOK K cfg st m op := by
  rcases step_effective hi hop with ⟨he, hs⟩ | ⟨c, s, i, heff, hcache, hsch, hitem, hT, hstep⟩
  · rcases hop with rfl | ⟨item, rfl⟩ <;>
      exact stepOK_frame hi hs (he := he)
  refine stepOK_remoteSync hi hop hcache hsch heff hitem hT hstep (fun st' g' hw hr hg => ?_)
  rcases hop with rfl | ⟨item, rfl⟩
  · rfl
  · -- a granted quota IS the limiter of the allocate wrapper
    cases hitem
    simp only [judgeTrans, heff, Bool.true_and, hsch, hw, hr]
    cases g' with
    | empty l =>
      simp only [GInv] at hg
      simp only [GFC.wkind, GFC.inner, hg, decide_true, if_true]
      split
      · rename_i e; rw [e, if_pos rfl]
      · rfl
    | miw w => simp [GFC.wkind]
    | tbw w => simp [GFC.wkind]

/-! ### acquire results, rounds of the counter manager -/

/-- the judge's clauses about one `SetLimit` that takes the wrapper `g` to `g'` -/
def judgeGfcSet (g : GFC) (s : Schema) (r : Reply) (g' : GFC) : List String :=
  match g with
  | .empty _ => []
  | .miw w => judgeMISet w.lastAcquireTime w.max w.unavail (some w.inner) s.mi r (some g'.inner)
  | .tbw w => judgeTBSet w.qps w.burst w.unavail (some w.inner) s.tb r (some g'.inner)

theorem judgeSetLimit_eq {K : Kind} {cfg : Cfg} {st : State} {m : Mon} {g g' : GFC} {s : Schema} {o : Obs} (r : Reply)
    (hi : Inv K cfg st m) (hg : gfcOf st = some g) (hs : m.schema = some s) (h1 : o.rlim = some g'.inner) :
    judgeSetLimit m r o = judgeGfcSet g s r g' := by
  cases g with
  | empty l =>
    have : (observe cfg st).wkind = 1 := by rw [observe_wkind, hg]; rfl
    simp [judgeSetLimit, hi.prev, this, judgeGfcSet]
  | miw w =>
    have p := observe_miw (cfg := cfg) hg
    simp only [judgeSetLimit, hi.prev, p.wkind, if_true, p.lastAcq, p.wmax, p.unavail, p.rlim, hs, Option.bind_some, h1,
      judgeGfcSet]
  | tbw w =>
    have p := observe_tbw (cfg := cfg) hg
    simp only [judgeSetLimit, hi.prev, p.wkind, p.wqps, p.wburst, p.unavail, p.rlim, hs, Option.bind_some, h1, judgeGfcSet]
    rfl

theorem gfcSetLimit_inv {K : Kind} {g : GFC} {ap : Item} {gs ob : Bound} {s : Schema} (hs : VS K s)
    (h : WOK K g ap gs ob) (hgs : BoundOK gs) (mt : Meter) (hd : 0 < mt.rateDen) (r : Reply) :
    ∃ g' b, gfcSetLimit g s mt r = .ok (g', b) ∧ WOK K g' ap gs (obAfter ob gs g'.unavail) ∧
      GFC.wkind g' = GFC.wkind g ∧
      (∀ w', g' = .tbw w' → ∃ w, g = .tbw w ∧ w'.tokenInflight = (w.noteRequest r).tokenInflight) ∧
      judgeGfcSet g s r g' = [] := by
  cases g with
  | empty l => exact ⟨.empty l, false, rfl, h.after _, rfl, (fun _ h => nomatch h), rfl⟩
  | miw w =>
    have hKm : K = .mi := by
      obtain ⟨A, sz, a1, a2, a3, a4, a5, _⟩ := h.inv
      rw [← h.kind]; simp [GFC.inner, a5, Lim.kind]
    subst hKm
    obtain ⟨w', e1, e2, e3⟩ := miw_setLimit_inv hs h hgs mt.maxInflight r
    exact ⟨.miw w', false, gfcSetLimit_miw e1, e2, rfl, (fun _ h => nomatch h), e3⟩
  | tbw w =>
    have hKt : K = .tb := by
      obtain ⟨t, q, u, a1, a2, a3, a4, a5, _⟩ := h.inv
      rw [← h.kind]; simp [GFC.inner, a5, Lim.kind]
    subst hKt
    obtain ⟨w', b, e1, e2, e3⟩ := tbw_setLimit_inv hs h hgs mt hd r
    refine ⟨.tbw w', b, gfcSetLimit_tbw e1, e2, rfl, fun w0 h => ?_, e3⟩
    cases h; exact ⟨w, rfl, tbw_setLimit_tokenInflight e1⟩

theorem step_setLimit {K : Kind} {cfg : Cfg} {st : State} {m : Mon} (hi : Inv K cfg st m) (r : Reply) :
    StepOK K cfg st m (.setLimit r) := by
  have noop : gfcOf st = none → step st (.setLimit r) = .ok st → StepOK K cfg st m (.setLimit r) := fun hg hs =>
    stepOK_frame hi hs (hw := hg)
  rcases hi.cases with ⟨hcache, -, -, hg⟩ |
    ⟨c, s, hcache, hsch, h2, hloc, hw, hh, ⟨hrm, -, hg⟩ | ⟨i, ap, g, hrm, hsy, hgf, hwk⟩⟩
  · exact noop hg (by simp [step, hcache])
  · exact noop hg (by simp [step, hcache, hrm])
  · have hpw : m.prev.wkind = GFC.wkind g := by rw [hi.prev, observe_wkind, hgf]; rfl
    obtain ⟨g', b, e1, e2, e4, e5, e6⟩ := gfcSetLimit_inv h2 hwk hi.gsOK st.meter hi.meterOK r
    rw [hrm] at hw
    refine stepOK_of hi
      (st' := { st with cache := some { c with remote := some ⟨some i, some ap, some g'⟩ }, lastRet := b })
      (by simp [step, hcache, hrm, hloc, e1]) rfl
      (linv_wrapper hsch h2 hsy rfl hloc rfl e2)
      ⟨Int.le_trans (hi.cnt.contact c hcache) (contact_mono _ _ _), hi.cnt.may c hcache⟩ ?_
      (by rw [next_held _ rfl rfl]; show HAcc (some (fvOf _)) _ _; rw [fvOf_wrapper hrm]; exact hh)
      ((judgeSetLimit_eq r hi hgf hsch (by rw [observe_rlim]; simp [gfcOf])).trans e6)
    rw [next_applied _ rfl, next_mustEvent _ rfl rfl]
    refine hw.wrap (fun w' hw' => ?_) (fun hm => ⟨(hw.must hm).1, ?_⟩)
    · obtain ⟨w, rfl, htk⟩ := e5 w' hw'
      rw [next_owed _ rfl rfl, htk, ← hw.owed w rfl]
      simp only [hpw, GFC.wkind, if_true, TBW.noteRequest]
      split <;> rfl
    · obtain ⟨-, g0, k1, k2⟩ := hw.must hm
      cases k1; exact e4 ▸ k2

@[simp] theorem tickQuiet_clock (st : State) (c : Cache) (now : Int) : (tickQuiet st c now).clock = now := rfl
@[simp] theorem tickQuiet_lastReq (st : State) (c : Cache) (now : Int) : (tickQuiet st c now).lastReq = none := rfl
@[simp] theorem tickQuiet_cache (st : State) (c : Cache) (now : Int) :
    (tickQuiet st c now).cache = some { c with cnt := { c.cnt with event := false } } := rfl
@[simp] theorem tickQuiet_meter (st : State) (c : Cache) (now : Int) : (tickQuiet st c now).meter = st.meter := rfl
@[simp] theorem tickQuiet_shards (st : State) (c : Cache) (now : Int) : (tickQuiet st c now).shardCount = st.shardCount := rfl
@[simp] theorem tickQuiet_hb (st : State) (c : Cache) (now : Int) : (tickQuiet st c now).hb = st.hb := rfl
@[simp] theorem tickQuiet_leader (st : State) (c : Cache) (now : Int) : (tickQuiet st c now).leader = st.leader := rfl
@[simp] theorem tickSent_clock (st : State) (c : Cache) (rm : Remote) (g : GFC) (k : Counter) (now hits : Int) :
    (tickSent st c rm g k now hits).clock = now := rfl
@[simp] theorem tickSent_lastReq (st : State) (c : Cache) (rm : Remote) (g : GFC) (k : Counter) (now hits : Int) :
    (tickSent st c rm g k now hits).lastReq = some hits := rfl
@[simp] theorem tickSent_cache (st : State) (c : Cache) (rm : Remote) (g : GFC) (k : Counter) (now hits : Int) :
    (tickSent st c rm g k now hits).cache = some { c with remote := some { rm with fc := some g }, cnt := k } := rfl
@[simp] theorem tickSent_meter (st : State) (c : Cache) (rm : Remote) (g : GFC) (k : Counter) (now hits : Int) :
    (tickSent st c rm g k now hits).meter = st.meter := rfl
@[simp] theorem tickSent_shards (st : State) (c : Cache) (rm : Remote) (g : GFC) (k : Counter) (now hits : Int) :
    (tickSent st c rm g k now hits).shardCount = st.shardCount := rfl
@[simp] theorem tickSent_hb (st : State) (c : Cache) (rm : Remote) (g : GFC) (k : Counter) (now hits : Int) :
    (tickSent st c rm g k now hits).hb = st.hb := rfl
@[simp] theorem tickSent_leader (st : State) (c : Cache) (rm : Remote) (g : GFC) (k : Counter) (now hits : Int) :
    (tickSent st c rm g k now hits).leader = st.leader := rfl

theorem requestOf_due {g : GFC} {cnt : Counter} {mt : Meter} {infl now contact : Int} (hle : cnt.lastSync ≤ contact)
    (hdue : unixS now - contact > 2) (hnone : requestOf g cnt mt infl now = none) :
    (∃ l, g = .empty l) ∨ ((∃ w, g = .tbw w) ∧ cnt.event = true) := by
  have hd : unixS now - cnt.lastSync > 2 := by omega
  cases g with
  | empty l => exact Or.inl ⟨l, rfl⟩
  | miw w => simp [requestOf, hd] at hnone
  | tbw w =>
    refine Or.inr ⟨⟨w, rfl⟩, ?_⟩
    cases he : cnt.event with
    | true => rfl
    | false => simp [requestOf, hd, he] at hnone

/-- the premise under which `tokenBucketWrapper.ExpectToken` asks for tokens: room in the reserve once the tokens being
    acquired are counted -/
def Demand (w : TBW) (now : Int) : Prop :=
  i32sub (i32sub w.reserve w.tokens) w.tokenInflight > 0 ∧ w.tokenBatch ≥ 1 ∧
    (i32sub (i32sub w.reserve w.tokens) w.tokenInflight ≥ w.tokenBatch ∨
      now - w.lastAcquireTime ≥ batchAcquireMaxDuration)

theorem demand_hits {w : TBW} {cnt : Counter} {mt : Meter} {infl now : Int} (hev : cnt.event = true)
    (hd : Demand w now) :
    requestOf (.tbw w) cnt mt infl now = some (w.expectToken mt now) ∧ w.expectToken mt now > 0 := by
  obtain ⟨hroom, hb, hor⟩ := hd
  have hpos : w.expectToken mt now > 0 := by
    simp only [TBW.expectToken, globalTokenBucketBatchAcquireMin]
    generalize i32sub (i32sub w.reserve w.tokens) w.tokenInflight = room at hroom hor
    have h0 : ¬ room < 0 := by omega
    simp only [h0, if_false]
    by_cases h1 : room < w.tokenBatch
    · simp only [h1, if_true]
      have : ¬ (now - w.lastAcquireTime < batchAcquireMaxDuration) := by
        rcases hor with h | h
        · omega
        · omega
      simp only [this, if_false]; exact hroom
    · simp only [h1, if_false]
      have hbatch : ∀ b : Int, (if b < 1 then 1 else b) > 0 := by intro b; split <;> omega
      have key : ∀ batch : Int, batch > 0 → (if room > batch then batch else room) > 0 := by
        intro batch hb; split <;> omega
      apply key
      split
      · exact hbatch _
      · omega
  refine ⟨?_, hpos⟩
  simp only [requestOf, hev, Bool.true_or, Bool.not_true, Bool.false_eq_true, if_false, Bool.false_and]
  have : ¬ (w.expectToken mt now ≤ 0 ∧ True) := by intro h; omega
  simp [this]

/-- with an empty bucket and nothing owed the room is the whole reserve, at least one batch -/
theorem judgeDemand_ok {K : Kind} {cfg : Cfg} {st : State} {m : Mon} (hi : Inv K cfg st m) (now : Int) (o : Obs)
    (ho : ∀ w, gfcOf st = some (.tbw w) → (cntOf st).event = true → Demand w now → reqPositive o.req = true) :
    judgeDemand m o = [] := by
  refine if_neg fun ⟨p1, p2, _, p4, p5, p6, p7, p8, p9⟩ => ?_
  obtain ⟨c, g, k1, k2, k3, k4⟩ := hi.fl.must p2
  rw [hi.prev, observe_wkind, k2] at p1
  cases g with
  | empty l => cases p1
  | miw w => cases p1
  | tbw w =>
    have q := observe_tbw (cfg := cfg) k2
    rw [hi.prev, q.tokens] at p4
    rw [hi.prev, q.tokenBatch] at p6
    rw [hi.prev, q.tokenBatch, q.wreserve] at p7
    rw [hi.prev, q.wreserve] at p8
    have hroom : i32sub (i32sub w.reserve w.tokens) w.tokenInflight = w.reserve := by
      rw [p4, hi.fl.owed w k2, p5, i32sub_zero (by omega) p8, i32sub_zero (by omega) p8]
    rw [ho w k2 (by rw [cntOf, k1]; exact k4) ⟨by rw [hroom]; omega, p6, Or.inl (by rw [hroom]; exact p7)⟩] at p9
    cases p9

theorem step_event {K : Kind} {cfg : Cfg} {st : State} {m : Mon} (hi : Inv K cfg st m) : StepOK K cfg st m .event := by
  have hwk : m.prev.wkind = ((gfcOf st).map GFC.wkind).getD 0 := by rw [hi.prev, observe_wkind]
  have quiet : step st .event = .ok st → ((gfcOf st).map GFC.wkind).getD 0 < 2 → StepOK K cfg st m .event := by
    intro hs hw
    have hm : (m.next .event (observe cfg st)).mustEvent = false := by
      rw [next_mustEvent _ rfl rfl]
      simp only [hwk, decide_eq_false_iff_not]
      omega
    exact stepOK_keep hi hs rfl (lims := rfl) (lastSync := rfl) (event := fun _ => rfl)
      (wacc := by rw [next_applied _ rfl, next_owed _ rfl rfl, hm]; exact hi.wacc.mono fun h => nomatch h)
      (hacc := by rw [next_held _ rfl rfl]; exact hi.hacc) (judge := rfl)
  have raised : ∀ c g, st.cache = some c → WAcc c.remote c.cnt.event m.applied m.owed m.mustEvent →
      HAcc (some (fvOf c)) st.handles m.held → c.remote.bind (·.fc) = some g → GFC.wkind g ≠ 1 →
      step st .event = .ok { st with cache := some { c with cnt := { c.cnt with event := true } } } →
      StepOK K cfg st m .event := by
    intro c g hcache hw0 hh hg hw hs
    exact stepOK_keep hi hs rfl (lims := (limsOf_eq hcache rfl rfl).symm)
      (lastSync := by rw [cntOf, cntOf, hcache]) (event := fun _ => rfl)
      (wacc := by
        rw [next_applied _ rfl, next_owed _ rfl rfl]; exact ⟨hw0.applied, hw0.owed, fun _ => ⟨rfl, g, hg, hw⟩⟩)
      (hacc := by rw [next_held _ rfl rfl]; exact hh) (judge := rfl)
  rcases hi.cases with ⟨hcache, -, -, hg⟩ | ⟨c, s, hcache, -, -, -, hw0, hh, ⟨hrm, -, hg⟩ | ⟨i, ap, g, hrm, -, hg, -⟩⟩
  · exact quiet (by simp [step, hcache]) (by simp [hg])
  · exact quiet (by simp [step, hcache, hrm]) (by simp [hg])
  · cases g with
    | empty l => exact quiet (by simp [step, hcache, hrm]) (by simp [hg, GFC.wkind])
    | miw w => exact raised c _ hcache hw0 hh (by rw [hrm]; rfl) (by simp [GFC.wkind]) (by simp [step, hcache, hrm])
    | tbw w => exact raised c _ hcache hw0 hh (by rw [hrm]; rfl) (by simp [GFC.wkind]) (by simp [step, hcache, hrm])

theorem step_tick {K : Kind} {cfg : Cfg} {st : State} {m : Mon} (hi : Inv K cfg st m) (now : Int)
    (ans : Option TickAnswer) : StepOK K cfg st m (.tick now ans) := by
  have hprev := hi.prev
  have hmust : ∀ o, (m.next (.tick now ans) o).mustEvent = false := fun o => next_mustEvent o rfl rfl
  have howed0 : ∀ st' : State, st'.lastReq = none → (m.next (.tick now ans) (observe cfg st')).owed = m.owed := by
    intro st' h
    rw [next_owed _ rfl rfl]
    show (if m.prev.wkind = 3 then (match (observe cfg st').req with | some hits => _ | none => m.owed) else m.owed) = m.owed
    rw [observe_req, h]; exact ite_self _
  rcases hi.cases with ⟨hcache, -, -, hg0⟩ | ⟨c, s, hcache, hsch, h2, hloc, hw, hh, hrem⟩
  · refine stepOK_keep hi (st' := { st with clock := now, lastReq := none }) (by simp [step, hcache]) rfl
      (lims := rfl) (lastSync := rfl) (event := fun h => ?_)
      (wacc := by rw [next_applied _ rfl, howed0 _ rfl, hmust]; exact hi.wacc.mono fun h => nomatch h)
      (hacc := by rw [next_held _ rfl rfl]; exact hi.hacc) (judge := ?_)
    · simp only [cntOf, hcache] at h; cases h
    · simp [judgeTrans, judgeTick, judgeDemand, hprev, observe_wkind0 hg0, observe_req]
  have demand : ∀ o : Obs, (∀ w, gfcOf st = some (.tbw w) → c.cnt.event = true →
        Demand w now → reqPositive o.req = true) → judgeDemand m o = [] := fun o ho =>
    judgeDemand_ok hi now o (by rw [cntOf, hcache]; exact ho)
  -- no request is sent: only a pending event is consumed
  have quiet : step st (.tick now ans) = .ok (tickQuiet st c now) →
      (((observe cfg st).wkind = 2 ∨ ((observe cfg st).wkind = 3 ∧ m.mayEvent = false)) →
        ¬ unixS now - m.contact > 2) →
      (∀ w, gfcOf st = some (.tbw w) → c.cnt.event = true → Demand w now → False) →
      StepOK K cfg st m (.tick now ans) := by
    intro hs hA hD
    refine stepOK_keep hi hs rfl (lims := (limsOf_eq hcache rfl rfl).symm)
      (lastSync := by rw [cntOf, cntOf, hcache]; rfl)
      (event := fun h => by simp only [cntOf, tickQuiet_cache] at h; cases h)
      (wacc := by rw [next_applied _ rfl, howed0 _ rfl, hmust]; exact hw.mono fun h => nomatch h)
      (hacc := by rw [next_held _ rfl rfl]; exact hh) (judge := ?_)
    simp only [judgeTrans, judgeTick, hprev, observe_req]
    have : ¬ (((observe cfg st).wkind = 2 ∨ ((observe cfg st).wkind = 3 ∧ m.mayEvent = false)) ∧
        unixS now - m.contact > resyncBound ∧ (tickQuiet st c now).lastReq.isNone = true) := fun h =>
      hA h.1 (Int.lt_trans (by decide) h.2.1)
    rw [if_neg this, demand _ (fun w a b d => (hD w a b d).elim)]
    cases ans <;> rfl
  rcases hrem with ⟨hrm, -, hg0⟩ | ⟨i, ap, g, hrm, hsy, hgf, hok⟩
  · exact quiet (by simp [step, hcache, hrm]) (by rw [observe_wkind0 hg0]; simp)
      (fun w hw => by rw [hg0] at hw; cases hw)
  have hwk : (observe cfg st).wkind = GFC.wkind g := by rw [observe_wkind, hgf]; rfl
  have hpw : m.prev.wkind = GFC.wkind g := by rw [hprev]; exact hwk
  rw [hrm] at hw
  cases hreq : requestOf g c.cnt st.meter st.inflight now with
  | none =>
    refine quiet (by simp [step, hcache, hrm, hreq]) ?_ ?_
    · intro hkd hdue
      rcases requestOf_due (hi.cnt.contact c hcache) hdue hreq with ⟨l, rfl⟩ | ⟨⟨w, rfl⟩, he⟩
      · rw [hwk] at hkd; simp [GFC.wkind] at hkd
      · rw [hwk] at hkd
        simp [GFC.wkind, hi.cnt.may c hcache he] at hkd
    · intro w hw hev hd
      rw [hgf] at hw; cases hw
      have := (demand_hits (mt := st.meter) (infl := st.inflight) hev hd).1
      rw [hreq] at this; cases this
  | some hits =>
    obtain ⟨a1, a2⟩ := hok.addAcquiring hits
    have hpos : ∀ w, gfcOf st = some (.tbw w) → c.cnt.event = true →
        Demand w now → reqPositive (some hits) = true := by
      intro w hw hev hd
      rw [hgf] at hw; cases hw
      obtain ⟨e1, e2⟩ := demand_hits (mt := st.meter) (infl := st.inflight) hev hd
      rw [hreq] at e1; cases e1
      simp [reqPositive, e2]
    -- a request for `hits` tokens is sent; afterwards the wrapper is `g'`, the counter `k`
    have sent : ∀ (g' : GFC) (k : Counter) (st' : State) (m' : Mon),
        st' = tickSent st c ⟨some i, some ap, some g⟩ g' k now hits → m' = m.next (.tick now ans) (observe cfg st') →
        step st (.tick now ans) = .ok st' → WOK K g' ap m.gs (obAfter m.ob m.gs g'.unavail) → k.event = false →
        k.lastSync ≤ m'.contact → (∀ w', g' = .tbw w' → w'.tokenInflight = m'.owed) →
        (∀ a, ans = some a → judgeSetLimit m (tickReply a hits now) (observe cfg st') = []) →
        StepOK K cfg st m (.tick now ans) := by
      intro g' k st' m' hst hm hs hg' hev hls howed hj
      subst hst hm
      refine stepOK_of hi hs rfl (linv_wrapper hsch h2 hsy rfl hloc rfl hg')
        ⟨hls, fun h => by simp only [cntOf, tickSent_cache, hev] at h; cases h⟩
        (by rw [next_applied _ rfl, hmust]; exact hw.wrap howed fun h => nomatch h)
        (by rw [next_held _ rfl rfl]; show HAcc (some (fvOf _)) _ _; rw [fvOf_wrapper hrm]; exact hh) ?_
      simp only [judgeTrans, judgeTick, observe_req, tickSent_lastReq, Option.isNone_some, Bool.false_eq_true,
        and_false, if_false, List.nil_append]
      rw [demand _ (by simpa [observe_req] using hpos), List.append_nil]
      cases ans with
      | none => rfl
      | some a => exact hj a rfl
    cases ans with
    | none =>
      refine sent (g.addAcquiring hits) { c.cnt with event := false } _ _ rfl rfl (by simp [step, hcache, hrm, hreq])
        (a1.after _) rfl (Int.le_trans (hi.cnt.contact c hcache) (contact_mono _ _ _))
        (fun w' hw' => ?_) (fun _ h => nomatch h)
      cases g with
      | empty l => cases hw'
      | miw w => cases hw'
      | tbw w =>
        cases hw'
        rw [next_owed _ rfl rfl]
        simp only [hpw, GFC.wkind, if_true, observe_req, tickSent_lastReq, Option.isSome_none, Bool.false_eq_true,
          if_false, ← hw.owed w rfl]
    | some a =>
      obtain ⟨g', b, e1, e2, e4, e5, e6⟩ := gfcSetLimit_inv h2 a1 hi.gsOK st.meter hi.meterOK (tickReply a hits now)
      refine sent g' { event := false, lastSync := unixS now } _ _ rfl rfl (by simp [step, hcache, hrm, hreq, hloc, e1])
        e2 rfl ?_ (fun w' hw' => ?_) (fun a' h => ?_)
      · rw [next_contact _ rfl]
        simp only [observe_req, tickSent_lastReq, Option.isSome_some, if_true]
        split <;> omega
      · obtain ⟨w0, hw0, htk⟩ := e5 w' hw'
        cases g with
        | empty l => cases hw0
        | miw w => cases hw0
        | tbw w =>
          cases hw0
          rw [next_owed _ rfl rfl, htk]
          simp only [hpw, GFC.wkind, if_true, observe_req, tickSent_lastReq, Option.isSome_some,
            ← hw.owed w rfl, TBW.noteRequest, tickReply]
      · cases h
        have e6' : judgeGfcSet g s (tickReply a hits now) g' = [] := by cases g <;> exact e6
        exact (judgeSetLimit_eq _ hi hgf hsch (by rw [observe_rlim]; simp [gfcOf])).trans e6'

/-! ### requests: acquire and release -/

/-- `acquire`, `release`: what is left to show is the in-flight account and the judge's clause -/
theorem stepOK_request {K : Kind} {cfg : Cfg} {st st' : State} {m : Mon} {op : Op} (hi : Inv K cfg st m)
    (hs : step st op = .ok st') {m' : Mon} (hm : m' = m.next op (observe cfg st')) (lims : limsOf st' = limsOf st)
    (lastSync : (cntOf st').lastSync = (cntOf st).lastSync)
    (event : (cntOf st).event = true → (cntOf st').event = true)
    (hacc : HAcc (st'.cache.map fvOf) st'.handles m'.held) (judge : judgeTrans m op (observe cfg st') = [])
    (hop : match (generalizing := false) op with | .acquire _ | .release _ => True | _ => False := by exact trivial)
    (hf : Frame st st' op := by exact ⟨rfl, rfl, rfl, rfl, rfl, rfl⟩) : StepOK K cfg st m op := by
  subst hm
  cases op <;> first
    | exact hop.elim
    | exact stepOK_keep hi hs rfl lims lastSync (fun _ => rfl)
        (by rw [remOf_lims lims, next_applied _ rfl, next_owed _ rfl rfl, next_mustEvent _ rfl rfl]
            exact hi.wacc.mono fun h => ⟨h, event⟩)
        hacc judge (hf := hf)

theorem step_acquire {K : Kind} {cfg : Cfg} {st : State} {m : Mon} (hi : Inv K cfg st m) (id : Nat) :
    StepOK K cfg st m (.acquire id) := by
  have hany : m.held.any (·.1 == id) = st.handles.any (·.id == id) := by rw [hi.fl.held, heldOf_any]
  have hch : m.prev.choice = load cfg st := by rw [hi.prev, observe_choice]
  have hcv := hi.fl.cfgv
  have hheld : ∀ st' : State, (m.next (.acquire id) (observe cfg st')).held =
      if st'.lastAdmit = some true ∧ (!st.handles.any (·.id == id)) = true
      then (id, decide (load cfg st = .remote)) :: m.held else m.held := by
    intro st'
    rw [next_held _ rfl rfl]
    show (if (observe cfg st').admitted = some true ∧ (!m.held.any (·.1 == id)) = true
      then (id, decide (m.prev.choice = .remote)) :: m.held else m.held) = _
    rw [observe_admitted, hany, hch]
  have hjn : ∀ st' : State,
      ¬ (st'.lastAdmit = some true ∧ (!st.handles.any (·.id == id)) = true ∧ load cfg st = .remote) →
      judgeTrans m (.acquire id) (observe cfg st') = [] := by
    intro st' hn
    simp only [judgeTrans, judgeAcquire, observe_admitted, hany, hch]
    rw [if_neg]; intro h; exact hn ⟨h.1, h.2.1, h.2.2.1⟩
  have frame : ∀ la : Option Bool, (la = some true → st.handles.any (·.id == id) = true) →
      acquireStep st id = { st with lastAdmit := la } → StepOK K cfg st m (.acquire id) := by
    intro la hla hs
    have hnot : ¬ (la = some true ∧ (!st.handles.any (·.id == id)) = true) := fun ⟨a, b⟩ => by
      rw [hla a] at b; cases b
    exact stepOK_request hi (st' := { st with lastAdmit := la }) (congrArg _ hs) rfl
      (lims := rfl) (lastSync := rfl) (event := fun x => x)
      (hacc := by rw [hheld, if_neg hnot]; exact hi.hacc) (judge := hjn _ (fun h => hnot ⟨h.1, h.2.1⟩))
  cases hnew : st.handles.any (·.id == id) with
  | true => exact frame st.lastAdmit (fun _ => hnew) (by simp [acquireStep, hnew])
  | false =>
  have hnh : (!st.handles.any (·.id == id)) = true := by rw [hnew]; rfl
  rcases hi.cases with ⟨hcache, -, -, -⟩ | ⟨c, s, hcache, hsch, h2, hloc, -, hh, hrem⟩
  · have hld : load cfg st = .dflt := load_none hcache
    refine stepOK_request hi
      (st' := { st with lastAdmit := some true, handles := { id := id, side := .dflt, gen := 0 } :: st.handles })
      (by simp [step, acquireStep, hnew, hcv, hld, hcache]) rfl (lims := rfl) (lastSync := rfl) (event := fun x => x)
      (hacc := ?_) (judge := hjn _ (fun h => by rw [hld] at h; cases h.2.2))
    rw [hheld, if_pos ⟨rfl, hnh⟩, hld]
    have hh := hi.hacc
    show HAcc (st.cache.map fvOf) _ _
    rw [hcache] at hh ⊢
    exact hh.push (h := { id := id, side := .dflt, gen := 0 }) hnew rfl (fun _ => rfl) (fun x h => nomatch h)
  cases hld : load cfg st with
  | dflt => exact absurd hld (load_ne_dflt hcache)
  | loc =>
    cases hadm : (limOf s).admits c.fl.locCount with
    | false =>
      exact frame (some false) (fun h => by cases h) (by simp [acquireStep, hnew, hcv, hld, hcache, hloc, hadm])
    | true =>
      refine stepOK_request hi
        (st' := { st with lastAdmit := some true, inflight := st.inflight + 1,
                          handles := { id := id, side := .loc, gen := c.fl.locGen } :: st.handles,
                          cache := some { c with fl := { c.fl with locCount := c.fl.locCount + 1 } } })
        (by simp [step, acquireStep, hnew, hcv, hld, hcache, hloc, hadm]) rfl
        (lims := (limsOf_eq hcache rfl rfl).symm) (lastSync := by rw [cntOf, cntOf, hcache])
        (event := by rw [cntOf, cntOf, hcache]; exact fun x => x)
        (hacc := ?_) (judge := hjn _ (fun h => by rw [hld] at h; cases h.2.2))
      rw [hheld, if_pos ⟨rfl, hnh⟩, hld]
      exact hh.push (h := { id := id, side := .loc, gen := c.fl.locGen }) hnew rfl (fun h => nomatch h)
        (fun x _ h => nomatch h)
  | remote =>
    rcases hrem with ⟨hrm, -, -⟩ | ⟨i, ap, g, hrm, -, hgf, -⟩
    · have := remote_isSome_of_load hcache hld
      rw [hrm] at this; cases this
    have hbind : c.remote.bind (·.fc) = some g := by rw [hrm]; rfl
    obtain ⟨cnt', hcnt'⟩ : ∃ cnt' : Counter,
        cnt' = if g.acquireEvent st.inflight then { c.cnt with event := true } else c.cnt := ⟨_, rfl⟩
    have hcl : cnt'.lastSync = c.cnt.lastSync := by rw [hcnt']; split <;> rfl
    have hce : (cntOf st).event = true → cnt'.event = true := by
      rw [cntOf, hcache, hcnt']; intro h; split <;> simp [h]
    cases hadm : g.inner.admits c.fl.remCount with
    | false =>
      exact stepOK_request hi (st' := { st with lastAdmit := some false, cache := some { c with cnt := cnt' } })
        (by
          subst hcnt'
          simp only [step, acquireStep, hnew, Bool.false_eq_true, if_false, hcv, hld, hcache, hbind, hadm])
        rfl (lims := (limsOf_eq hcache rfl rfl).symm) (lastSync := by rw [cntOf, cntOf, hcache]; exact hcl) (event := hce)
        (hacc := by rw [hheld, if_neg (fun h => by cases h.1)]; exact hh) (judge := hjn _ (fun h => by cases h.1))
    | true =>
      refine stepOK_request hi
        (st' := { st with lastAdmit := some true, inflight := st.inflight + 1,
                          handles := { id := id, side := .rem, gen := c.fl.remOuter, inner := c.fl.remInner } :: st.handles,
                          cache := some { c with cnt := cnt', fl := { c.fl with remCount := c.fl.remCount + 1 } } })
        (by
          subst hcnt'
          simp only [step, acquireStep, hnew, Bool.false_eq_true, if_false, hcv, hld, hcache, hbind, hadm, if_true])
        rfl (lims := (limsOf_eq hcache rfl rfl).symm) (lastSync := by rw [cntOf, cntOf, hcache]; exact hcl) (event := hce)
        (hacc := ?_) (judge := ?_)
      · rw [hheld, if_pos ⟨rfl, hnh⟩, hld]
        exact hh.push (h := { id := id, side := .rem, gen := c.fl.remOuter, inner := c.fl.remInner }) (b := true) hnew
          (by simp [flagV, FV.flag, fvOf, hrm]) (fun h => nomatch h) (fun x hx _ => by cases hx; exact ⟨rfl, rfl⟩)
      -- the in-flight clause: the bucket's count is the number of flagged handles, its size within the bound
      simp only [judgeTrans, judgeAcquire]
      rw [if_neg]
      intro ⟨_, _, _, hmi, hbad⟩
      apply hbad
      have hleb := (hi.rlim hgf).1
      have hrl : m.prev.rlim = some g.inner := by rw [hi.prev, observe_rlim, hgf]; rfl
      rw [hrl] at hmi
      have k1 := (hh.cur _ rfl (by rw [fvOf, hrm]; rfl)).1
      rw [hi.fl.held, hcache, heldOf_countP, ← show c.fl.remCount = (st.handles.countP (flagOf c) : Int) from k1]
      cases hin : g.inner with
      | exempt x => rw [hin] at hmi; simp [isMI] at hmi
      | tb q u => rw [hin] at hmi; simp [isMI] at hmi
      | mi size =>
        rw [hin] at hleb hadm
        simp [Lim.leb] at hleb
        simp [Lim.admits] at hadm
        show (c.fl.remCount + 1 ≤ m.ob.mi)
        omega

theorem step_release {K : Kind} {cfg : Cfg} {st : State} {m : Mon} (hi : Inv K cfg st m) (id : Nat) :
    StepOK K cfg st m (.release id) := by
  have hheld : ∀ o, (m.next (.release id) o).held = m.held.filter (fun x => !(x.1 == id)) := fun o =>
    next_held o rfl rfl
  have hh := hi.hacc
  cases hfind : st.handles.find? (·.id == id) with
  | none =>
    refine stepOK_request hi (st' := st) (by simp [step, releaseStep, hfind]) rfl
      (lims := rfl) (lastSync := rfl) (event := fun x => x) (hacc := ?_) (judge := rfl)
    rw [hheld, hi.fl.held, heldOf_filter, filter_id_self (find_none_notin hfind), ← hi.fl.held]
    exact hh
  | some h =>
  cases hcache : st.cache with
  | none =>
    have fin0 : ∀ infl : Int,
        releaseStep st id = { st with handles := st.handles.filter (fun x => !(x.id == id)), inflight := infl } →
        StepOK K cfg st m (.release id) := fun infl hs =>
      stepOK_request hi (congrArg _ hs) rfl (lims := rfl) (lastSync := rfl) (event := fun x => x)
        (hacc := by rw [hheld]; exact hh.pop hfind (by rw [hcache]; rfl)) (judge := rfl)
    cases hside : h.side with
    | dflt => exact fin0 st.inflight (by simp [releaseStep, hfind, hside])
    | loc => exact fin0 (st.inflight - 1) (by simp [releaseStep, hfind, hside, hcache])
    | rem => exact fin0 (st.inflight - 1) (by simp [releaseStep, hfind, hside, hcache])
  | some c =>
    have fin1 : ∀ (c' : Cache) (infl : Int),
        releaseStep st id = { st with handles := st.handles.filter (fun x => !(x.id == id)), inflight := infl,
                                      cache := some c' } →
        c'.loc = c.loc → c'.remote = c.remote → c'.cnt.lastSync = c.cnt.lastSync →
        (c.cnt.event = true → c'.cnt.event = true) →
        fvOf c' = { fvOf c with count :=
          if h.side = .rem ∧ h.gen = c.fl.remOuter ∧ c.remote.isSome = true then decCount c.fl.remCount
          else c.fl.remCount } →
        StepOK K cfg st m (.release id) := by
      intro c' infl hs hloc hrem hls hev hfv
      exact stepOK_request hi (congrArg _ hs) rfl
        (lims := (limsOf_eq rfl hloc hrem).trans (limsOf_eq hcache rfl rfl).symm)
        (lastSync := by rw [cntOf, cntOf, hcache]; exact hls) (event := by rw [cntOf, cntOf, hcache]; exact hev)
        (hacc := by rw [hheld]; exact hh.pop hfind (by rw [hcache]; exact congrArg some hfv)) (judge := rfl)
    cases hside : h.side with
    | dflt =>
      exact fin1 c st.inflight (by simp [releaseStep, hfind, hside, hcache]) rfl rfl rfl (fun x => x)
        (by simp [fvOf, hside])
    | loc =>
      by_cases hg : h.gen = c.fl.locGen
      · exact fin1 { c with fl := { c.fl with locCount := decCount c.fl.locCount } } (st.inflight - 1)
          (by simp [releaseStep, hfind, hside, hcache, hg]) rfl rfl rfl (fun x => x) (by simp [fvOf, hside])
      · exact fin1 c (st.inflight - 1) (by simp [releaseStep, hfind, hside, hcache, hg]) rfl rfl rfl (fun x => x)
          (by simp [fvOf, hside])
    | rem =>
      by_cases hg : h.gen = c.fl.remOuter ∧ c.remote.isSome = true
      · exact fin1 { c with fl := { c.fl with remCount := decCount c.fl.remCount },
                            cnt := if c.releaseEvent then { c.cnt with event := true } else c.cnt } (st.inflight - 1)
          (by simp [releaseStep, hfind, hside, hcache, hg]) rfl rfl (by simp only []; split <;> rfl)
          (fun x => by simp only []; split <;> simp [x]) (by simp [fvOf, hside, hg])
      · exact fin1 c (st.inflight - 1) (by simp [releaseStep, hfind, hside, hcache, hg]) rfl rfl rfl (fun x => x)
          (by simp [fvOf, hside, hg])

/-! ## every run -/

theorem step_inv' {K : Kind} {cfg : Cfg} {st : State} {m : Mon} {op : Op} (hi : Inv K cfg st m) (hop : OpOK' op) :
    ∃ K', StepOK K' cfg st m op ∧ (K' = K ∨ ∃ s, op = .schema s ∧ VS K' s) := by
  cases op with
  | schema s =>
    obtain ⟨K', hs⟩ := hop
    exact ⟨K', step_schema hi s hs, Or.inr ⟨s, rfl, hs⟩⟩
  | sync fail n leader now => exact ⟨K, step_sync hi fail n leader now, Or.inl rfl⟩
  | hb ok now other =>
    cases other <;>
      exact ⟨K, stepOK_frame hi rfl, Or.inl rfl⟩
  | reconcileCount => exact ⟨K, step_remoteSync hi (Or.inl rfl), Or.inl rfl⟩
  | answer named item =>
    cases named with
    | true => exact ⟨K, step_remoteSync hi (Or.inr ⟨item, rfl⟩), Or.inl rfl⟩
    | false =>
      refine ⟨K, stepOK_frame hi (st' := st) ?_, Or.inl rfl⟩
      simp only [step]; cases st.cache <;> rfl
  | setLimit r => exact ⟨K, step_setLimit hi r, Or.inl rfl⟩
  | event => exact ⟨K, step_event hi, Or.inl rfl⟩
  | acquire id => exact ⟨K, step_acquire hi id, Or.inl rfl⟩
  | release id => exact ⟨K, step_release hi id, Or.inl rfl⟩
  | tick now ans => exact ⟨K, step_tick hi now ans, Or.inl rfl⟩
  | _ => exact ⟨K, stepOK_frame hi rfl (hop := hop), Or.inl rfl⟩

theorem run_inv' {cfg : Cfg} : ∀ (ops : List Op) (K : Kind) (st : State) (m : Mon), Inv K cfg st m →
    (∀ op ∈ ops, OpOK' op) →
    (runFrom cfg st ops).2 = none ∧ (runFrom cfg st ops).1.length = ops.length ∧
      allGood (judgeFrom cfg m ops (runFrom cfg st ops).1) = true := by
  intro ops
  induction ops with
  | nil => intro K st m _ _; exact ⟨rfl, rfl, rfl⟩
  | cons op ops ih =>
    intro K st m hi hops
    obtain ⟨K', ⟨st', h1, h2, h3⟩, -⟩ := step_inv' hi (hops op (List.mem_cons_self ..))
    obtain ⟨i1, i2, i3⟩ := ih K' st' _ h2 (fun o ho => hops o (List.mem_cons_of_mem _ ho))
    simp only [runFrom, h1]
    refine ⟨i1, by simp [i2], ?_⟩
    simp only [judgeFrom, allGood, List.all_cons, h3, List.isEmpty_nil, Bool.true_and]
    exact i3

/-- the monitor's bounds never exceed an upper bound `G` of every configured global limit -/
structure MonLe (m : Mon) (G : Bound) : Prop where
  gs : BLe m.gs G
  ob : BLe m.ob G
  sch : ∀ s, m.schema = some s → BLe (globalOf s) G

theorem monLe_next {m : Mon} {G : Bound} (h : MonLe m G) (op : Op) (o : Obs)
    (hop : ∀ s, op = .schema s → BLe (globalOf s) G) : MonLe (m.next op o) G := by
  have hgs : BLe (m.next op o).gs G := by
    show BLe (if effective m op = true then (match m.schema with | some s => globalOf s | none => m.gs) else m.gs) G
    split
    · cases hs : m.schema with
      | none => exact h.gs
      | some s => exact h.sch s hs
    · exact h.gs
  refine ⟨hgs, ?_, fun s hs => ?_⟩
  · rw [next_ob]
    cases o.unavail
    · exact hgs
    · exact BLe.sup_le h.ob hgs
  · cases op with
    | schema s' => cases hs; exact hop s rfl
    | _ => exact h.sch s hs

/-- `P`: any property that the type in force at the start and the types of all the schemas have (`P := (· = K)`:
    schemas of the one type `K`) -/
theorem run_cap' {cfg : Cfg} {G : Bound} {P : Kind → Prop} : ∀ (ops : List Op) (K : Kind) (st : State) (m : Mon),
    Inv K cfg st m → P K → MonLe m G →
    (∀ op ∈ ops, OpOK' op ∧ ∀ s, op = .schema s → BLe (globalOf s) G ∧ P (guessType s)) →
    ∀ o ∈ (runFrom cfg st ops).1, ∀ l, o.rlim = some l → Lim.leb l G = true ∧ P l.kind := by
  intro ops
  induction ops with
  | nil => intro K st m _ _ _ _ o ho; simp [runFrom] at ho
  | cons op ops ih =>
    intro K st m hi hK hm hops o ho l hl
    obtain ⟨hop, hsch⟩ := hops op (List.mem_cons_self ..)
    obtain ⟨K', ⟨st', h1, h2, -⟩, hk⟩ := step_inv' hi hop
    have hK' : P K' := by
      rcases hk with rfl | ⟨s, rfl, hs⟩
      · exact hK
      · exact VS_guess hs ▸ (hsch s rfl).2
    have hm' := monLe_next hm op (observe cfg st') (fun s e => (hsch s e).1)
    simp only [runFrom, h1, List.mem_cons] at ho
    rcases ho with rfl | ho
    · rw [observe_rlim] at hl
      obtain ⟨g, hg, rfl⟩ := Option.map_eq_some_iff.1 hl
      obtain ⟨a1, a2⟩ := h2.rlim hg
      exact ⟨leb_mono a1 hm'.ob, a2 ▸ hK'⟩
    · exact ih K' st' _ h2 hK' hm' (fun x hx => hops x (List.mem_cons_of_mem _ hx)) o ho l hl

theorem exec_inv' {cfg : Cfg} : ∀ (ops : List Op) (K : Kind) (st : State) (m : Mon), Inv K cfg st m →
    (∀ op ∈ ops, OpOK' op) → ∃ st' m' K', exec st ops = some st' ∧ Inv K' cfg st' m' := by
  intro ops
  induction ops with
  | nil => intro K st m hi _; exact ⟨st, m, K, rfl, hi⟩
  | cons op ops ih =>
    intro K st m hi hops
    obtain ⟨K', ⟨st', h1, h2, -⟩, -⟩ := step_inv' hi (hops op (List.mem_cons_self ..))
    obtain ⟨st'', m'', K'', e1, e2⟩ := ih K' st' _ h2 (fun x hx => hops x (List.mem_cons_of_mem _ hx))
    exact ⟨st'', m'', K'', by simp only [exec, h1]; exact e1, e2⟩

end KG.Lemmas.RemoteLimiter
