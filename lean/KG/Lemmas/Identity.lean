import KG.Model.Identity
import KG.Spec.Identity
import KG.Lemmas.Bytes
/-! Every loop of the model is put in closed form, so that what the upstream receives is an append: what is kept of the client's
    headers, then `gatewayHeaders` (`received_eq`). One reader serves both ends: `decodeIdentity` is what a kube-apiserver decodes
    and what the impersonation filter reads (`requested_decoded`, hence `impersonate_spec`). The identity bearing part of what
    arrives is what the gateway generates (`identityPart_received`), so `serve_spec` can relate every outcome to the
    specification's verdict (`Serves`), and what arrives is read off the gateway's own headers (`generated_decoded`). -/
namespace KG.Lemmas.Identity
open KG KG.Model.Identity KG.Spec.Identity

/-! ## bytes: ASCII case, hexadecimal digits -/

/-- upper- and lower-case letters lie 32 apart and do not overlap -/
theorem upper_add {c : UInt8} (h : isUpper c = true) :
    isLower c = false ∧ isLower (c + 32) = true ∧ isUpper (c + 32) = false := by
  simp [isUpper, isLower, UInt8.le_iff_toNat_le, UInt8.toNat_add] at h ⊢
  omega

theorem lower_sub {c : UInt8} (h : isLower c = true) : isUpper c = false ∧ isUpper (c - 32) = true := by
  simp [isUpper, isLower, UInt8.le_iff_toNat_le, UInt8.toNat_sub] at h ⊢
  omega

/-- the `c'` of `canonLoop` -/
def conv (upper : Bool) (c : UInt8) : UInt8 :=
  if upper && isLower c then c - 32 else if !upper && isUpper c then c + 32 else c

theorem canonLoop_cons (u : Bool) (c : UInt8) (s : Str) :
    canonLoop u (c :: s) = conv u c :: canonLoop (conv u c == 45) s := by
  simp [canonLoop, conv]

theorem lowerByte_conv (u : Bool) (c : UInt8) : lowerByte (conv u c) = lowerByte c := by
  unfold conv
  split
  · next h =>
    obtain ⟨h1, h2⟩ := lower_sub (Bool.and_eq_true_iff.1 h).2
    simp [lowerByte, h1, h2]
  · split
    · next h =>
      have h1 := (Bool.and_eq_true_iff.1 h).2
      simp [lowerByte, h1, (upper_add h1).2.2]
    · rfl

theorem conv_lowerByte (u : Bool) (c : UInt8) : conv u (lowerByte c) = conv u c := by
  unfold lowerByte
  split
  · next h =>
    obtain ⟨h1, h2, h3⟩ := upper_add h
    cases u <;> simp [conv, h, h1, h2, h3]
  · rfl

theorem token_lower (c : UInt8) : isTokenByte (lowerByte c) = isTokenByte c := by
  unfold lowerByte
  split
  · next h => simp [isTokenByte, h, (upper_add h).2.1]
  · rfl

/-- the sixteen digits `%X` writes, read back by `unhex` -/
theorem hexUpper_spec : ∀ n : UInt8, n < 16 → ishex (hexUpper n) = true ∧ unhex (hexUpper n) = n :=
  byte_forall (by decide +kernel)

theorem nibbles (b : UInt8) : b / 16 < 16 ∧ b % 16 < 16 ∧ b / 16 * 16 + b % 16 = b := by
  have := b.toNat_lt
  refine ⟨?_, ?_, UInt8.toNat_inj.1 ?_⟩
  · rw [UInt8.lt_iff_toNat_lt, UInt8.toNat_div]; simp; omega
  · rw [UInt8.lt_iff_toNat_lt, UInt8.toNat_mod]; simp; omega
  · simp [UInt8.toNat_add, UInt8.toNat_mul, UInt8.toNat_div, UInt8.toNat_mod]; omega

theorem hex_digits (b : UInt8) : ishex (hexUpper (b / 16)) = true ∧ ishex (hexUpper (b % 16)) = true ∧
    unhex (hexUpper (b / 16)) * 16 + unhex (hexUpper (b % 16)) = b := by
  obtain ⟨h1, h2, h3⟩ := nibbles b
  rw [(hexUpper_spec _ h1).2, (hexUpper_spec _ h2).2]
  exact ⟨(hexUpper_spec _ h1).1, (hexUpper_spec _ h2).1, h3⟩

/-- of the 22 hexadecimal digits: each is legal in a header name, and `ToLower` keeps its value -/
theorem hex_lower : ∀ c : UInt8, ishex c = true →
    isTokenByte c = true ∧ ishex (lowerByte c) = true ∧ unhex (lowerByte c) = unhex c :=
  byte_forall (by decide +kernel)

/-- two lists compared once, where a sweep over the bytes would search the table 256 times -/
theorem escapedBytes_eq : KG.Gen.C02.escapedBytes =
    (List.range 256).filter (fun n => !isTokenByte (UInt8.ofNat n) || UInt8.ofNat n == 37 || isUpper (UInt8.ofNat n)) := by
  decide +kernel

theorem escaped_set (b : UInt8) : shouldEscape b = (!isTokenByte b || b == 37 || isUpper b) := by
  have : b.toNat < 256 := b.toNat_lt
  rw [shouldEscape, escapedBytes_eq, List.contains_eq_mem, Bool.eq_iff_iff]
  simp [List.mem_filter, this]

theorem not_escaped {b : UInt8} (h : shouldEscape b = false) :
    isTokenByte b = true ∧ (b == 37) = false ∧ lowerByte b = b := by
  simp only [escaped_set, Bool.or_eq_false_iff, Bool.not_eq_false'] at h
  exact ⟨h.1.1, h.1.2, by simp [lowerByte, h.2]⟩

/-! ## url.PathUnescape -/

theorem pathUnescape_cons_ne {c : UInt8} (s : Str) (h : (c == 37) = false) :
    pathUnescape (c :: s) = (pathUnescape s).map (fun t => c :: t) := by
  match s with
  | [] => simp [pathUnescape, h]
  | [a] => simp [pathUnescape, h]
  | a :: b :: r => simp [pathUnescape, h]

theorem pathUnescape_pct (a b : UInt8) (r : Str) :
    pathUnescape (37 :: a :: b :: r) =
      if ishex a && ishex b then (pathUnescape r).map (fun t => (unhex a * 16 + unhex b) :: t) else none := by
  simp [pathUnescape]

/-- `f` is any byte map that fixes '%' and the bytes left unescaped and keeps the value of a hexadecimal digit; used with `id`
    (`c02_escape_roundtrip`) and with `lowerByte` (`escape_lower_decodes`) -/
theorem escape_map_decodes (f : UInt8 → UInt8) (h37 : f 37 = 37) (hfix : ∀ b, shouldEscape b = false → f b = b)
    (hhex : ∀ c, ishex c = true → ishex (f c) = true ∧ unhex (f c) = unhex c) (k : Str) :
    pathUnescape ((headerKeyEscape k).map f) = some k := by
  induction k with
  | nil => rfl
  | cons b k ih =>
    cases h : shouldEscape b with
    | true =>
      have ⟨h1, h2, h3⟩ := hex_digits b
      simp [headerKeyEscape, h, h37, pathUnescape_pct, hhex _ h1, hhex _ h2, h3, ih]
    | false => simp [headerKeyEscape, h, hfix b h, pathUnescape_cons_ne _ (not_escaped h).2.1, ih]

/-- every upper-case letter of the key is %-escaped, so `ToLower` only touches hexadecimal digits -/
theorem escape_lower_decodes (k : Str) : pathUnescape (toLower (headerKeyEscape k)) = some k :=
  escape_map_decodes lowerByte (by decide) (fun _ h => (not_escaped h).2.2) (fun c h => (hex_lower c h).2) k

theorem escape_token (k : Str) : (headerKeyEscape k).all isTokenByte = true := by
  induction k with
  | nil => rfl
  | cons b k ih =>
    cases h : shouldEscape b with
    | true =>
      have ⟨h1, h2, _⟩ := hex_digits b
      have : isTokenByte 37 = true := by decide
      simp [headerKeyEscape, h, this, (hex_lower _ h1).1, (hex_lower _ h2).1, ih]
    | false => simp [headerKeyEscape, h, (not_escaped h).1, ih]

/-! ## CanonicalMIMEHeaderKey -/

theorem toLower_canonLoop (u : Bool) (s : Str) : toLower (canonLoop u s) = toLower s := by
  induction s generalizing u with
  | nil => rfl
  | cons c s ih => simpa [canonLoop_cons, toLower, lowerByte_conv] using ih _

theorem canonLoop_toLower (u : Bool) (s : Str) : canonLoop u (toLower s) = canonLoop u s := by
  induction s generalizing u with
  | nil => rfl
  | cons c s ih => simpa [canonLoop_cons, toLower, conv_lowerByte] using ih _

theorem all_token_toLower (s : Str) : (toLower s).all isTokenByte = s.all isTokenByte := by
  simp [toLower, List.all_map, Function.comp_def, token_lower]

theorem toLower_token (s : Str) (h : s.all isTokenByte = true) : (toLower s).all isTokenByte = true := by
  rw [all_token_toLower, h]

theorem toLower_canonicalKey (s : Str) : toLower (canonicalKey s) = toLower s := by
  unfold canonicalKey
  split
  · exact toLower_canonLoop true s
  · rfl

theorem canonicalKey_eq_iff (n m : Str) (hn : n.all isTokenByte = true) :
    canonicalKey n = canonicalKey m ↔ toLower n = toLower m := by
  constructor
  · intro h
    rw [← toLower_canonicalKey n, h, toLower_canonicalKey]
  · intro h
    have hm : m.all isTokenByte = true := by rw [← all_token_toLower, ← h, all_token_toLower, hn]
    simp only [canonicalKey, hn, hm, if_true]
    rw [← canonLoop_toLower true n, ← canonLoop_toLower true m, h]

theorem canonicalKey_idem (s : Str) : canonicalKey (canonicalKey s) = canonicalKey s := by
  by_cases h : s.all isTokenByte = true
  · have : (canonicalKey s).all isTokenByte = true := by rw [← all_token_toLower, toLower_canonicalKey, all_token_toLower, h]
    exact (canonicalKey_eq_iff _ _ this).2 (toLower_canonicalKey s)
  · simp [canonicalKey, h]

/-! ## strings.HasPrefix -/

theorem hasPrefix_iff (s p : Str) : hasPrefix s p = true ↔ ∃ t, s = p ++ t := by
  induction p generalizing s with
  | nil => cases s <;> simp [hasPrefix]
  | cons b p ih =>
    cases s with
    | nil => simp [hasPrefix]
    | cons a s =>
      simp only [hasPrefix, Bool.and_eq_true, beq_iff_eq, ih, List.cons_append, List.cons.injEq]
      constructor
      · rintro ⟨rfl, t, rfl⟩; exact ⟨t, rfl, rfl⟩
      · rintro ⟨t, rfl, rfl⟩; exact ⟨rfl, t, rfl⟩

theorem hasPrefix_trans {s p q : Str} (h1 : hasPrefix s p = true) (h2 : hasPrefix p q = true) : hasPrefix s q = true := by
  obtain ⟨t, rfl⟩ := (hasPrefix_iff _ _).1 h1
  obtain ⟨t', rfl⟩ := (hasPrefix_iff _ _).1 h2
  exact (hasPrefix_iff _ _).2 ⟨t' ++ t, by simp⟩

theorem extraPrefix_imp : hasPrefix hImpExtraPrefix hImpPrefix = true := by decide +kernel
theorem extraPrefix_token : hImpExtraPrefix.all isTokenByte = true := by decide +kernel

/-! ## header multimaps -/

theorem values_eq_flatMap (h : Headers) (k : Str) : values h k = h.flatMap (fun e => if e.1 = k then e.2 else []) := by
  induction h with
  | nil => rfl
  | cons e h ih =>
    obtain ⟨n, vs⟩ := e
    by_cases hn : n = k <;> simp [values, hn, ih]

theorem flatMap_filter_of_nil {α β : Type} (l : List α) (p : α → Bool) (f : α → List β)
    (h : ∀ x ∈ l, p x = false → f x = []) : (l.filter p).flatMap f = l.flatMap f := by
  induction l with
  | nil => rfl
  | cons x l ih =>
    have ih' := ih (fun y hy => h y (by simp [hy]))
    cases hp : p x with
    | true => simp [hp, ih']
    | false => simp [hp, ih', h x (by simp) hp]

theorem values_append (a b : Headers) (k : Str) : values (a ++ b) k = values a k ++ values b k := by
  simp [values_eq_flatMap]

theorem values_nil_of_forall (h : Headers) (k : Str) (hk : ∀ e ∈ h, e.1 ≠ k) : values h k = [] := by
  simp only [values_eq_flatMap, List.flatMap_eq_nil_iff]
  intro e he
  simp [hk e he]

theorem values_filter_name (h : Headers) (q : Str → Bool) (n : Str) (hn : q n = true) :
    values (h.filter (fun e => q e.1)) n = values h n := by
  simp only [values_eq_flatMap]
  apply flatMap_filter_of_nil
  intro e _ hq
  have : e.1 ≠ n := fun he => by rw [he, hn] at hq; cases hq
  simp [this]

theorem values_del_ne (h : Headers) (k k' : Str) (hne : k ≠ k') : values (hdel h k') k = values h k :=
  values_filter_name h (fun n => !(n == k')) k (by simpa using hne)

theorem values_del_self (h : Headers) (k : Str) : values (hdel h k) k = [] := by
  apply values_nil_of_forall
  intro e he
  simp [hdel] at he
  exact he.2

theorem get_nil_of_values {h : Headers} {k : Str} (hv : values h k = []) : hget h k = [] := by
  simp [hget, hv]

/-! ## the writers of WrapRequest in closed form -/

theorem canonicalKey_hImpUser : canonicalKey hImpUser = hImpUser := by decide +kernel
theorem canonicalKey_hImpGroup : canonicalKey hImpGroup = hImpGroup := by decide +kernel
theorem canonicalKey_hAuthorization : canonicalKey hAuthorization = hAuthorization := by decide +kernel

theorem addGroups_eq (h : Headers) (gs : List Str) :
    addGroups h gs = h ++ gs.map (fun g => (hImpGroup, [g])) := by
  induction gs generalizing h with
  | nil => simp [addGroups]
  | cons g gs ih => simp [addGroups, ih, hadd, canonicalKey_hImpGroup]

theorem addValues_eq (h : Headers) (n : Str) (vs : List Str) :
    addValues h n vs = h ++ vs.map (fun v => (canonicalKey n, [v])) := by
  induction vs generalizing h with
  | nil => simp [addValues]
  | cons v vs ih => simp [addValues, ih, hadd]

theorem addExtras_eq (h : Headers) (es : List (Str × List Str)) :
    addExtras h es = h ++ es.flatMap (fun e => e.2.map (fun v => (canonicalKey (hImpExtraPrefix ++ headerKeyEscape e.1), [v]))) := by
  induction es generalizing h with
  | nil => simp [addExtras]
  | cons e es ih =>
    obtain ⟨k, vv⟩ := e
    simp [addExtras, ih, addValues_eq]

/-- what `WrapRequest` deletes (regenerated) is the whole family the property speaks of -/
theorem delImpersonate_eq (h : Headers) :
    delImpersonate h = h.filter (fun e => !hasPrefix (canonicalKey e.1) hImpPrefix) := by
  have : hWrapDeletePrefix = hImpPrefix := by decide +kernel
  simp only [delImpersonate, this]

theorem extraName_eq (k : Str) :
    canonicalKey (hImpExtraPrefix ++ headerKeyEscape k) = hImpExtraPrefix ++ canonLoop true (headerKeyEscape k) := by
  have : (hImpExtraPrefix ++ headerKeyEscape k).all isTokenByte = true := by simp [List.all_append, extraPrefix_token, escape_token k]
  simp only [canonicalKey, this, if_true]
  rfl

/-! ## what arrives at the upstream -/

theorem sendOver_eq (up : Bool) (h : Headers) :
    sendOver up h = h.map (fun e => (canonicalKey e.1, e.2.map (carried up))) := by
  cases up <;> simp [sendOver, wire, writeUpgrade, carried, List.map_map, Function.comp_def]

theorem sendOver_append (up : Bool) (a b : Headers) : sendOver up (a ++ b) = sendOver up a ++ sendOver up b := by
  simp [sendOver_eq]

/-- what `WrapRequest` sends is what it keeps of `h`, then the impersonation entries it generates: `gatewayHeaders [] true u` are
    those alone (on the upgrade path the gateway adds no credential) -/
theorem send_wrapHeaders (up : Bool) (h : Headers) (u : Identity) (hu : hget h hImpUser = []) :
    sendOver up (wrapHeaders h u) = sendOver up (hdel (delImpersonate h) hImpUser) ++ sendOver up (gatewayHeaders [] true u) := by
  simp [wrapHeaders, hu, hset, canonicalKey_hImpUser, addGroups_eq, addExtras_eq, gatewayHeaders, sendOver_eq, List.map_flatMap,
    List.map_map, Function.comp_def, canonicalKey_idem]

/-- what holds of the header set the filters hand to the dispatcher (`serve_spec`) -/
structure HandedOver (h1 : Headers) : Prop where
  names : ∀ e ∈ h1, canonicalKey e.1 = e.1 ∧ e.1 ≠ hAuthorization
  noImpUser : hget h1 hImpUser = []

theorem bearerAuth_eq (token : Str) (h : Headers) (hA : ∀ e ∈ h, e.1 ≠ hAuthorization) :
    bearerAuth token h = h ++ [(hAuthorization, [bearerPrefix ++ token])] := by
  have hd : hdel h hAuthorization = h := by
    simp only [hdel, List.filter_eq_self]
    intro e he
    simpa using hA e he
  simp [bearerAuth, get_nil_of_values (values_nil_of_forall _ _ hA), hset, canonicalKey_hAuthorization, hd]

theorem dispatched_eq (token : Str) (up : Bool) {h1 : Headers} (H : HandedOver h1) :
    (if up then h1 else bearerAuth token h1) = h1 ++ if up then [] else [(hAuthorization, [bearerPrefix ++ token])] := by
  cases up <;> simp [bearerAuth_eq token h1 fun e he => (H.names e he).2]

theorem hget_dispatched_impUser (token : Str) (up : Bool) {h1 : Headers} (H : HandedOver h1) :
    hget (if up then h1 else bearerAuth token h1) hImpUser = [] := by
  have : hAuthorization ≠ hImpUser := by decide
  rw [dispatched_eq token up H]
  cases up <;> simpa [hget, values_append, values, this] using H.noImpUser

theorem received_eq (token : Str) (up : Bool) {h1 : Headers} (u : Identity) (H : HandedOver h1) :
    sendOver up (wrapHeaders (if up then h1 else bearerAuth token h1) u) =
      sendOver up (hdel (delImpersonate h1) hImpUser) ++ sendOver up (gatewayHeaders token up u) := by
  have hk : hdel (delImpersonate (h1 ++ if up then [] else [(hAuthorization, [bearerPrefix ++ token])])) hImpUser =
      hdel (delImpersonate h1) hImpUser ++ if up then [] else [(hAuthorization, [bearerPrefix ++ token])] := by
    have h1' : (!hasPrefix (canonicalKey hAuthorization) hImpPrefix) = true := by decide +kernel
    have h2' : (!(hAuthorization == hImpUser)) = true := by decide +kernel
    cases up <;> simp [hdel, delImpersonate_eq, List.filter_append, h1', h2']
  have hg : gatewayHeaders token up u = (if up then [] else [(hAuthorization, [bearerPrefix ++ token])]) ++ gatewayHeaders [] true u := by
    cases up <;> simp [gatewayHeaders]
  rw [send_wrapHeaders _ _ _ (hget_dispatched_impUser token up H), dispatched_eq token up H, hk, hg]
  simp only [sendOver_append, List.append_assoc]

theorem extraName_prefix (k : Str) : hasPrefix (canonicalKey (hImpExtraPrefix ++ headerKeyEscape k)) hImpExtraPrefix = true := by
  rw [extraName_eq]
  exact (hasPrefix_iff _ _).2 ⟨_, rfl⟩

theorem imp_isIdentityName {n : Str} (h : hasPrefix n hImpPrefix = true) : isIdentityName n = true := by
  simp [isIdentityName, h]

theorem extraName_identity (k : Str) : isIdentityName (canonicalKey (hImpExtraPrefix ++ headerKeyEscape k)) = true :=
  imp_isIdentityName (hasPrefix_trans (extraName_prefix k) extraPrefix_imp)

theorem generated_names (token : Str) (up : Bool) (u : Identity) :
    (gatewayHeaders token up u).all (fun e => isIdentityName (canonicalKey e.1)) = true := by
  have e1 : isIdentityName hAuthorization = true := rfl
  have e2 : isIdentityName hImpUser = true := rfl
  have e3 : isIdentityName hImpGroup = true := rfl
  cases up <;> simp [gatewayHeaders, List.all_append, List.all_map, List.all_flatMap, canonicalKey_hAuthorization,
    canonicalKey_hImpUser, canonicalKey_hImpGroup, e1, e2, e3, extraName_identity]

/-- the identity bearing part of what arrives is what the gateway generates: what is kept of the client's headers has canonical
    names, none of them identity bearing (`hK`) -/
theorem identityPart_received (token : Str) (up : Bool) {h1 : Headers} (u : Identity) (H : HandedOver h1) :
    (sendOver up (wrapHeaders (if up then h1 else bearerAuth token h1) u)).filter (fun e => isIdentityName e.1) =
      sendOver up (gatewayHeaders token up u) := by
  have hK : (sendOver up (hdel (delImpersonate h1) hImpUser)).filter (fun e => isIdentityName e.1) = [] := by
    simp only [List.filter_eq_nil_iff, sendOver_eq, hdel, delImpersonate_eq, List.mem_map, List.mem_filter]
    rintro _ ⟨x, ⟨⟨hx, hp⟩, _⟩, rfl⟩
    obtain ⟨hc, hA⟩ := H.names x hx
    rw [hc] at hp ⊢
    simpa [isIdentityName, hA] using hp
  have hG : (sendOver up (gatewayHeaders token up u)).filter (fun e => isIdentityName e.1) = sendOver up (gatewayHeaders token up u) := by
    rw [sendOver_eq, List.filter_map]
    exact congrArg _ (List.filter_eq_self.2 (List.all_eq_true.1 (generated_names token up u)))
  rw [received_eq token up u H, List.filter_append, hK, hG, List.nil_append]

/-! ## what the upstream decodes -/

theorem extra_key_decoded (k : Str) :
    unescapeExtraKey (toLower ((canonicalKey (hImpExtraPrefix ++ headerKeyEscape k)).drop hImpExtraPrefix.length)) = k := by
  rw [extraName_eq, List.drop_left', toLower_canonLoop]
  · simp [unescapeExtraKey, escape_lower_decodes]
  · rfl

theorem toLower_id_of_noUpper (k : Str) (h : k.all (fun c => !isUpper c) = true) : toLower k = k := by
  induction k with
  | nil => simp [toLower]
  | cons c k ih =>
    simp only [List.all_cons, Bool.and_eq_true, Bool.not_eq_true'] at h
    simp only [toLower] at ih
    simp [toLower, lowerByte, h.1, ih (by simpa using h.2)]

theorem decodeExtras_eq_flatMap (h : Headers) : decodeExtras h = h.flatMap (fun e =>
    if hasPrefix e.1 hImpExtraPrefix then [(unescapeExtraKey (toLower (e.1.drop hImpExtraPrefix.length)), e.2)] else []) := by
  induction h with
  | nil => rfl
  | cons e h ih =>
    obtain ⟨n, vs⟩ := e
    by_cases hn : hasPrefix n hImpExtraPrefix = true <;> simp [decodeExtras, hn, ih]

theorem decodeExtras_append (a b : Headers) : decodeExtras (a ++ b) = decodeExtras a ++ decodeExtras b := by
  simp [decodeExtras_eq_flatMap]

theorem decodeExtras_filter (h : Headers) (p : Str × List Str → Bool)
    (hp : ∀ e ∈ h, hasPrefix e.1 hImpExtraPrefix = true → p e = true) : decodeExtras (h.filter p) = decodeExtras h := by
  simp only [decodeExtras_eq_flatMap]
  apply flatMap_filter_of_nil
  intro e he hpe
  have : ¬ hasPrefix e.1 hImpExtraPrefix = true := fun hk => by simp [hp e he hk] at hpe
  simp [this]

theorem extraName_ne (k : Str) {n : Str} (hn : hasPrefix n hImpExtraPrefix = false) :
    canonicalKey (hImpExtraPrefix ++ headerKeyEscape k) ≠ n := by
  intro h
  have := extraName_prefix k
  rw [h, hn] at this
  cases this

theorem flatMap_const_nil {α β : Type} (l : List α) : l.flatMap (fun _ => ([] : List β)) = [] :=
  List.flatMap_eq_nil_iff.2 fun _ _ => rfl

/-- what each reader finds in the gateway's own headers as they arrive -/
theorem generated_decoded (token : Str) (up : Bool) (u : Identity) :
    values (sendOver up (gatewayHeaders token up u)) hAuthorization = (if up then [] else [carried up (bearerPrefix ++ token)]) ∧
    values (sendOver up (gatewayHeaders token up u)) hImpUser = [carried up u.name] ∧
    values (sendOver up (gatewayHeaders token up u)) hImpGroup = u.groups.map (carried up) ∧
    decodeExtras (sendOver up (gatewayHeaders token up u)) = u.extra.flatMap (fun e => e.2.map (fun v => (e.1, [carried up v]))) := by
  cases up <;> simp +decide [values_eq_flatMap, decodeExtras_eq_flatMap, sendOver_eq, gatewayHeaders, List.flatMap_append, List.flatMap_map, List.flatMap_assoc,
    canonicalKey_hImpUser, canonicalKey_hImpGroup, canonicalKey_hAuthorization, extraName_ne, extraName_prefix, extra_key_decoded,
    flatMap_const_nil, ← List.map_eq_flatMap]

theorem values_singletons (l : Headers) (g : Str → Str) (k : Str) :
    values (l.flatMap (fun e => e.2.map (fun v => (e.1, [g v])))) k = values (l.map (fun e => (e.1, e.2.map g))) k := by
  simp only [values_eq_flatMap, List.flatMap_assoc, List.flatMap_map]
  congr
  funext e
  by_cases h : e.1 = k <;> simp [h, flatMap_const_nil, ← List.map_eq_flatMap]

/-- all a Go `map[string][]string` tells: not how the values of a key were split over entries -/
def SameIdentity (d id : Identity) : Prop :=
  d.name = id.name ∧ d.groups = id.groups ∧ ∀ k, values d.extra k = values id.extra k

theorem decodeIdentity_generated (token : Str) (up : Bool) (u : Identity) :
    SameIdentity (decodeIdentity (sendOver up (gatewayHeaders token up u))) (carryIdentity up u) := by
  obtain ⟨_, hu, hg, he⟩ := generated_decoded token up u
  simp [SameIdentity, carryIdentity, decodeIdentity, hget, hu, hg, he, values_singletons]

/-! ## readers of identities see the `Impersonate-` entries only -/

theorem decodeIdentity_filter (h : Headers) (q : Str → Bool) (hq : ∀ n, hasPrefix n hImpPrefix = true → q n = true) :
    decodeIdentity (h.filter (fun e => q e.1)) = decodeIdentity h := by
  simp only [decodeIdentity, hget, values_filter_name h q _ (hq hImpUser (by decide)),
    values_filter_name h q _ (hq hImpGroup (by decide)),
    decodeExtras_filter h _ (fun e _ hp => hq e.1 (hasPrefix_trans hp extraPrefix_imp))]

theorem decodeIdentity_identityPart (h : Headers) :
    decodeIdentity (h.filter (fun e => isIdentityName e.1)) = decodeIdentity h :=
  decodeIdentity_filter h isIdentityName fun _ => imp_isIdentityName

/-! ## the impersonation filter against the specification on raw header lines -/

/-- the header map the server builds from accepted lines -/
def parsed (raw : List (Str × Str)) : Headers := raw.map fun l => (canonicalKey l.1, [trimOWS l.2])

def rawValid (raw : List (Str × Str)) : Bool := raw.all (fun l => validName l.1 && validValue l.2)

theorem parse_eq (raw : List (Str × Str)) : parse raw = if rawValid raw then some (parsed raw) else none := rfl

theorem rawValid_of_parse {raw : List (Str × Str)} (hp : parse raw ≠ none) : rawValid raw = true :=
  Decidable.byContradiction fun hv => hp ((parse_eq raw).trans (if_neg hv))

theorem rawValid_cons {l : Str × Str} {raw : List (Str × Str)} (h : rawValid (l :: raw) = true) :
    l.1.all isTokenByte = true ∧ rawValid raw = true := by
  simp only [rawValid, List.all_cons, Bool.and_eq_true] at h
  have h1 := h.1.1
  simp only [validName, Bool.and_eq_true] at h1
  exact ⟨h1.2, by simpa [rawValid] using h.2⟩

theorem values_parsed (raw : List (Str × Str)) (hv : rawValid raw = true) (K : Str) (hKc : canonicalKey K = K) :
    values (parsed raw) K = clientValues raw (toLower K) := by
  induction raw with
  | nil => rfl
  | cons l raw ih =>
    obtain ⟨hn, hv'⟩ := rawValid_cons hv
    have hk : canonicalKey l.1 = K ↔ toLower l.1 = toLower K := by rw [← canonicalKey_eq_iff l.1 K hn, hKc]
    have ih' := ih hv'
    simp only [parsed, clientValues] at ih' ⊢
    by_cases h : toLower l.1 = toLower K <;> simp [values, hk, h, ih']

theorem toLower_append (a b : Str) : toLower (a ++ b) = toLower a ++ toLower b := by simp [toLower]

theorem extraPrefix_ci (n : Str) (hn : n.all isTokenByte = true) :
    hasPrefix (canonicalKey n) hImpExtraPrefix = hasPrefix (toLower n) lImpExtraPrefix := by
  rw [Bool.eq_iff_iff, hasPrefix_iff, hasPrefix_iff]
  constructor
  · rintro ⟨t, ht⟩
    refine ⟨toLower t, ?_⟩
    rw [← toLower_canonicalKey, ht, toLower_append]; rfl
  · rintro ⟨t, ht⟩
    refine ⟨canonLoop true t, ?_⟩
    simp only [canonicalKey, hn, if_true]
    rw [← canonLoop_toLower, ht]
    rfl

theorem extraKey_ci (n : Str) :
    toLower ((canonicalKey n).drop hImpExtraPrefix.length) = (toLower n).drop lImpExtraPrefix.length := by
  have hl : lImpExtraPrefix.length = hImpExtraPrefix.length := List.length_map _
  rw [hl, ← toLower_canonicalKey n]
  exact List.map_drop

theorem decodeExtras_parsed (raw : List (Str × Str)) (hv : rawValid raw = true) : decodeExtras (parsed raw) = reqExtras raw := by
  induction raw with
  | nil => rfl
  | cons l raw ih =>
    obtain ⟨hn, hv'⟩ := rawValid_cons hv
    have ih' := ih hv'
    simp only [parsed, reqExtras] at ih' ⊢
    simp only [List.map_cons, decodeExtras, extraPrefix_ci l.1 hn, extraKey_ci, List.filterMap_cons, ih']
    by_cases h : hasPrefix (toLower l.1) lImpExtraPrefix = true <;> simp [h]

theorem extraRequests_eq (h : Headers) :
    extraRequests h = (decodeExtras h).flatMap (fun e => e.2.map (ImpReq.extra e.1)) := by
  induction h with
  | nil => rfl
  | cons e h ih =>
    obtain ⟨n, vs⟩ := e
    by_cases hn : hasPrefix n hImpExtraPrefix = true <;> simp [extraRequests, decodeExtras, hn, ih]

theorem anyExtra_eq (h : Headers) : h.any (fun e => hasPrefix e.1 hImpExtraPrefix) = !(decodeExtras h).isEmpty := by
  induction h with
  | nil => rfl
  | cons e h ih =>
    obtain ⟨n, vs⟩ := e
    by_cases hn : hasPrefix n hImpExtraPrefix = true <;> simp [decodeExtras, hn, ih]

/-- what the impersonation filter reads is what a kube-apiserver would decode -/
theorem requested_decoded (raw : List (Str × Str)) (hv : rawValid raw = true) :
    decodeIdentity (authnStrip (parsed raw)) = ⟨reqUser raw, reqGroups raw, reqExtras raw⟩ := by
  have hq : ∀ n, hasPrefix n hImpPrefix = true → (!(n == hAuthorization)) = true := by
    intro n hp
    rw [Bool.not_eq_true', beq_eq_false_iff_ne]
    rintro rfl
    exact absurd hp (by decide)
  rw [authnStrip, hdel, decodeIdentity_filter _ (fun n => !(n == hAuthorization)) hq]
  simp only [decodeIdentity, hget, values_parsed raw hv _ canonicalKey_hImpUser, values_parsed raw hv _ canonicalKey_hImpGroup,
    decodeExtras_parsed raw hv]
  rfl

theorem userReqs_eq (u : Str) :
    (match splitUsername u with
      | some (ns, name) => [ImpReq.sa ns name]
      | none => [ImpReq.user u]) = [userCheck u] := by
  simp only [userCheck]
  cases splitUsername u with
  | none => rfl
  | some p => obtain ⟨ns, name⟩ := p; rfl

/-- By cases on whether a user is requested: with one, `malformed` is the UTF-8 test on the checks alone; without one, any group
    or extra makes the request malformed, and none leaves nothing to check. -/
theorem buildImpersonationRequests_spec (raw : List (Str × Str)) (hv : rawValid raw = true) :
    buildImpersonationRequests (authnStrip (parsed raw)) =
      if !impersonationRequested raw then some [] else if malformed raw then none else some (checks raw) := by
  obtain ⟨hu, hg, he⟩ := Identity.mk.inj (requested_decoded raw hv)
  simp only [buildImpersonationRequests, hu, hg, anyExtra_eq, extraRequests_eq, he]
  cases hu : (reqUser raw).isEmpty with
  | false =>
    have hr : impersonationRequested raw = true := by simp [impersonationRequested, hu]
    have hm : malformed raw = !(checks raw).all refUTF8 := by simp [malformed, hr, hu]
    rw [hm, hr]
    cases hs : splitUsername (reqUser raw) <;> simp only [checks, userCheck, hs] <;> simp
  | true =>
    have hr : impersonationRequested raw = (!(reqGroups raw).isEmpty || !(reqExtras raw).isEmpty) := by
      simp [impersonationRequested, hu]
    cases hge : !(reqGroups raw).isEmpty || !(reqExtras raw).isEmpty with
    | true =>
      have hm : malformed raw = true := by simp [malformed, hu, hge]
      simp [hm, hr, hge]
    | false =>
      have : reqGroups raw = [] ∧ reqExtras raw = [] := by simpa using hge
      simp [hr, this]

theorem build_nil_iff (raw : List (Str × Str)) (hv : rawValid raw = true) :
    buildImpersonationRequests (authnStrip (parsed raw)) = some [] ↔ impersonationRequested raw = false := by
  rw [buildImpersonationRequests_spec raw hv]
  cases impersonationRequested raw with
  | false => simp
  | true => cases malformed raw <;> simp [checks]      -- the list of checks begins with the one for the user

/-! ## the authorisation loop -/

theorem attrsFor_eq_recordOf (r : ImpReq) : attrsFor r = recordOf r := by cases r <;> rfl

theorem authorizeAll_eq (az : Attrs → Decision) (gs : Bool) (a : Acc) (reqs : List ImpReq) :
    authorizeAll az gs a reqs =
      if reqs.all (fun r => (az (attrsFor r)).allowed) then some (reqs.foldl (accStep gs) a) else none := by
  induction reqs generalizing a with
  | nil => simp [authorizeAll]
  | cons r rs ih =>
    by_cases h : (az (attrsFor r)).allowed = true
    · simp [authorizeAll, h, ih]
    · simp [authorizeAll, h]

theorem foldl_groups (gs : Bool) (a : Acc) (l : List Str) :
    (l.map ImpReq.group).foldl (accStep gs) a = { a with groups := a.groups ++ l } := by
  induction l generalizing a with
  | nil => simp
  | cons g l ih => simp [accStep, ih]

theorem foldl_extras (gs : Bool) (a : Acc) (l : List (Str × List Str)) :
    (l.flatMap (fun e => e.2.map (ImpReq.extra e.1))).foldl (accStep gs) a =
      { a with userExtra := a.userExtra ++ l.flatMap (fun e => e.2.map (fun v => (e.1, [v]))) } := by
  induction l generalizing a with
  | nil => simp
  | cons e l ih =>
    obtain ⟨k, vs⟩ := e
    simp only [List.flatMap_cons, List.foldl_append, ih]
    have : ∀ (a : Acc), (vs.map (ImpReq.extra k)).foldl (accStep gs) a =
        { a with userExtra := a.userExtra ++ vs.map (fun v => (k, [v])) } := by
      induction vs with
      | nil => intro a; simp
      | cons v vs ih2 => intro a; simp [accStep, ih2]
    simp [this]

theorem reqExtras_singletons (raw : List (Str × Str)) :
    (reqExtras raw).flatMap (fun e => e.2.map (fun v => (e.1, [v]))) = reqExtras raw := by
  induction raw with
  | nil => simp [reqExtras]
  | cons l raw ih =>
    simp only [reqExtras] at ih ⊢
    by_cases h : hasPrefix (toLower l.1) lImpExtraPrefix = true <;> simp [h, ih]

/-! ## service account names -/

theorem stripPrefix_eq {s p t : Str} (h : stripPrefix s p = some t) : s = p ++ t := by
  induction p generalizing s with
  | nil => cases s <;> simp [stripPrefix] at h <;> simp [h]
  | cons b p ih =>
    cases s with
    | nil => simp [stripPrefix] at h
    | cons a s =>
      simp only [stripPrefix] at h
      by_cases hab : (a == b) = true
      · simp only [hab, if_true] at h
        have := ih h
        simp at hab
        simp [hab, this]
      · simp [hab] at h

theorem splitOn_join (c : UInt8) (t : Str) : ∃ p ps, splitOn c t = p :: ps ∧ t = p ++ ps.flatMap (c :: ·) := by
  induction t with
  | nil => exact ⟨[], [], rfl, rfl⟩
  | cons x xs ih =>
    obtain ⟨p, ps, hs, hx⟩ := ih
    by_cases h : (x == c) = true
    · exact ⟨[], p :: ps, by simp [splitOn, h, hs], by simp [hx, eq_of_beq h]⟩
    · exact ⟨x :: p, ps, by simp [splitOn, h, hs], by simp [hx]⟩

theorem splitUsername_make {u ns name : Str} (h : splitUsername u = some (ns, name)) : makeUsername ns name = u := by
  simp only [splitUsername] at h
  cases hp : stripPrefix u saUsernamePrefix with
  | none => simp [hp] at h
  | some t =>
    obtain ⟨a, ps, hs, ht⟩ := splitOn_join 58 t
    simp only [hp, hs] at h
    -- only two pieces leave `h` a chance
    match ps, ht, h with
    | [b], ht, h =>
      by_cases hv : (isDNS1123Label a && isDNS1123Subdomain b) = true
      · simp only [hv, if_true, Option.some.injEq, Prod.mk.injEq] at h
        simp [makeUsername, stripPrefix_eq hp, ht, ← h.1, ← h.2]
      · simp [hv] at h

theorem finalGroups_eq_augment (u : Str) (gs : List Str) : finalGroups u gs = augment u gs := by
  by_cases hu : u = anonymous <;> simp [finalGroups, augment, hu, and_or_left, exists_or]

theorem fold_checks (raw : List (Str × Str)) :
    (checks raw).foldl (accStep (!(reqGroups raw).isEmpty)) ⟨[], [], []⟩ =
      ⟨reqUser raw, if (reqGroups raw).isEmpty then impliedGroups (reqUser raw) else reqGroups raw, reqExtras raw⟩ := by
  simp only [checks, List.foldl_append, foldl_groups, foldl_extras, reqExtras_singletons, List.foldl_cons, List.foldl_nil,
    userCheck, impliedGroups]
  cases hs : splitUsername (reqUser raw) with
  | none => cases hg : reqGroups raw <;> simp [accStep]
  | some p =>
    obtain ⟨ns, name⟩ := p
    cases hg : reqGroups raw <;> simp [accStep, splitUsername_make hs, makeGroupNames]

theorem impersonate_spec (raw : List (Str × Str)) (hv : rawValid raw = true) (u : Identity) (az : Attrs → Decision) :
    impersonate (authnStrip (parsed raw)) u az =
      if !impersonationRequested raw then .pass (authnStrip (parsed raw)) u
      else if malformed raw then .internalError
      else if allAllowed az raw then .pass (clearImpersonation (authnStrip (parsed raw))) (requestedIdentity raw)
      else .forbidden := by
  simp only [impersonate, buildImpersonationRequests_spec raw hv]
  cases impersonationRequested raw with
  | false => rfl
  | true =>
    cases malformed raw with
    | true => rfl
    | false =>
      have hc : checks raw = userCheck (reqUser raw) :: ((reqGroups raw).map ImpReq.group ++
          (reqExtras raw).flatMap (fun e => e.2.map (ImpReq.extra e.1))) := by simp [checks]
      simp only [Bool.false_eq_true, if_false, Bool.not_true]
      -- written as a cons the list of checks lets the `match` of `impersonate` take its last branch; then it is folded back
      rw [hc]
      simp only [← hc, authorizeAll_eq, (Identity.mk.inj (requested_decoded raw hv)).2.1, allAllowed, requiredRecords, List.all_map,
        Function.comp_def, attrsFor_eq_recordOf]
      by_cases ha : (checks raw).all (fun r => (az (recordOf r)).allowed) = true
      · simp [ha, fold_checks, requestedIdentity, finalGroups_eq_augment]
      · simp [ha]

/-! ## the whole path -/

theorem expectedFor_eq (raw : List (Str × Str)) (auth : Option Identity) (az : Attrs → Decision) :
    expectedFor raw auth az =
      if rawValid raw then (match auth with | none => .answered 401 | some u => expected raw u az) else .answered 400 := by
  unfold expectedFor rawValid
  cases raw.all _ <;> rfl

theorem expected_forward_iff (raw : List (Str × Str)) (u : Identity) (az : Attrs → Decision) (ctx : Identity) :
    expected raw u az = .forward ctx ↔
      (impersonationRequested raw = false ∧ ctx = u) ∨
      (impersonationRequested raw = true ∧ malformed raw = false ∧ allAllowed az raw = true ∧ ctx = requestedIdentity raw) := by
  unfold expected
  cases impersonationRequested raw <;> cases malformed raw <;> cases allAllowed az raw <;> simp [eq_comm]

theorem authnStrip_parsed (raw : List (Str × Str)) :
    ∀ e ∈ authnStrip (parsed raw), canonicalKey e.1 = e.1 ∧ e.1 ≠ hAuthorization := by
  intro e he
  simp only [authnStrip, hdel, parsed, List.mem_filter, List.mem_map] at he
  obtain ⟨⟨l, _, rfl⟩, h2⟩ := he
  exact ⟨canonicalKey_idem _, by simpa using h2⟩

theorem clearImpersonation_sub (h : Headers) : ∀ e ∈ clearImpersonation h, e ∈ h := by
  intro e he
  simp only [clearImpersonation, hdel, List.mem_filter] at he
  exact he.1.1.1

theorem clearImpersonation_user (h : Headers) : hget (clearImpersonation h) hImpUser = [] := by
  apply get_nil_of_values
  apply values_nil_of_forall
  intro e he
  simp only [clearImpersonation, hdel, List.mem_filter] at he
  simpa using he.1.1.2

theorem wrapRequest_eq (h : Headers) (u : Identity) (hu : hget h hImpUser = []) :
    wrapRequest h u = if checkImpersonationValues u then some (wrapHeaders h u) else none := by
  simp only [wrapRequest, hu]
  cases checkImpersonationValues u <;> simp

/-- The outcomes the specification's verdict allows; for "forward as `ctx`", what the dispatcher can do. -/
inductive Serves (token : Str) (up : Bool) : Expect → Outcome → Prop
  | badRequest : Serves token up (.answered 400) .badRequest
  | unauthorized : Serves token up (.answered 401) .unauthorized
  | internalError : Serves token up (.answered 500) .internalError
  | forbidden : Serves token up (.answered 403) .forbidden
  | valueRefused {ctx : Identity} : checkImpersonationValues ctx = false → Serves token up (.forward ctx) .valueRefused
  | upstreamRefused {ctx : Identity} : checkImpersonationValues ctx = true → Serves token up (.forward ctx) .upstreamRefused
  | transportRefused {ctx : Identity} : checkImpersonationValues ctx = true → Serves token up (.forward ctx) .transportRefused
  | forwarded {ctx : Identity} (recv : Headers) : checkImpersonationValues ctx = true →
      recv.filter (fun e => isIdentityName e.1) = sendOver up (gatewayHeaders token up ctx) →
      Serves token up (.forward ctx) (.forwarded recv ctx)

theorem deliver_spec (token : Str) (up : Bool) {h1 : Headers} (ctx : Identity) (H : HandedOver h1) :
    Serves token up (.forward ctx) (deliver token up h1 ctx) := by
  have hI := identityPart_received token up ctx H
  simp only [deliver, wrapRequest_eq _ _ (hget_dispatched_impUser token up H)]
  cases hk : checkImpersonationValues ctx with
  | false => exact .valueRefused hk
  | true =>
    cases up
    · simp only [if_true, Bool.false_eq_true, if_false] at hI ⊢
      split
      · exact .forwarded _ hk hI
      · exact .transportRefused hk
    · simp only [if_true] at hI ⊢
      split
      · exact .forwarded _ hk hI
      · exact .upstreamRefused hk

theorem serve_spec (token : Str) (raw : List (Str × Str)) (auth : Option Identity) (az : Attrs → Decision) (up : Bool) :
    Serves token up (expectedFor raw auth az) (serveWith token raw auth az up) := by
  rw [expectedFor_eq]
  by_cases hv : rawValid raw = true
  · cases auth with
    | none =>
      simp only [serveWith, parse_eq, hv, if_true]
      exact .unauthorized
    | some u =>
      have hS := authnStrip_parsed raw
      simp only [serveWith, parse_eq, hv, if_true, impersonate_spec raw hv u az, expected]
      cases hr : impersonationRequested raw with
      | false =>
        refine deliver_spec token up u ⟨hS, ?_⟩
        rw [(Identity.mk.inj (requested_decoded raw hv)).1]
        simp only [impersonationRequested, Bool.or_eq_false_iff, Bool.not_eq_false'] at hr
        simpa using hr.1.1
      | true =>
        -- with the tests replaced by their values both chains of `if`s reduce
        cases malformed raw with
        | true => exact .internalError
        | false =>
          cases allAllowed az raw with
          | true => exact deliver_spec token up _ ⟨fun e he => hS e (clearImpersonation_sub _ e he), clearImpersonation_user _⟩
          | false => exact .forbidden
  · simp only [serveWith, parse_eq, hv, Bool.false_eq_true, if_false]
    exact .badRequest

/-- `serve_spec` with the verdict and the outcome as variables, which is what `cases` wants -/
theorem serves_of_eq {token : Str} {raw : List (Str × Str)} {auth : Option Identity} {az : Attrs → Decision} {up : Bool}
    {e : Expect} {o : Outcome} (he : expectedFor raw auth az = e) (ho : serveWith token raw auth az up = o) :
    Serves token up e o :=
  he ▸ ho ▸ serve_spec token raw auth az up

theorem expectedFor_forward {raw : List (Str × Str)} {auth : Option Identity} {az : Attrs → Decision} {ctx : Identity}
    (h : expectedFor raw auth az = .forward ctx) : ∃ u, rawValid raw = true ∧ auth = some u ∧ expected raw u az = .forward ctx := by
  rw [expectedFor_eq] at h
  by_cases hv : rawValid raw = true
  · cases auth with
    | none => simp [hv] at h
    | some u => exact ⟨u, hv, rfl, by simpa [hv] using h⟩
  · simp [hv] at h

theorem serve_forwarded (token : Str) (raw : List (Str × Str)) (auth : Option Identity) (az : Attrs → Decision)
    (up : Bool) (recv : Headers) (ctx : Identity) (h : serveWith token raw auth az up = .forwarded recv ctx) :
    ∃ u, checkImpersonationValues ctx = true ∧ rawValid raw = true ∧ auth = some u ∧ expected raw u az = .forward ctx ∧
      recv.filter (fun e => isIdentityName e.1) = sendOver up (gatewayHeaders token up ctx) := by
  generalize he : expectedFor raw auth az = e
  cases serves_of_eq he h with
  | forwarded _ hk hr =>
    obtain ⟨u, hv, ha, hx⟩ := expectedFor_forward he
    exact ⟨u, hk, hv, ha, hx, hr⟩

/-! ## values a header carries -/

theorem map_id_of_forall {α : Type} (l : List α) (f : α → α) (h : ∀ x ∈ l, f x = x) : l.map f = l := by
  simpa using List.map_congr_left (g := id) h

theorem dropWhile_of_head {α : Type} (p : α → Bool) (l : List α) (a : α) (h1 : l.head? = some a) (h2 : p a = false) :
    l.dropWhile p = l := by
  cases l with
  | nil => rfl
  | cons x xs =>
    simp only [List.head?_cons, Option.some.injEq] at h1
    subst h1
    simp [h2]

theorem ctl_not_newline (c : UInt8) (h : ((c < 32 && c != 9) || c == 127) = false) : (c == 10 || c == 13) = false := by
  rw [Bool.eq_false_iff]
  intro hc
  simp only [Bool.or_eq_true, beq_iff_eq] at hc
  rcases hc with rfl | rfl <;> cases h

theorem survives_carried (up : Bool) (v : Str) (h : headerValueSurvives v = true) : carried up v = v := by
  simp only [headerValueSurvives, Bool.and_eq_true, Bool.not_eq_true', List.all_eq_true] at h
  obtain ⟨he, hb⟩ := h
  have hnl : newlineToSpace v = v := by
    simp only [newlineToSpace]
    apply map_id_of_forall
    intro c hc
    have := hb c hc
    have hk := ctl_not_newline c this
    simp [hk]
  have ht : trimOWS v = v := by
    cases v with
    | nil => rfl
    | cons a w =>
      cases hl : (a :: w).getLast? with
      | none => simp at hl
      | some z =>
        simp only [List.head?_cons, hl, Bool.or_eq_false_iff] at he
        have h1 : (a :: w).dropWhile isOWS = a :: w := dropWhile_of_head _ _ a rfl he.1
        have h2 : ((a :: w).reverse).dropWhile isOWS = (a :: w).reverse :=
          dropWhile_of_head _ _ z (by rw [List.head?_reverse]; exact hl) he.2
        simp only [trimOWS, h1, h2, List.reverse_reverse]
  cases up <;> simp [carried, hnl, ht]

theorem check_valuesCarried (up : Bool) (id : Identity) (h : checkImpersonationValues id = true) :
    valuesCarried up id = true := by
  simp only [checkImpersonationValues, Bool.and_eq_true, List.all_eq_true] at h
  obtain ⟨⟨h1, h2⟩, h3⟩ := h
  simp only [valuesCarried, Bool.and_eq_true, beq_iff_eq, List.all_eq_true]
  exact ⟨⟨survives_carried up _ h1, fun g hg => survives_carried up g (h2 g hg)⟩,
    fun e he v hv => survives_carried up v (h3 e he v hv)⟩

/-! ## the wired authorizer -/

theorem wired_allowed {u : Identity} {policy : Attrs → Decision} {a : Attrs}
    (h : (wiredAuthorizer u policy a).allowed = true) : (policy (jsonAttrs a)).allowed = true := by
  simp only [wiredAuthorizer] at h
  split at h
  · simp [Decision.allowed] at h
  · exact h

theorem refUTF8_carried (r : ImpReq) (h : refUTF8 r = true) : jsonAttrs (recordOf r) = recordOf r := by
  have c0 : jsonCarried ([] : Str) = [] := by decide +kernel
  have c1 : jsonCarried resServiceAccounts = resServiceAccounts := by decide +kernel
  have c2 : jsonCarried resUsers = resUsers := by decide +kernel
  have c3 : jsonCarried resGroups = resGroups := by decide +kernel
  have c4 : jsonCarried resUserExtras = resUserExtras := by decide +kernel
  have c5 : jsonCarried authenticationGroup = authenticationGroup := by decide +kernel
  cases r <;> simp only [refUTF8, utf8Valid, Bool.and_eq_true, beq_iff_eq] at h <;>
    simp [jsonAttrs, recordOf, c0, c1, c2, c3, c4, c5, h]

theorem wellformed_recordsCarried (raw : List (Str × Str)) (hr : impersonationRequested raw = true)
    (hm : malformed raw = false) : recordsCarried raw = true := by
  simp only [malformed, hr, Bool.true_and, Bool.or_eq_false_iff, Bool.not_eq_false'] at hm
  have hall := hm.2
  simp only [List.all_eq_true] at hall
  simp only [recordsCarried, requiredRecords, List.all_map, List.all_eq_true, Function.comp_def, beq_iff_eq]
  exact fun r hr' => refUTF8_carried r (hall r hr')

theorem allAllowed_of_wired {u : Identity} {policy : Attrs → Decision} {raw : List (Str × Str)}
    (hr : impersonationRequested raw = true) (hm : malformed raw = false)
    (h : allAllowed (wiredAuthorizer u policy) raw = true) : allAllowed policy raw = true := by
  have hc := wellformed_recordsCarried raw hr hm
  simp only [recordsCarried, allAllowed, List.all_eq_true, beq_iff_eq] at hc h ⊢
  intro a ha
  rw [← hc a ha]
  exact wired_allowed (h a ha)

/-- forward under the wired authorizer ⇒ forward under the cluster's policy: the authorizer only decides between "forward" and 403 -/
theorem expected_wired {raw : List (Str × Str)} {u : Identity} {policy : Attrs → Decision} {id : Identity}
    (h : expected raw u (wiredAuthorizer u policy) = .forward id) : expected raw u policy = .forward id := by
  rw [expected_forward_iff] at h ⊢
  exact h.imp_right fun ⟨hr, hm, ha, hc⟩ => ⟨hr, hm, allAllowed_of_wired hr hm ha, hc⟩

theorem expectedFor_wired (raw : List (Str × Str)) (auth : Option Identity) (policy : Attrs → Decision) (id : Identity)
    (h : expectedFor raw auth (wiredFor auth policy) = .forward id) : expectedFor raw auth policy = .forward id := by
  obtain ⟨u, hv, rfl, hx⟩ := expectedFor_forward h
  simpa [expectedFor_eq, hv] using expected_wired hx

/-! ## the judge on the gateway's own headers -/

theorem carryIdentity_id (up : Bool) (id : Identity) (h : valuesCarried up id = true) : carryIdentity up id = id := by
  obtain ⟨n, gs, es⟩ := id
  simp only [valuesCarried, Bool.and_eq_true, beq_iff_eq, List.all_eq_true] at h
  simp only [carryIdentity, Identity.mk.injEq]
  exact ⟨h.1.1, map_id_of_forall _ _ h.1.2, map_id_of_forall _ _ fun e he => by rw [map_id_of_forall e.2 _ (h.2 e he)]⟩

theorem decodeIdentity_generated_exact (token : Str) (up : Bool) (u : Identity) (hc : valuesCarried up u = true) :
    SameIdentity (decodeIdentity (sendOver up (gatewayHeaders token up u))) u := by
  have hd := decodeIdentity_generated token up u
  rwa [carryIdentity_id up u hc] at hd

/-- the judge's comparison asks for less: the extra values of a key as a multiset -/
theorem SameIdentity.agree {d id : Identity} (h : SameIdentity d id) : identityAgree d id = true := by
  simp [identityAgree, multimapAgree, h.1, h.2.1, h.2.2]

/-- compared with themselves the header clauses of the judge hold; what is left is the decoded identity -/
theorem judge_generated (token : Str) (up : Bool) (id : Identity) (hc : valuesCarried up id = true) :
    judgeForward token up id (sendOver up (gatewayHeaders token up id)) = [] := by
  simp [judgeForward, namesAgree, (decodeIdentity_generated_exact token up id hc).agree]

end KG.Lemmas.Identity
