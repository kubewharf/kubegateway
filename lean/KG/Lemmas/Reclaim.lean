import KG.Spec.Reclaim
import KG.Lemmas.Lists
/-! What each operation of `KG.Model.Reclaim` does to the heartbeat table, the in-flight states and the conditions. One flow
    control: `Touches J f g` (only the instances in `J` were updated) and what every operation preserves (`Closed`). The
    operations by cases (`*_cases`), as what preserves a predicate (`*_inv`) or as a rule over the shapes of the outcome
    (`handle_rule`, `burst_rule`). Both clean-up passes are one `sweep`. An instance that is silent: `LastSeen`. -/
namespace KG.Lemmas.Reclaim
open KG KG.Model.Reclaim KG.Spec.Reclaim

/-! ### keyed tables

`heartbeat`, `FC.put`, `saveCond`, `list`, `syncFlowControl` replace a row the same way: filter the key `k` out, append the
new row (`FC.drop` only filters); a lookup is `find?` on the key. -/

section keyed
variable {α : Type} (k : α → Bool) (l : List α)

theorem find_filter_not : (l.filter fun a => !k a).find? k = none := by
  rw [List.find?_eq_none]
  intro x hx hk
  have := (List.mem_filter.1 hx).2
  rw [hk] at this; cases this

theorem find_upsert (x : α) (hx : k x = true) : ((l.filter fun a => !k a) ++ [x]).find? k = some x := by
  rw [List.find?_append, find_filter_not, Option.none_or, List.find?_cons, hx]

end keyed

/-! ### `globalMaxInflight` -/

theorem getState_none_iff (f : FC) (i : Inst) : f.getState i = none ↔ ∀ p ∈ f.states, p.1 ≠ i := by
  unfold FC.getState
  simp only [Option.map_eq_none_iff, List.find?_eq_none, beq_iff_eq]

theorem find_filter_ne (l : List (Inst × IState)) (i j : Inst) (h : i ≠ j) :
    (l.filter (·.1 != j)).find? (·.1 == i) = l.find? (·.1 == i) := by
  rw [List.find?_filter]
  congr 1
  funext a
  by_cases hi : a.1 = i
  · simp [hi, h]
  · simp [hi]

theorem bnot_eq_true {b : Bool} (h : ¬ b = true) : (!b) = true := congrArg not (eq_false_of_ne_true h)

theorem drop_some {f : FC} {j : Inst} {st : IState} (hm : f.isMif = true) (hs : f.getState j = some st) :
    f.drop j = { f with states := f.states.filter (·.1 != j), count := toI32 (f.count + toI32 (-st.count)) } := by
  unfold FC.drop; rw [hm, hs]; rfl

/-- nothing to forget (a token bucket, or no state of `j`), or the state of `j` goes and its count is given back -/
theorem drop_cases (f : FC) (j : Inst) :
    (f.drop j = f ∧ (f.isMif = true → f.getState j = none)) ∨
    ∃ st, f.isMif = true ∧ f.getState j = some st ∧
      f.drop j = { f with states := f.states.filter (·.1 != j), count := toI32 (f.count + toI32 (-st.count)) } := by
  unfold FC.drop
  cases hm : f.isMif
  · exact Or.inl ⟨rfl, fun h => nomatch h⟩
  · cases hs : f.getState j with
    | none => exact Or.inl ⟨rfl, fun _ => rfl⟩
    | some st => exact Or.inr ⟨st, rfl, rfl, rfl⟩

/-- `g` is `f` after updates made for the instances in `J` alone -/
structure Touches (J : Inst → Prop) (f g : FC) : Prop where
  isMif : g.isMif = f.isMif
  name : g.name = f.name
  getState : ∀ i, ¬ J i → g.getState i = f.getState i

theorem touches_self (J : Inst → Prop) (f : FC) : Touches J f f := ⟨rfl, rfl, fun _ _ => rfl⟩

/-- the specification's `NoState` for one flow control (a token bucket keeps no state) -/
def NoStateFC (i : Inst) (f : FC) : Prop := f.isMif = true → f.getState i = none

theorem Touches.noStateFC {J : Inst → Prop} {i : Inst} {f g : FC} (t : Touches J f g) (hi : ¬ J i)
    (h : NoStateFC i f) : NoStateFC i g :=
  fun hm => (t.getState i hi).trans (h (t.isMif ▸ hm))

theorem touches_drop (f : FC) (j : Inst) : Touches (· = j) f (f.drop j) := by
  rcases drop_cases f j with ⟨e, _⟩ | ⟨st, _, _, e⟩ <;> rw [e]
  · exact touches_self _ f
  · exact ⟨rfl, rfl, fun i h => congrArg (Option.map Prod.snd) (find_filter_ne f.states i j h)⟩

theorem drop_getState_self (f : FC) (j : Inst) (hm : f.isMif = true) : (f.drop j).getState j = none := by
  rcases drop_cases f j with ⟨e, h⟩ | ⟨st, _, _, e⟩ <;> rw [e]
  · exact h hm
  · exact congrArg (Option.map Prod.snd) (find_filter_not (·.1 == j) f.states)

theorem noStateFC_drop_self (f : FC) (d : Inst) : NoStateFC d (f.drop d) :=
  fun hm => drop_getState_self f d ((touches_drop f d).isMif ▸ hm)

theorem noStateFC_drop (i : Inst) (f : FC) (d : Inst) (h : NoStateFC i f) : NoStateFC i (f.drop d) := by
  by_cases e : i = d
  · exact e ▸ noStateFC_drop_self f d
  · exact (touches_drop f d).noStateFC e h

theorem touches_dropAll (ds : List Inst) (f : FC) : Touches (· ∈ ds) f (dropAll ds f) := by
  induction ds generalizing f with
  | nil => exact ⟨rfl, rfl, fun _ _ => rfl⟩
  | cons d t ih =>
    have h1 := touches_drop f d
    have h2 := ih (f.drop d)
    exact ⟨h2.isMif.trans h1.isMif, h2.name.trans h1.name, fun i hi =>
      (h2.getState i fun e => hi (List.mem_cons_of_mem d e)).trans (h1.getState i fun e => hi (e ▸ List.mem_cons_self))⟩

theorem noStateFC_dropAll {d : Inst} {ds : List Inst} (hd : d ∈ ds) (f : FC) : NoStateFC d (dropAll ds f) := by
  induction ds generalizing f with
  | nil => cases hd
  | cons e t ih =>
    cases hd with
    | head => exact foldl_inv (NoStateFC d) FC.drop t (fun g x _ => noStateFC_drop d g x) _ (noStateFC_drop_self f d)
    | tail _ h' => exact ih h' (f.drop e)

/-! ### `FC.put`, `FC.force`, `setState` -/

theorem put_getState_ne (f : FC) (i j : Inst) (st : IState) (c : Int) (h : i ≠ j) :
    (f.put j st c).getState i = f.getState i := by
  unfold FC.getState FC.put
  simp only [List.find?_append, find_filter_ne _ _ _ h]
  have : ([(j, st)] : List (Inst × IState)).find? (·.1 == i) = none := by
    simp [Ne.symm h]
  rw [this, Option.or_none]

theorem put_getState_self (f : FC) (i : Inst) (st : IState) (c : Int) : (f.put i st c).getState i = some st :=
  congrArg (Option.map Prod.snd)
    (find_upsert (fun p : Inst × IState => p.1 == i) f.states (i, st) (beq_self_eq_true i))

theorem toI32_toI32 (x : Int) : toI32 (toI32 x) = toI32 x := by
  unfold toI32; omega

theorem setState_of_not_mif (f : FC) (i : Inst) (rid cur : Int) (hm : f.isMif = false) :
    setState f i rid cur = (f, false, -1, false) := by
  unfold setState; rw [hm]; rfl

theorem setState_of_neg (f : FC) (i : Inst) (rid cur : Int) (hm : f.isMif = true) (hc : cur < 0) :
    setState f i rid cur = (f.drop i, false, -1, false) := by
  unfold setState; rw [hm, if_neg (by decide : ¬ (!true) = true), if_pos hc]

theorem force_of_mif (f : FC) (i : Inst) (st : IState) (hm : f.isMif = true) :
    f.force i st = f.put i st (toI32 (f.count - ((f.getState i).getD ⟨0, 0⟩).count + st.count)) := by
  unfold FC.force
  rw [hm, if_neg (by decide : ¬ (!true) = true)]
  cases f.getState i <;> rfl

/-- With an int32 total the update is a `force` (what `burst` relies on). One statement for three facts: every unfolding of
    `setState` is dear. -/
theorem setState_nonneg (f : FC) (i : Inst) (rid cur : Int) (hm : f.isMif = true) (hc : ¬ cur < 0) :
    ∃ st' c acc latest old, setState f i rid cur = (f.put i st' c, acc, latest, old) ∧
      (toI32 f.count = f.count → c = toI32 (f.count - ((f.getState i).getD ⟨0, 0⟩).count + st'.count)) ∧
      (old = true → rid > 0 ∧ rid ≤ ((f.getState i).getD ⟨0, 0⟩).reqId) := by
  unfold setState
  rw [hm, if_neg (by decide : ¬ (!true) = true), if_neg hc]
  extract_lets st st1 old delta c1 ov
  have hold : old = st.count := by simp only [old, st1]; split <;> rfl
  -- one `if` at a time by `rw [if_pos _]`/`rw [if_neg _]`: `split` abstracts the whole tuple anew at every branch
  by_cases h1 : rid > 0 ∧ rid ≤ st.reqId
  · rw [if_pos h1]
    exact ⟨st, _, _, _, _, rfl, fun h => by rw [Int.sub_add_cancel]; exact h.symm, fun _ => h1⟩
  rw [if_neg h1]
  by_cases h2 : ov > 0 ∧ delta > 0
  · rw [if_pos h2]
    refine ⟨_, _, _, _, _, rfl, fun _ => ?_, fun h => nomatch h⟩
    simp only [c1, delta, hold, st, toI32]; omega
  rw [if_neg h2]
  have h34 : c1 = toI32 (f.count - ((f.getState i).getD ⟨0, 0⟩).count + cur) := by
    simp only [c1, delta, hold, st, toI32]; omega
  by_cases h3 : ov > 0 ∨ (ov = 0 ∧ cur > 0)
  · rw [if_pos h3]; exact ⟨_, _, _, _, _, rfl, fun _ => h34, fun h => nomatch h⟩
  · rw [if_neg h3]; exact ⟨_, _, _, _, _, rfl, fun _ => h34, fun h => nomatch h⟩

theorem setState_has (f : FC) (i : Inst) (rid cur : Int) (h : ¬ cur < 0) (hm : f.isMif = true) :
    (setState f i rid cur).1.getState i ≠ none := by
  obtain ⟨st, c, _, _, _, e, _⟩ := setState_nonneg f i rid cur hm h
  rw [e]
  exact (put_getState_self f i st c).symm ▸ Option.some_ne_none st

theorem touches_put (f : FC) (j : Inst) (st : IState) (c : Int) : Touches (· = j) f (f.put j st c) :=
  ⟨rfl, rfl, fun i h => put_getState_ne f i j st c h⟩

theorem touches_setState (f : FC) (j : Inst) (rid cur : Int) : Touches (· = j) f (setState f j rid cur).1 := by
  cases hm : f.isMif
  · rw [setState_of_not_mif f j rid cur hm]; exact touches_self _ f
  by_cases hc : cur < 0
  · rw [setState_of_neg f j rid cur hm hc]; exact touches_drop f j
  · obtain ⟨st, c, _, _, _, e, _⟩ := setState_nonneg f j rid cur hm hc
    rw [e]; exact touches_put f j st c

theorem touches_force (f : FC) (j : Inst) (st : IState) : Touches (· = j) f (f.force j st) := by
  unfold FC.force
  split
  · exact touches_self _ f
  · exact touches_put f j st _

theorem newFC_states (sc : Schema) : (newFC sc).states = [] := by
  unfold newFC; split <;> rfl

theorem resizeFC_eq (f : FC) (sc : Schema) : ∃ m b, resizeFC f sc = { f with max := m, burst := b } := by
  unfold resizeFC; split
  · exact ⟨_, _, rfl⟩
  · split <;> exact ⟨_, _, rfl⟩
  · exact ⟨_, _, rfl⟩

theorem noStateFC_new (i : Inst) (sc : Schema) : NoStateFC i (newFC sc) :=
  fun _ => (getState_none_iff _ i).2 (by rw [newFC_states]; exact fun _ h => nomatch h)

theorem noStateFC_resize (i : Inst) (f : FC) (sc : Schema) (h : NoStateFC i f) : NoStateFC i (resizeFC f sc) := by
  obtain ⟨m, b, e⟩ := resizeFC_eq f sc; rw [e]; exact h

/-! ### lists of flow controls -/

def AllFC (P : FC → Prop) (fcs : List (Nat × Ups × FC)) : Prop := ∀ r ∈ fcs, P r.2.2

/-- the specification says it of the list `states`, the proofs of the map `getState` -/
theorem noState_iff_allFC (i : Inst) (s : State) : NoState i s ↔ AllFC (NoStateFC i) s.fcs := by
  simp only [NoState, AllFC, NoStateFC, getState_none_iff]

/-- the shape of what `KeepsStateOf` and `AcquireRecorded` ask for -/
def Holds (Q : FC → Prop) (sh : Nat) (u : Ups) (n : Str) (fcs : List (Nat × Ups × FC)) : Prop :=
  ∃ x ∈ fcs, x.1 = sh ∧ x.2.1 = u ∧ x.2.2.name = n ∧ Q x.2.2

section lists
variable {P Q : FC → Prop} {fcs : List (Nat × Ups × FC)}

theorem allFC_mapFC (sh : Nat) (u : Ups) (n : Str) (g : FC → FC)
    (hg : ∀ f, P f → P (g f)) (h : AllFC P fcs) : AllFC P (mapFC fcs sh u n g) := by
  intro r hr
  obtain ⟨r0, hr0, rfl⟩ := List.mem_map.1 hr
  split
  · exact hg _ (h r0 hr0)
  · exact h r0 hr0

theorem allFC_filter (p : Nat × Ups × FC → Bool) (h : AllFC P fcs) : AllFC P (fcs.filter p) :=
  fun r hr => h r (List.mem_filter.1 hr).1

theorem holds_mapFC {sh : Nat} {u : Ups} {n : Str} (sh' : Nat) (u' : Ups) (n' : Str) (g : FC → FC)
    (hname : ∀ f, (g f).name = f.name) (hg : ∀ f, Q f → Q (g f)) (h : Holds Q sh u n fcs) :
    Holds Q sh u n (mapFC fcs sh' u' n' g) := by
  obtain ⟨x, hx, h1, h2, h3, h4⟩ := h
  by_cases hk : (x.1 == sh' && x.2.1 == u' && x.2.2.name == n') = true
  · exact ⟨(x.1, x.2.1, g x.2.2), List.mem_map.2 ⟨x, hx, if_pos hk⟩, h1, h2, (hname _).trans h3, hg _ h4⟩
  · exact ⟨x, List.mem_map.2 ⟨x, hx, if_neg hk⟩, h1, h2, h3, h4⟩

end lists

/-! ### a property of single flow controls that every operation preserves -/

structure Closed (P : FC → Prop) : Prop where
  new : ∀ sc, P (newFC sc)
  resize : ∀ f sc, P f → P (resizeFC f sc)
  drop : ∀ f d, P f → P (f.drop d)
  set : ∀ f j rid cur, P f → P (setState f j rid cur).1
  force : ∀ f j st, P f → P (f.force j st)

/-! ### the total of a flow control is the sum of what it records per instance -/

def KeysNodup (l : List (Inst × IState)) : Prop := l.Pairwise fun p q => p.1 ≠ q.1

/-- the invariant of `globalMaxInflight` (`count = Σ instanceStates[i].count`, in int32). -/
def Good (f : FC) : Prop := f.isMif = true → KeysNodup f.states ∧ f.count = toI32 (sumCounts f.states)

theorem sumCounts_append (a b : List (Inst × IState)) : sumCounts (a ++ b) = sumCounts a + sumCounts b := by
  induction a with
  | nil => simp [sumCounts]
  | cons x t ih => simp only [List.cons_append, sumCounts, ih]; omega

theorem sumCounts_filter (l : List (Inst × IState)) (i : Inst) (hn : KeysNodup l) :
    sumCounts l =
      sumCounts (l.filter (·.1 != i)) + (((l.find? (·.1 == i)).map (·.2)).map (·.count)).getD 0 := by
  induction l with
  | nil => rfl
  | cons x t ih =>
    obtain ⟨hx1, hn⟩ := List.pairwise_cons.1 hn
    by_cases hx : x.1 = i
    · have hrest : t.filter (·.1 != i) = t :=
        List.filter_eq_self.2 fun q hq => by simpa [← hx] using Ne.symm (hx1 q hq)
      simp only [List.filter_cons, List.find?_cons, hx, bne_self_eq_false, beq_self_eq_true, Bool.false_eq_true,
        if_false, hrest, sumCounts, Option.map_some, Option.getD_some]
      omega
    · simp only [List.filter_cons, List.find?_cons, bne_iff_ne, ne_eq, hx, not_false_eq_true, if_true, sumCounts,
        beq_eq_false_iff_ne.2 hx, ih hn]
      omega

theorem good_drop (f : FC) (i : Inst) (h : Good f) : Good (f.drop i) := by
  rcases drop_cases f i with ⟨e, _⟩ | ⟨st, hm, hst, e⟩ <;> rw [e]
  · exact h
  · intro _
    obtain ⟨hn, hc⟩ := h hm
    refine ⟨hn.filter _, ?_⟩
    have := sumCounts_filter f.states i hn
    unfold FC.getState at hst
    rw [hst] at this
    simp only [hc, this, Option.map_some, Option.getD_some, toI32]
    omega

theorem good_force (f : FC) (i : Inst) (st : IState) (h : Good f) : Good (f.force i st) := by
  unfold FC.force
  split
  · exact h
  intro hm
  obtain ⟨hn, hc⟩ := h hm
  refine ⟨List.pairwise_append.2 ⟨hn.filter _, List.pairwise_singleton _ _,
    fun q hq _ hb => by rw [List.mem_singleton.1 hb]; simpa using (List.mem_filter.1 hq).2⟩, ?_⟩
  simp only [FC.put, FC.getState, sumCounts_append, sumCounts, hc, sumCounts_filter f.states i hn, toI32]
  omega

theorem good_setState (f : FC) (i : Inst) (rid cur : Int) (h : Good f) : Good (setState f i rid cur).1 := by
  cases hm : f.isMif
  · rw [setState_of_not_mif f i rid cur hm]; exact h
  by_cases hc : cur < 0
  · rw [setState_of_neg f i rid cur hm hc]; exact good_drop f i h
  · obtain ⟨st, c, _, _, _, e, hcnt, _⟩ := setState_nonneg f i rid cur hm hc
    rw [e, hcnt (by rw [(h hm).2, toI32_toI32])]
    exact force_of_mif f i st hm ▸ good_force f i st h

theorem closed_good : Closed Good where
  new := fun sc _ => by
    rw [newFC_states]
    exact ⟨List.Pairwise.nil, by unfold newFC; split <;> rfl⟩
  resize := fun f sc h => by obtain ⟨m, b, e⟩ := resizeFC_eq f sc; rw [e]; exact h
  drop := good_drop
  set := good_setState
  force := good_force

/-! ### the operations, case by case -/

section ops
variable (shardOf : Ups → Nat)

theorem syncFlowControl_cases (s : State) (sh : Nat) (u : Ups) (sc : List Schema) :
    syncFlowControl s sh u sc = s ∨ ∃ p cl,
      syncFlowControl s sh u sc = { s with fcs := (sc.foldl (syncOne sh u) s.fcs).filter p, clusters := cl } := by
  unfold syncFlowControl
  extract_lets old fcs1 newNames deleted
  split
  · exact Or.inl rfl
  · exact Or.inr ⟨_, _, rfl⟩

theorem deleteUpstream_cases (s : State) (sh : Nat) (u : Ups) :
    deleteUpstream s sh u = s ∨ ∃ cl p, deleteUpstream s sh u = { s with
      clusters := cl, fcs := s.fcs.filter p,
      conds := s.conds.filter fun r => !(r.1 == sh && r.2.upstream == u) } := by
  unfold deleteUpstream
  split
  · exact Or.inl rfl
  · exact Or.inr ⟨_, _, rfl⟩

/-- `hdel`: the upstream is not listed and is deleted; `hsync`: the state condition is saved, then the flow controls synced -/
theorem handle_rule (P : State → Prop) (s : State) (u : Ups)
    (hdel : isListed s u = false → ∀ cl p, P { s with
      clusters := cl, fcs := s.fcs.filter p,
      conds := s.conds.filter fun r => !(r.1 == shardOf u && r.2.upstream == u) })
    (hsync : ∀ sc locks,
      let a : State := { s with
        conds := saveCond s.conds (shardOf u) (updateUpstreamStateCondition (getCond s (shardOf u) u (stateName u)) u sc),
        locks := locks }
      P a ∧ ∀ p cl, P { a with fcs := (sc.foldl (syncOne (shardOf u) u) a.fcs).filter p, clusters := cl })
    (hs : P s) : P (handle shardOf s u) := by
  unfold handle
  extract_lets sh
  split
  · exact hs
  split
  · exact hs
  split
  · rename_i hf
    rw [Option.map_eq_none_iff, List.find?_eq_none] at hf
    rcases deleteUpstream_cases s sh u with e | ⟨cl, p, e⟩ <;> rw [e]
    · exact hs
    · exact hdel (List.any_eq_false.2 hf) cl p
  · rename_i sc _
    obtain ⟨h1, h2⟩ := hsync sc _
    rcases syncFlowControl_cases _ sh u sc with e | ⟨p, cl, e⟩ <;> rw [e]
    · exact h1
    · exact h2 p cl

theorem handle_frame (s : State) (u : Ups) :
    (handle shardOf s u).hb = s.hb ∧ (handle shardOf s u).failing = s.failing :=
  handle_rule shardOf (fun a => a.hb = s.hb ∧ a.failing = s.failing) s u (fun _ _ _ => ⟨rfl, rfl⟩)
    (fun _ _ => ⟨⟨rfl, rfl⟩, fun _ _ => ⟨rfl, rfl⟩⟩) ⟨rfl, rfl⟩

/-- `h0`, `h1`, `h2`: `shards` changes, then upstream events for shards that had no store, then stores of shards not led go -/
theorem leaderCheck_inv (P : State → Prop) (s : State) (h0 : ∀ l, P s → P { s with shards := l })
    (h1 : ∀ a u, (!s.shards.contains (shardOf u)) = true → P a → P (handle shardOf a u))
    (h2 : ∀ a sh, (!s.leaders.contains sh) = true → P a → P (dropStore a sh)) (hs : P s) : P (leaderCheck shardOf s) :=
  foldl_inv P dropStore _ (fun a sh hsh => h2 a sh (List.mem_filter.1 hsh).2) _
    (foldl_inv P _ _ (fun a p hp =>
      h1 a p.1 (List.mem_filter.1 (List.contains_iff_mem.1 (List.mem_filter.1 hp).2)).2) _ (h0 _ hs))

theorem getCond_some (s : State) (sh : Nat) (u : Ups) (n : Str) (c : Cond) (h : getCond s sh u n = some c) :
    (sh, c) ∈ s.conds ∧ c.upstream = u ∧ c.name = n := by
  obtain ⟨r, hr, rfl⟩ := Option.map_eq_some_iff.1 h
  have hp := List.find?_some hr
  simp only [Bool.and_eq_true, beq_iff_eq] at hp
  exact ⟨hp.1.1 ▸ List.mem_of_find?_eq_some hr, hp.1.2, hp.2⟩

/-- what an answered report of `j` for `u` leaves: `j`'s condition saved, then `upc` with the sums recomputed over the result -/
def reportedState (s : State) (u : Ups) (j : Inst) (l : Str) (q : List Item) (upc : Cond) : State :=
  let conds1 := saveCond s.conds (shardOf u) ⟨condName u j, u, j, some l, q, []⟩
  { s with conds := saveCond conds1 (shardOf u) { upc with status := calcSums (summed conds1 (shardOf u) u) } }

theorem report_cases (s : State) (u : Ups) (j : Inst) (ri : List (Str × Kind)) (q : List Item) :
    (∃ e, report shardOf s u j ri q = (s, .err e)) ∨
    ∃ l upc, isLeader s (shardOf u) = true ∧ upc.upstream = u ∧ upc.name = stateName u ∧
      report shardOf s u j ri q = (reportedState shardOf s u j l q upc, .reported l) := by
  unfold report
  extract_lets sh name label
  by_cases hl : (!isLeader s sh) = true
  · exact Or.inl ⟨_, if_pos hl⟩
  rw [if_neg hl]
  by_cases hs : (!s.shards.contains sh) = true
  · exact Or.inl ⟨_, if_pos hs⟩
  rw [if_neg hs]
  by_cases hk : (!s.locks.contains u) = true
  · exact Or.inl ⟨_, if_pos hk⟩
  rw [if_neg hk]
  cases hupc : getCond s sh u (stateName u) with
  | none => exact Or.inl ⟨_, rfl⟩
  | some upc =>
    dsimp only
    cases hkept : keptItems upc.items ri with
    | none => exact Or.inl ⟨_, rfl⟩
    | some kept =>
      dsimp only
      by_cases hq : kept ≠ q.map (·.name)
      · exact Or.inl ⟨_, if_pos hq⟩
      · exact Or.inr ⟨label, upc, by simpa using hl, (getCond_some s sh u _ upc hupc).2.1,
          (getCond_some s sh u _ upc hupc).2.2, if_neg hq⟩

theorem report_frame (s : State) (u : Ups) (j : Inst) (ri : List (Str × Kind)) (q : List Item) :
    (report shardOf s u j ri q).1.hb = s.hb ∧ (report shardOf s u j ri q).1.fcs = s.fcs ∧
    (report shardOf s u j ri q).1.failing = s.failing := by
  rcases report_cases shardOf s u j ri q with ⟨e, h⟩ | ⟨l, upc, _, _, _, h⟩ <;> rw [h] <;> exact ⟨rfl, rfl, rfl⟩

theorem report_ok (s : State) (u : Ups) (j : Inst) (ri : List (Str × Kind)) (q : List Item) (l : Str)
    (h : (report shardOf s u j ri q).2 = .reported l) :
    isLeader s (shardOf u) = true ∧ ∃ upc, upc.upstream = u ∧ upc.name = stateName u ∧
      (report shardOf s u j ri q).1 = reportedState shardOf s u j l q upc := by
  rcases report_cases shardOf s u j ri q with ⟨e, he⟩ | ⟨l', upc, hl, hu, hn, he⟩ <;> rw [he] at h ⊢
  · cases h
  · cases h; exact ⟨hl, upc, hu, hn, rfl⟩

theorem getFlowControl_some (s : State) (sh : Nat) (u : Ups) (n : Str) (f : FC)
    (h : getFlowControl s sh u n = some f) : ∃ x ∈ s.fcs, x.1 = sh ∧ x.2.1 = u ∧ x.2.2.name = n ∧ x.2.2 = f := by
  obtain ⟨x, hx, hx2⟩ := Option.map_eq_some_iff.1 h
  have hp := List.find?_some hx
  simp only [Bool.and_eq_true, beq_iff_eq] at hp
  exact ⟨x, List.mem_of_find?_eq_some hx, hp.1.1, hp.1.2, hp.2, hx2⟩

/-- the request is refused before the flow control is touched, with an error that is neither "" nor "tooOld"; or the state
    is `mapFC … setState` on an existing max-in-flight control, "tooOld" only if `rid` is not above the recorded request id -/
theorem acquireOne_cases (j : Inst) (rid : Int) (sh : Nat) (u : Ups) (s : State) (rq : Str × Int) :
    (∃ e, acquireOne j rid sh u s rq = (s, (rq.1, false, 0, e)) ∧ e ≠ "" ∧ e ≠ "tooOld") ∨
    ∃ x ∈ s.fcs, (x.1 = sh ∧ x.2.1 = u ∧ x.2.2.name = rq.1) ∧ x.2.2.isMif = true ∧ ¬ rq.2 < 0 ∧ ∃ acc lim err,
      acquireOne j rid sh u s rq =
        ({ s with fcs := mapFC s.fcs sh u rq.1 (fun f => (setState f j rid rq.2).1) }, (rq.1, acc, lim, err)) ∧
      (err = "tooOld" → rid > 0 ∧ rid ≤ ((x.2.2.getState j).getD ⟨0, 0⟩).reqId) := by
  unfold acquireOne
  cases hf : getFlowControl s sh u rq.1 with
  | none => exact Or.inl ⟨_, rfl, by decide, by decide⟩
  | some f =>
    dsimp only
    by_cases hneg : rq.2 < 0
    · exact Or.inl ⟨_, if_pos hneg, by decide, by decide⟩
    rw [if_neg hneg]
    cases hm : f.isMif
    · exact Or.inl ⟨_, rfl, by decide, by decide⟩
    obtain ⟨x, hx, h1, h2, h3, rfl⟩ := getFlowControl_some s sh u rq.1 f hf
    refine Or.inr ⟨x, hx, ⟨h1, h2, h3⟩, hm, hneg, ?_⟩
    rw [if_neg (by decide : ¬ (!true) = true)]
    by_cases hold : (setState x.2.2 j rid rq.2).2.2.2 = true
    · rw [if_pos hold]
      obtain ⟨_, _, _, _, _, e, _, ho⟩ := setState_nonneg x.2.2 j rid rq.2 hm hneg
      exact ⟨_, _, _, rfl, fun _ => ho (by rw [e] at hold; exact hold)⟩
    rw [if_neg hold]
    by_cases hacc : (setState x.2.2 j rid rq.2).2.1 = true
    · rw [if_pos hacc]; exact ⟨_, _, _, rfl, fun h => absurd h (by decide : "" ≠ "tooOld")⟩
    · rw [if_neg hacc]; exact ⟨_, _, _, rfl, fun h => absurd h (by decide : "" ≠ "tooOld")⟩

theorem acquireLoop_inv (R : State → List (Str × Bool × Int × String) → Prop) (j : Inst) (rid : Int) (sh : Nat)
    (u : Ups) (h : ∀ s acc rq, R s acc → R (acquireOne j rid sh u s rq).1 (acc ++ [(acquireOne j rid sh u s rq).2]))
    (reqs : List (Str × Int)) :
    ∀ s acc, R s acc → R (acquireLoop j rid sh u s reqs acc).1 (acquireLoop j rid sh u s reqs acc).2 := by
  induction reqs with
  | nil => exact fun s acc hs => hs
  | cons rq rest ih => exact fun s acc hs => ih _ _ (h s acc rq hs)

theorem acquire_cases (s : State) (u : Ups) (j : Inst) (rid : Int) (reqs : List (Str × Int)) :
    (∃ e, acquire shardOf s u j rid reqs = (s, .err e)) ∨
    acquire shardOf s u j rid reqs =
      ((acquireLoop j rid (shardOf u) u s reqs []).1, .acquired (acquireLoop j rid (shardOf u) u s reqs []).2) := by
  unfold acquire
  extract_lets sh
  split
  · exact Or.inl ⟨_, rfl⟩
  split
  · exact Or.inl ⟨_, rfl⟩
  · exact Or.inr rfl

theorem acquire_inv (P : State → Prop) (s : State) (u : Ups) (j : Inst) (rid : Int) (reqs : List (Str × Int))
    (h : ∀ a n cur, P a → P { a with fcs := mapFC a.fcs (shardOf u) u n (fun f => (setState f j rid cur).1) })
    (hs : P s) : P (acquire shardOf s u j rid reqs).1 := by
  rcases acquire_cases shardOf s u j rid reqs with ⟨e, he⟩ | he <;> rw [he]
  · exact hs
  refine acquireLoop_inv (fun st _ => P st) j rid (shardOf u) u (fun a _ rq ha => ?_) reqs s [] hs
  rcases acquireOne_cases j rid (shardOf u) u a rq with ⟨e, h1, _⟩ | ⟨x, _, _, _, _, _, _, _, h1, _⟩ <;> rw [h1]
  · exact ha
  · exact h a rq.1 rq.2 ha

theorem acquire_frame (s : State) (u : Ups) (j : Inst) (rid : Int) (reqs : List (Str × Int)) :
    (acquire shardOf s u j rid reqs).1.hb = s.hb ∧ (acquire shardOf s u j rid reqs).1.failing = s.failing :=
  acquire_inv shardOf (fun st => st.hb = s.hb ∧ st.failing = s.failing) s u j rid reqs (fun _ _ _ h => h) ⟨rfl, rfl⟩

theorem burst_rule (P : State → Prop) (s : State) (u : Ups) (j : Inst) (n : Str) (st : Option IState)
    (h : ∀ st', P { s with fcs := mapFC s.fcs (shardOf u) u n (fun f => f.force j st') }) (hs : P s) :
    P (burst shardOf s u j n st) := by
  unfold burst
  extract_lets sh
  split
  · exact hs
  split
  · exact hs
  cases st with
  | none => exact hs
  | some st' => exact h st'

theorem burst_frame (s : State) (u : Ups) (j : Inst) (n : Str) (st : Option IState) :
    (burst shardOf s u j n st).hb = s.hb ∧ (burst shardOf s u j n st).failing = s.failing :=
  burst_rule shardOf (fun a => a.hb = s.hb ∧ a.failing = s.failing) s u j n st (fun _ => ⟨rfl, rfl⟩) ⟨rfl, rfl⟩

/-! ### the two clean-up passes -/

theorem of_not_deletable (s : State) (c : Cond) (hI : c.inst ≠ []) (h : deletable shardOf s c = false) :
    isLeader s (shardOf c.upstream) = false ∨ s.failing.contains c.name = true := by
  unfold deletable at h
  cases hl : isLeader s (shardOf c.upstream)
  · exact Or.inl rfl
  · cases hf : s.failing.contains c.name
    · rw [hl, hf, bne_iff_ne.2 hI] at h; cases h
    · exact Or.inr rfl

/-- what either clean-up pass does: `DeleteInstanceState(d)` for every `d` of `ds` on every flow control, `deleteCondition` on
    the conditions `pick` selects, the upstreams `gone` removed whole -/
def sweep (s : State) (hb : List (Inst × Nat)) (ds : List Inst) (pick : Cond → Bool) (gone : Nat → Ups → Bool) :
    State :=
  { s with
    hb := hb,
    clusters := s.clusters.filter (fun r => !gone r.1 r.2.1),
    conds := (s.conds.filter fun r => !(pick r.2 && deletable shardOf s r.2)).filter (fun r => !gone r.1 r.2.upstream),
    fcs := (s.fcs.map fun r => (r.1, r.2.1, dropAll ds r.2.2)).filter (fun r => !gone r.1 r.2.1) }

theorem cleanupTimeout_eq (s : State) (now : Nat) :
    cleanupTimeout shardOf s now =
      sweep shardOf s (s.hb.filter (fun p => !timedOut now p)) ((s.hb.filter (timedOut now)).map (·.1))
        (fun c => ((s.hb.filter (timedOut now)).map (·.1)).any (fun d => selects d c)) (fun _ _ => false) := by
  have ht : ∀ {α : Type} (l : List α), l.filter (fun _ => true) = l := fun l => List.filter_eq_self.2 fun _ _ => rfl
  simp only [sweep, Bool.not_false, ht]
  rfl

/-- `gone` stays abstract: all that is used of it is that it spares the listed upstreams -/
theorem cleanupUnknown_eq (s : State) :
    ∃ gone : Nat → Ups → Bool, (∀ sh u, isListed s u = true → gone sh u = false) ∧
      cleanupUnknown shardOf s = sweep shardOf s s.hb
        ((s.conds.filter fun r => unknown s r.2 && r.2.inst != []).map (·.2.inst)) (unknown s) gone := by
  refine ⟨fun sh u =>
    ((s.conds.filter fun r => unknown s r.2 && !isListed s r.2.upstream).map (·.2.upstream)).contains u &&
      !blocked (s.conds.filter fun r => !(unknown s r.2 && deletable shardOf s r.2)) s.failing sh u,
    fun sh u hu => ?_, rfl⟩
  refine Bool.and_eq_false_imp.2 fun hc => ?_
  obtain ⟨r, hr, he⟩ := List.mem_map.1 (List.contains_iff_mem.1 hc)
  have := (List.mem_filter.1 hr).2
  simp [he, hu] at this

section sweep
variable (s : State) (hb : List (Inst × Nat)) (ds : List Inst) (pick : Cond → Bool) (gone : Nat → Ups → Bool)

theorem mem_sweep_conds (r : Nat × Cond) :
    r ∈ (sweep shardOf s hb ds pick gone).conds ↔
      r ∈ s.conds ∧ (pick r.2 && deletable shardOf s r.2) = false ∧ gone r.1 r.2.upstream = false := by
  simp only [sweep, List.mem_filter, Bool.not_eq_true', and_assoc]

/-- `deleteCondition` refuses in a shard that is not led; only whole upstreams go otherwise (`hg`) -/
theorem sweep_foreignKept (b : Bool)
    (hg : ∀ r ∈ s.conds, (b = true → isListed s r.2.upstream = true) → gone r.1 r.2.upstream = false) :
    ForeignKept shardOf b s (sweep shardOf s hb ds pick gone) :=
  fun r hr hl hli => (mem_sweep_conds shardOf s hb ds pick gone r).2 ⟨hr, by simp [deletable, hl], hg r hr hli⟩

theorem mem_sweep_fcs (x : Nat × Ups × FC) :
    x ∈ (sweep shardOf s hb ds pick gone).fcs ↔
      ∃ r ∈ s.fcs, (r.1, r.2.1, dropAll ds r.2.2) = x ∧ gone r.1 r.2.1 = false := by
  simp only [sweep, List.mem_filter, List.mem_map, Bool.not_eq_true']
  exact ⟨fun ⟨⟨r, hr, e⟩, hg⟩ => ⟨r, hr, e, by subst e; exact hg⟩, fun ⟨r, hr, e, hg⟩ => ⟨⟨r, hr, e⟩, by subst e; exact hg⟩⟩

theorem sweep_allFC {P : FC → Prop} (hP : ∀ f d, P f → P (f.drop d)) (h : AllFC P s.fcs) :
    AllFC P (sweep shardOf s hb ds pick gone).fcs := by
  intro x hx
  obtain ⟨r, hr, rfl, _⟩ := (mem_sweep_fcs shardOf s hb ds pick gone x).1 hx
  exact foldl_inv P FC.drop ds (fun g d _ => hP g d) r.2.2 (h r hr)

theorem sweep_noState {d : Inst} (hd : d ∈ ds) : NoState d (sweep shardOf s hb ds pick gone) := by
  refine (noState_iff_allFC d _).2 fun x hx => ?_
  obtain ⟨r, _, rfl, _⟩ := (mem_sweep_fcs shardOf s hb ds pick gone x).1 hx
  exact noStateFC_dropAll hd r.2.2

theorem sweep_kept {i : Inst} (hi : i ∉ ds) {r : Nat × Ups × FC} (hr : r ∈ s.fcs) (hg : gone r.1 r.2.1 = false) :
    KeepsStateOf i (sweep shardOf s hb ds pick gone) r :=
  fun _ => ⟨_, (mem_sweep_fcs shardOf s hb ds pick gone _).2 ⟨r, hr, rfl, hg⟩, rfl, rfl, (touches_dropAll ds r.2.2).name,
    (touches_dropAll ds r.2.2).getState i hi⟩

end sweep

/-! ### flow controls under one step -/

section step
variable {P : FC → Prop} (hnew : ∀ sc, P (newFC sc)) (hresize : ∀ f sc, P f → P (resizeFC f sc))
include hnew hresize

theorem allFC_syncOne (sh : Nat) (u : Ups) (fcs : List (Nat × Ups × FC)) (sc : Schema) (h : AllFC P fcs) :
    AllFC P (syncOne sh u fcs sc) := by
  unfold syncOne
  split
  · exact h
  split
  · intro r hr
    rcases List.mem_append.1 hr with h1 | h1
    · exact h r h1
    · rw [List.mem_singleton.1 h1]; exact hnew sc
  split
  · exact allFC_mapFC _ _ _ _ (fun _ _ => hnew sc) h
  · exact allFC_mapFC _ _ _ _ (fun f hf => hresize f sc hf) h

theorem handle_allFC (s : State) (u : Ups) (h : AllFC P s.fcs) : AllFC P (handle shardOf s u).fcs :=
  handle_rule shardOf (fun a => AllFC P a.fcs) s u (fun _ _ p => allFC_filter p h)
    (fun sc _ => ⟨h, fun p _ =>
      allFC_filter p (foldl_inv (AllFC P) _ sc (fun a b _ => allFC_syncOne hnew hresize _ u a b) s.fcs h)⟩) h

/-- `hnew`, `hresize` (section variables) and `hdrop`: what the server does to a flow control on its own; `hset`, `hforce` are
    asked only for the instances that act in the step -/
theorem step_allFC (hdrop : ∀ f d, P f → P (f.drop d)) (s : State) (op : Op)
    (hset : ∀ j, op.isBy j = true → ∀ f rid cur, P f → P (setState f j rid cur).1)
    (hforce : ∀ j, op.isBy j = true → ∀ f st, P f → P (f.force j st))
    (h : AllFC P s.fcs) : AllFC P (step shardOf s op).1.fcs := by
  cases op with
  | report u j ri q => exact (report_frame shardOf s u j ri q).2.1 ▸ h
  | acquire u j rid reqs =>
    exact acquire_inv shardOf (fun st => AllFC P st.fcs) s u j rid reqs
      (fun _ n cur ha => allFC_mapFC _ _ _ _ (fun f => hset j (beq_self_eq_true j) f rid cur) ha) h
  | cleanupTimeout now =>
    show AllFC P (cleanupTimeout shardOf s now).fcs
    rw [cleanupTimeout_eq]; exact sweep_allFC shardOf s _ _ _ _ hdrop h
  | cleanupUnknown =>
    show AllFC P (cleanupUnknown shardOf s).fcs
    obtain ⟨gone, _, e⟩ := cleanupUnknown_eq shardOf s
    rw [e]; exact sweep_allFC shardOf s _ _ _ _ hdrop h
  | leaderCheck =>
    exact leaderCheck_inv shardOf (fun st => AllFC P st.fcs) s (fun _ ha => ha)
      (fun a u _ ha => handle_allFC shardOf hnew hresize a u ha) (fun a sh _ ha => allFC_filter _ ha) h
  | handle u => exact handle_allFC shardOf hnew hresize s u h
  | burst u j n st =>
    exact burst_rule shardOf (fun a => AllFC P a.fcs) s u j n st
      (fun st' => allFC_mapFC _ _ _ _ (fun f => hforce j (beq_self_eq_true j) f st') h) h
  | _ => exact h

end step

/-! ### histories -/

theorem run_cons (s : State) (op : Op) (ops : List Op) :
    run shardOf s (op :: ops) = run shardOf (step shardOf s op).1 ops := rfl

theorem run_append (s : State) (a b : List Op) : run shardOf s (a ++ b) = run shardOf (run shardOf s a) b :=
  List.foldl_append

theorem run_inv (P : State → Prop) (ops : List Op) (h : ∀ op ∈ ops, ∀ s, P s → P (step shardOf s op).1) (s : State)
    (hs : P s) : P (run shardOf s ops) := by
  induction ops generalizing s with
  | nil => exact hs
  | cons op t ih => exact ih (fun o ho => h o (List.mem_cons_of_mem op ho)) _ (h op List.mem_cons_self s hs)

theorem run_allFC {P : FC → Prop} (hP : Closed P) (ops : List Op) (s : State) (h : AllFC P s.fcs) :
    AllFC P (run shardOf s ops).fcs :=
  run_inv shardOf (fun st => AllFC P st.fcs) ops (fun op _ st =>
    step_allFC shardOf (hnew := hP.new) (hresize := hP.resize) (hdrop := hP.drop) st op
      (hset := fun j _ f => hP.set f j) (hforce := fun j _ f => hP.force f j)) s h

theorem step_noState {i : Inst} (s : State) (op : Op) (h : op.isBy i = false) (hs : NoState i s) :
    NoState i (step shardOf s op).1 := by
  have hij : ∀ j, op.isBy j = true → ¬ i = j := fun j hj e => by rw [← e, h] at hj; cases hj
  exact (noState_iff_allFC i _).2 (step_allFC shardOf (hnew := noStateFC_new i) (hresize := noStateFC_resize i)
    (hdrop := noStateFC_drop i) s op
    (hset := fun j hj f rid cur => (touches_setState f j rid cur).noStateFC (hij j hj))
    (hforce := fun j hj f st => (touches_force f j st).noStateFC (hij j hj)) ((noState_iff_allFC i s).1 hs))

/-! ### what an acquire or a burst of `j` keeps of the others -/

theorem othersKept_mapFC {j : Inst} {s a : State} (sh : Nat) (u : Ups) (n : Str) (g : FC → FC)
    (hg : ∀ f, Touches (· = j) f (g f)) (h : OthersKept none j s a) :
    OthersKept none j s { a with fcs := mapFC a.fcs sh u n g } :=
  fun p hp hne =>
    have ⟨hhb, hstates, hconds⟩ := h p hp hne
    ⟨hhb, fun r hr hs => holds_mapFC sh u n g (fun f => (hg f).name)
      (fun f hf => ((hg f).getState p.1 hne).trans hf) (hstates r hr hs), hconds⟩

theorem othersKept_refl (u : Option Ups) (j : Inst) (s : State) : OthersKept u j s s :=
  fun _ hp _ => ⟨hp, fun r hr _ => ⟨r, hr, rfl, rfl, rfl, rfl⟩, fun _ hr _ _ => hr⟩

/-! ### conditions: `Save`, `calculateUpstreamCondition` -/

theorem find_saveCond_self (conds : List (Nat × Cond)) (sh : Nat) (c : Cond) :
    ((saveCond conds sh c).find? fun r => r.1 == sh && r.2.upstream == c.upstream && r.2.name == c.name)
      = some (sh, c) :=
  find_upsert _ conds (sh, c) (by simp)

theorem mem_saveCond (conds : List (Nat × Cond)) (sh : Nat) (c : Cond) (r : Nat × Cond) :
    r ∈ saveCond conds sh c ↔
      (r ∈ conds ∧ ¬(r.1 = sh ∧ r.2.upstream = c.upstream ∧ r.2.name = c.name)) ∨ r = (sh, c) := by
  simp only [saveCond, List.mem_append, List.mem_filter, List.mem_singleton, Bool.not_eq_true', ← Bool.not_eq_true,
    Bool.and_eq_true, beq_iff_eq, and_assoc]

theorem mem_summed (conds : List (Nat × Cond)) (sh : Nat) (u : Ups) (c : Cond) (h : c ∈ summed conds sh u) :
    (sh, c) ∈ conds ∧ c.upstream = u ∧ c.name ≠ stateName u := by
  simp only [summed, listUpstream, List.mem_filter, List.mem_map] at h
  obtain ⟨⟨r, ⟨hr, hk⟩, rfl⟩, hn⟩ := h
  simp only [Bool.and_eq_true, beq_iff_eq] at hk
  exact ⟨hk.1 ▸ hr, hk.2, by simpa using hn⟩

theorem summed_saveCond_state (conds : List (Nat × Cond)) (sh : Nat) (u : Ups) (c : Cond)
    (hu : c.upstream = u) (hn : c.name = stateName u) : summed (saveCond conds sh c) sh u = summed conds sh u := by
  unfold summed listUpstream saveCond
  rw [List.filter_append, List.map_append, List.filter_append]
  have h2 : ((([(sh, c)] : List (Nat × Cond)).filter fun r => r.1 == sh && r.2.upstream == u).map (·.2)).filter
      (fun c => c.name != stateName u) = [] := by
    simp [hu, hn]
  rw [h2, List.append_nil, hu, hn]
  rw [List.filter_map, List.filter_map, List.filter_filter, List.filter_filter, List.filter_filter]
  congr 1
  apply List.filter_congr
  intro x _
  simp only [Function.comp, bne]
  cases (x.1 == sh) <;> cases (x.2.upstream == u) <;> cases (x.2.name == stateName u) <;> rfl

theorem sumRecorded_of_saved (s : State) (L : List (Nat × Cond)) (u : Ups) (c : Cond) (hu : c.upstream = u)
    (hn : c.name = stateName u) (hst : c.status = calcSums (summed L (shardOf u) u)) :
    SumRecorded shardOf u { s with conds := saveCond L (shardOf u) c } := by
  have h := find_saveCond_self L (shardOf u) c
  rw [hu, hn] at h
  unfold SumRecorded getCond
  rw [h]
  simp only [Option.map_some, summed_saveCond_state L (shardOf u) u c hu hn, hst]
  exact ⟨fun _ h => h, fun _ h => h⟩

/-! ### an acquire records under the acquiring id -/

/-- what the judge asks of an acquire of `i` is the invariant of its loop over the requests -/
theorem acquireOne_recorded (i : Inst) (rid : Int) (u : Ups) (s : State) (rq : Str × Int)
    (acc : List (Str × Bool × Int × String)) (h : AcquireRecorded shardOf u i acc s) :
    AcquireRecorded shardOf u i (acc ++ [(acquireOne i rid (shardOf u) u s rq).2])
      (acquireOne i rid (shardOf u) u s rq).1 := by
  intro r hr herr
  rcases acquireOne_cases i rid (shardOf u) u s rq with
    ⟨e, he, hne, _⟩ | ⟨x, hx, ⟨hx1, hx2, hx3⟩, hm, hneg, _, _, _, he, _⟩ <;> rw [he] at hr ⊢ <;>
    rcases List.mem_append.1 hr with h1 | h1
  · exact h r h1 herr
  · rw [List.mem_singleton.1 h1] at herr; exact absurd herr hne
  · refine holds_mapFC (Q := fun f => f.getState i ≠ none) _ u rq.1 _ (fun f => (touches_setState f i rid rq.2).name)
      (fun g hs => ?_) (h r h1 herr)
    cases hg : g.isMif
    · rw [setState_of_not_mif g i rid rq.2 hg]; exact hs
    · exact setState_has g i rid rq.2 hneg hg
  · rw [List.mem_singleton.1 h1]
    refine ⟨(x.1, x.2.1, (setState x.2.2 i rid rq.2).1), List.mem_map.2 ⟨x, hx, if_pos ?_⟩, hx1, hx2,
      (touches_setState _ i rid rq.2).name.trans hx3, setState_has _ i rid rq.2 hneg hm⟩
    simp [hx1, hx2, hx3]

/-! ### upstream events and leadership changes -/

theorem updateUpstreamStateCondition_key (upc : Option Cond) (u : Ups) (sc : List Schema)
    (h : ∀ c, upc = some c → c.upstream = u ∧ c.name = stateName u) :
    (updateUpstreamStateCondition upc u sc).upstream = u ∧ (updateUpstreamStateCondition upc u sc).name = stateName u := by
  cases upc with
  | none => exact ⟨rfl, rfl⟩
  | some c => exact h c rfl

/-- `hne`: `r` is not what the event rewrites (the state condition of `u`) or deletes (every condition of an unlisted `u`) -/
theorem handle_keeps_conds (s : State) (u : Ups) (r : Nat × Cond) (hr : r ∈ s.conds)
    (hne : ¬(r.1 = shardOf u ∧ r.2.upstream = u ∧ (isListed s u = false ∨ r.2.name = stateName u))) :
    r ∈ (handle shardOf s u).conds := by
  refine handle_rule shardOf (fun a => r ∈ a.conds) s u
    (fun hl _ _ => List.mem_filter.2 ⟨hr, bnot_eq_true fun hp => ?_⟩) (fun sc _ => ?_) hr
  · simp only [Bool.and_eq_true, beq_iff_eq] at hp
    exact hne ⟨hp.1, hp.2, Or.inl hl⟩
  · have hk := updateUpstreamStateCondition_key (getCond s (shardOf u) u (stateName u)) u sc
      (fun c hc => (getCond_some s _ _ _ c hc).2)
    have hsaved := (mem_saveCond _ _ _ r).2 (Or.inl ⟨hr, fun hk2 =>
      hne ⟨hk2.1, hk2.2.1.trans hk.1, Or.inr (hk2.2.2.trans hk.2)⟩⟩)
    exact ⟨hsaved, fun _ _ => hsaved⟩

/-! ### one step of a history: the heartbeat table and the fault environment -/

theorem step_env (s : State) (op : Op) :
    ((step shardOf s op).1.hb = s.hb ∨ (∃ i t, op = .heartbeat i t) ∨ ∃ now, op = .cleanupTimeout now) ∧
    ((step shardOf s op).1.failing = s.failing ∨ ∃ l, op = .faults l) := by
  cases op with
  | heartbeat i t => exact ⟨Or.inr (Or.inl ⟨i, t, rfl⟩), Or.inl rfl⟩
  | report u j ri q => exact ⟨Or.inl (report_frame shardOf s u j ri q).1, Or.inl (report_frame shardOf s u j ri q).2.2⟩
  | acquire u j rid reqs =>
    exact ⟨Or.inl (acquire_frame shardOf s u j rid reqs).1, Or.inl (acquire_frame shardOf s u j rid reqs).2⟩
  | cleanupTimeout now => exact ⟨Or.inr (Or.inr ⟨now, rfl⟩), Or.inl rfl⟩
  | leaderCheck =>
    have := leaderCheck_inv shardOf (fun st => st.hb = s.hb ∧ st.failing = s.failing) s (fun _ ha => ha)
      (fun a u _ ha => ⟨(handle_frame shardOf a u).1.trans ha.1, (handle_frame shardOf a u).2.trans ha.2⟩)
      (fun _ _ _ ha => ha) ⟨rfl, rfl⟩
    exact ⟨Or.inl this.1, Or.inl this.2⟩
  | handle u => exact ⟨Or.inl (handle_frame shardOf s u).1, Or.inl (handle_frame shardOf s u).2⟩
  | burst u j n st => exact ⟨Or.inl (burst_frame shardOf s u j n st).1, Or.inl (burst_frame shardOf s u j n st).2⟩
  | faults names => exact ⟨Or.inl rfl, Or.inr ⟨names, rfl⟩⟩
  | _ => exact ⟨Or.inl rfl, Or.inl rfl⟩

/-- `h` holds of every history of a server with the local store -/
theorem run_failing (ops : List Op) (h : ∀ op ∈ ops, ∀ l, op ≠ .faults l) (s : State) :
    (run shardOf s ops).failing = s.failing :=
  run_inv shardOf (fun st => st.failing = s.failing) ops
    (fun op ho st hst => ((step_env shardOf st op).2.resolve_right fun ⟨l, e⟩ => h op ho l e).trans hst) s rfl

theorem hbHas_iff (s : State) (i : Inst) : hbHas s i = true ↔ ∃ p ∈ s.hb, p.1 = i := by
  simp only [hbHas, List.any_eq_true, beq_iff_eq]

theorem heartbeat_recorded (s : State) (i : Inst) (t : Nat) : HeartbeatRecorded i t s (heartbeat s i t) := by
  refine ⟨List.mem_append_right _ (List.mem_singleton.2 rfl), fun p hp hi => ?_,
    fun p hp hne => List.mem_append_left _ (List.mem_filter.2 ⟨hp, bne_iff_ne.2 hne⟩), fun p hp hne => ?_⟩
  · rcases List.mem_append.1 hp with h | h
    · simp [hi] at h
    · rw [List.mem_singleton.1 h]
  · rcases List.mem_append.1 hp with h | h
    · exact (List.mem_filter.1 h).1
    · rw [List.mem_singleton.1 h] at hne; exact absurd rfl hne

/-- a step in which `i` takes no part gives `i` no heartbeat entry, and only the time-out pass takes one away -/
theorem quiet_step_hb {i : Inst} (s : State) (op : Op) (h : op.isBy i = false) :
    (∀ p ∈ (step shardOf s op).1.hb, p.1 = i → p ∈ s.hb) ∧
    ((∀ now, op ≠ .cleanupTimeout now) → ∀ p ∈ s.hb, p.1 = i → p ∈ (step shardOf s op).1.hb) := by
  rcases (step_env shardOf s op).1 with e | ⟨j, t, rfl⟩ | ⟨now, rfl⟩
  · rw [e]; exact ⟨fun _ hp _ => hp, fun _ _ hp _ => hp⟩
  · have hj : ∀ p : Inst × Nat, p.1 = i → p.1 ≠ j := fun p hp e => by simp [Op.isBy, ← e, hp] at h
    obtain ⟨-, -, hkept, hold⟩ := heartbeat_recorded s j t
    exact ⟨fun p hp hi => hold p hp (hj p hi), fun _ p hp hi => hkept p hp (hj p hi)⟩
  · exact ⟨fun p hp _ => (List.mem_filter.1 hp).1, fun hop => absurd rfl (hop now)⟩

theorem noHb_cleanupTimeout (s : State) (now : Nat) (i : Inst) :
    NoHb i (cleanupTimeout shardOf s now) ↔ ∀ p ∈ s.hb, p.1 = i → timedOut now p = true := by
  refine ⟨fun h p hp hi => ?_, fun h p hp hi => ?_⟩
  · cases hto : timedOut now p
    · exact absurd hi (h p (List.mem_filter.2 ⟨hp, by rw [hto]; rfl⟩))
    · rfl
  · have hp' := (List.mem_filter.1 hp).2
    rw [h p (List.mem_filter.1 hp).1 hi] at hp'; cases hp'

theorem mem_dead {s : State} {now : Nat} {q : Inst × Nat} (hq : q ∈ s.hb) (ht : timedOut now q = true) :
    q.1 ∈ (s.hb.filter (timedOut now)).map (·.1) :=
  List.mem_map.2 ⟨q, List.mem_filter.2 ⟨hq, ht⟩, rfl⟩

/-- one timed-out entry is enough for the time-out pass to forget the in-flight states of its instance -/
theorem cleanupTimeout_drops {s : State} {now : Nat} {q : Inst × Nat} (hq : q ∈ s.hb) (ht : timedOut now q = true) :
    NoState q.1 (cleanupTimeout shardOf s now) := by
  rw [cleanupTimeout_eq]
  exact sweep_noState shardOf s _ _ _ _ (mem_dead hq ht)

theorem forgotten_run {i : Inst} (ops : List Op) (hq : Quiet i ops) (s : State) (h : NoHb i s ∧ NoState i s) :
    NoHb i (run shardOf s ops) ∧ NoState i (run shardOf s ops) :=
  run_inv shardOf (fun st => NoHb i st ∧ NoState i st) ops (fun op ho st hst =>
    ⟨fun p hp hi => hst.1 p ((quiet_step_hb shardOf st op (hq op ho)).1 p hp hi) hi,
      step_noState shardOf st op (hq op ho) hst.2⟩) s h

/-- carried from the last heartbeat of `i` (at `t0`) while `i` is silent; the pass that takes the entry takes the states -/
def LastSeen (i : Inst) (t0 : Nat) (s : State) : Prop :=
  (∀ p ∈ s.hb, p.1 = i → p.2 = t0) ∧ ((∃ p ∈ s.hb, p.1 = i) ∨ NoState i s)

theorem lastSeen_step {i : Inst} {t0 : Nat} (s : State) (op : Op) (hop : op.isBy i = false)
    (h : LastSeen i t0 s) : LastSeen i t0 (step shardOf s op).1 := by
  refine ⟨fun p hp hi => h.1 p ((quiet_step_hb shardOf s op hop).1 p hp hi) hi, ?_⟩
  rcases h.2 with ⟨p, hp, hi⟩ | hn
  · by_cases hct : ∃ now, op = .cleanupTimeout now
    · obtain ⟨now, rfl⟩ := hct
      cases ht : timedOut now p
      · exact Or.inl ⟨p, List.mem_filter.2 ⟨hp, by rw [ht]; rfl⟩, hi⟩
      · exact Or.inr (hi ▸ cleanupTimeout_drops shardOf hp ht)
    · exact Or.inl ⟨p, (quiet_step_hb shardOf s op hop).2 (fun now e => hct ⟨now, e⟩) p hp hi, hi⟩
  · exact Or.inr (step_noState shardOf s op hop hn)

theorem lastSeen_heartbeat (s : State) (i : Inst) (t0 : Nat) : LastSeen i t0 (heartbeat s i t0) :=
  ⟨(heartbeat_recorded s i t0).2.1, Or.inl ⟨(i, t0), (heartbeat_recorded s i t0).1, rfl⟩⟩

theorem forgotten_after_timeout {i : Inst} {t0 : Nat} (s : State) (hs : LastSeen i t0 s) (now : Nat) (ops : List Op)
    (hq : Quiet i ops) (hnow : t0 + timeout < now) :
    NoHb i (cleanupTimeout shardOf (run shardOf s ops) now) ∧
    NoState i (cleanupTimeout shardOf (run shardOf s ops) now) := by
  have hls := run_inv shardOf (LastSeen i t0) ops (fun op ho st => lastSeen_step shardOf st op (hq op ho)) s hs
  have hno : NoHb i (cleanupTimeout shardOf (run shardOf s ops) now) :=
    (noHb_cleanupTimeout shardOf _ now i).2 fun p hp hi => decide_eq_true (hls.1 p hp hi ▸ hnow)
  exact ⟨hno, (lastSeen_step shardOf _ (.cleanupTimeout now) rfl hls).2.resolve_left fun ⟨p, hp, hi⟩ => hno p hp hi⟩

end ops

end KG.Lemmas.Reclaim
