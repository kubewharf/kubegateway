import KG.Model.MaxInflight
/-! The invariant `SInv` of the lock-free counter is kept by every atomic step (DESIGN.md Appendix A): under it a step is one of
    the eight cases of `Step` (`step_cases`), and a thread that moves keeps it by `SInv.move`. The bounds read `Step`. -/
namespace KG.Lemmas.MaxInflight
open KG.Model.MaxInflight

theorem setPc_same (s : Sys) (t : Tid) (p : PC) : setPc s t p t = p := by simp [setPc]
theorem setPc_other (s : Sys) (t u : Tid) (p : PC) (h : u ≠ t) : setPc s t p u = s.pc u := by
  simp [setPc, h]

theorem setPc_setPc (s : Sys) (t : Tid) (p q : PC) (c : Int) (m : Nat) (H P : List Tid) :
    setPc ⟨c, m, setPc s t p, H, P⟩ t q = setPc s t q := by
  funext u
  unfold setPc
  split
  · rfl
  · next hu => exact if_neg hu

/-- The invariant: the counter is the admitted-and-unfinished requests plus the overshoots about to be rolled back, and the
    clamp-to-zero store and the CAS branch are unreachable for well-formed clients. -/
structure SInv (s : Sys) : Prop where
  cnt  : s.count = s.holders.length + s.pending.length
  nh   : s.holders.Nodup
  np   : s.pending.Nodup
  hold : ∀ t, t ∈ s.holders ↔ (s.pc t = .holding ∨ s.pc t = .rel1)
  pend : ∀ t, t ∈ s.pending ↔ s.pc t = .rollback
  noRel2 : ∀ t, s.pc t ≠ .rel2
  acqNonneg : ∀ t c0, s.pc t = .acq1 c0 → 0 ≤ c0
  noCas : ∀ t c0 m, s.pc t ≠ .cas c0 m

theorem inv_init (m : Nat) : SInv (init m) := by
  constructor <;> simp [init]

theorem count_nonneg {s : Sys} (hi : SInv s) : 0 ≤ s.count := by
  have := hi.cnt; omega

theorem count_pos {s : Sys} (hi : SInv s) {t : Tid} (h : t ∈ s.holders) : 0 < s.count := by
  have := hi.cnt
  have := List.length_pos_of_mem h
  omega

/-- a holder that starts its `Release` does not take the `if f.count <= 0 { return }` exit -/
theorem holding_count_pos {s : Sys} (hi : SInv s) {t : Tid} (h : s.pc t = .holding) : 0 < s.count :=
  count_pos hi ((hi.hold t).2 (Or.inl h))

/-- The graph of `stepThread` in a state that satisfies the invariant (`step_cases`): the CAS branch, the early return of
    `Release` and the clamp to zero are not taken. -/
inductive Step (s : Sys) (t : Tid) : Sys × Out → Prop
  | start (h : s.pc t = .idle) : Step s t ({ s with pc := setPc s t (.acq1 s.count) }, .none)
  | full {c0 : Int} (h : s.pc t = .acq1 c0) (hf : c0 ≥ (s.max : Int)) : Step s t ({ s with pc := setPc s t .idle }, .rejected)
  | free {c0 : Int} (h : s.pc t = .acq1 c0) (hf : ¬ c0 ≥ (s.max : Int)) :
      Step s t ({ s with pc := setPc s t (.adding s.max) }, .none)
  | over {m : Int} (h : s.pc t = .adding m) (ho : s.count + 1 > m) :
      Step s t ({ s with count := s.count + 1, pc := setPc s t .rollback, pending := t :: s.pending }, .none)
  | admitted {m : Int} (h : s.pc t = .adding m) (ho : ¬ s.count + 1 > m) :
      Step s t ({ s with count := s.count + 1, pc := setPc s t .holding, holders := t :: s.holders }, .admitted)
  | rollback (h : s.pc t = .rollback) :
      Step s t ({ s with count := s.count - 1, pc := setPc s t .idle, pending := s.pending.erase t }, .rejected)
  | relCheck (h : s.pc t = .holding) : Step s t ({ s with pc := setPc s t .rel1 }, .none)
  | released (h : s.pc t = .rel1) :
      Step s t ({ s with count := s.count - 1, pc := setPc s t .idle, holders := s.holders.erase t }, .released)

theorem step_cases {s : Sys} (hi : SInv s) (t : Tid) : Step s t (stepThread s t) := by
  unfold stepThread
  split
  · next h => exact .start h
  · next c0 h =>
    rw [if_neg (Int.not_lt.2 (hi.acqNonneg t c0 h))]
    split
    · next hf => exact .full h hf
    · next hf => exact .free h hf
  · next c0 m h => exact absurd h (hi.noCas t c0 m)
  · next m h =>
    split
    · next ho => exact .over h ho
    · next ho => exact .admitted h ho
  · next h => exact .rollback h
  · next h =>
    rw [if_neg (Int.not_le.2 (holding_count_pos hi h))]
    exact .relCheck h
  · next h =>
    have := count_pos hi ((hi.hold t).2 (Or.inr h))
    rw [if_neg (by omega)]
    exact .released h
  · next h => exact absurd h (hi.noRel2 t)

/-- per-field case split on `u = t` -/
macro "pcsplit " u:ident t:ident : tactic =>
  `(tactic| (by_cases hut : $u = $t
             · subst hut; simp_all [setPc_same]
             · simp_all [setPc_other]))

/-- Where a thread of a well-formed client can be (`SInv.noCas`, `noRel2`, `acqNonneg`). -/
def Allowed : PC → Prop
  | .rel2 => False
  | .cas _ _ => False
  | .acq1 c0 => 0 ≤ c0
  | _ => True

/-- Thread `t` moves to `p`: what the invariant says about the other threads is inherited. -/
theorem SInv.move {s : Sys} (hi : SInv s) (t : Tid) (p : PC) (c : Int) (H P : List Tid)
    (hc : c = H.length + P.length) (hnh : H.Nodup) (hnp : P.Nodup)
    (hH : ∀ u, u ≠ t → (u ∈ H ↔ u ∈ s.holders)) (hHt : t ∈ H ↔ (p = .holding ∨ p = .rel1))
    (hP : ∀ u, u ≠ t → (u ∈ P ↔ u ∈ s.pending)) (hPt : t ∈ P ↔ p = .rollback)
    (hp : Allowed p) : SInv { s with count := c, pc := setPc s t p, holders := H, pending := P } := by
  refine ⟨hc, hnh, hnp, fun u => ?_, fun u => ?_, fun u => ?_, fun u => ?_, fun u => ?_⟩ <;>
    by_cases hu : u = t
  · subst hu; simpa only [setPc_same] using hHt
  · simpa only [setPc_other _ _ _ _ hu] using (hH u hu).trans (hi.hold u)
  · subst hu; simpa only [setPc_same] using hPt
  · simpa only [setPc_other _ _ _ _ hu] using (hP u hu).trans (hi.pend u)
  -- `Allowed .rel2` and `Allowed (.cas _ _)` are `False`, `Allowed (.acq1 c0)` is `0 ≤ c0`
  · subst hu; simp only [setPc_same]; exact fun e => (e ▸ hp : Allowed .rel2)
  · simpa only [setPc_other _ _ _ _ hu] using hi.noRel2 u
  · subst hu; simp only [setPc_same]; exact fun c0 e => (e ▸ hp : Allowed (.acq1 c0))
  · simpa only [setPc_other _ _ _ _ hu] using hi.acqNonneg u
  · subst hu; simp only [setPc_same]; exact fun c0 m e => (e ▸ hp : Allowed (.cas c0 m))
  · simpa only [setPc_other _ _ _ _ hu] using hi.noCas u

theorem inv_stepThread {s : Sys} (hi : SInv s) (t : Tid) : SInv (stepThread s t).1 := by
  have hc := hi.cnt
  have same : ∀ {L : List Tid} (u : Tid), u ≠ t → (u ∈ L ↔ u ∈ L) := fun _ _ => Iff.rfl
  have cons : ∀ {L : List Tid} (u : Tid), u ≠ t → (u ∈ t :: L ↔ u ∈ L) := fun _ hu => List.mem_cons.trans (or_iff_right hu)
  have erase : ∀ {L : List Tid} (u : Tid), u ≠ t → (u ∈ L.erase t ↔ u ∈ L) := fun _ hu => List.mem_erase_of_ne hu
  have hh := hi.hold t
  have hp := hi.pend t
  have hs := step_cases hi t
  generalize stepThread s t = r at hs ⊢
  cases hs with
  | start h =>
    exact hi.move t _ s.count s.holders s.pending hc hi.nh hi.np same (by simpa [h] using hh) same (by simpa [h] using hp)
      (count_nonneg hi)
  | full h _ | free h _ | relCheck h =>
    -- only the program counter of `t` changes, and `t` stays a holder or stays none
    exact hi.move t _ s.count s.holders s.pending hc hi.nh hi.np same (by simpa [h] using hh) same (by simpa [h] using hp)
      trivial
  | over h _ =>
    exact hi.move t _ _ s.holders (t :: s.pending) (by simp only [List.length_cons]; omega) hi.nh
      (List.nodup_cons.2 ⟨by simpa [h] using hp, hi.np⟩) same (by simpa [h] using hh) cons (by simp) trivial
  | admitted h _ =>
    exact hi.move t _ _ (t :: s.holders) s.pending (by simp only [List.length_cons]; omega)
      (List.nodup_cons.2 ⟨by simpa [h] using hh, hi.nh⟩) hi.np cons (by simp) same (by simpa [h] using hp) trivial
  | rollback h =>
    have hmem : t ∈ s.pending := hp.2 h
    have := List.length_erase_of_mem hmem
    have := List.length_pos_of_mem hmem
    exact hi.move t _ _ s.holders (s.pending.erase t) (by omega) hi.nh (hi.np.erase t) same (by simpa [h] using hh)
      erase (by simpa using hi.np.not_mem_erase) trivial
  | released h =>
    have hmem : t ∈ s.holders := hh.2 (Or.inr h)
    have := List.length_erase_of_mem hmem
    have := List.length_pos_of_mem hmem
    exact hi.move t _ _ (s.holders.erase t) s.pending (by omega) (hi.nh.erase t) hi.np
      erase (by simpa using hi.nh.not_mem_erase) same (by simpa [h] using hp) trivial

theorem inv_step {s : Sys} (hi : SInv s) (e : Ev) : SInv (step s e).1 := by
  cases e with
  | step t => exact inv_stepThread hi t
  | resize n => exact { hi with }

theorem inv_run {s : Sys} (hi : SInv s) (es : List Ev) : SInv (run s es) := by
  induction es generalizing s with
  | nil => exact hi
  | cons e es ih => exact ih (inv_step hi e)

theorem inv_reachable {s : Sys} (h : Reachable s) : SInv s := by
  obtain ⟨m, es, rfl⟩ := h
  exact inv_run (inv_init m) es

/-! ## Admission bound -/

/-- a step either admits nobody and does not lengthen `holders`, or it is the `Add(+1)` of a thread carrying `m` and leaves
    `|holders| ≤ m`; the three bounds read this -/
theorem holders_stepThread {s : Sys} (hi : SInv s) (t : Tid) :
    ((stepThread s t).2 ≠ .admitted ∧ (stepThread s t).1.holders.length ≤ s.holders.length) ∨
    ∃ m : Int, s.pc t = .adding m ∧ (stepThread s t).1.holders = t :: s.holders ∧ ((t :: s.holders).length : Int) ≤ m := by
  have hc := hi.cnt
  have hs := step_cases hi t
  generalize stepThread s t = r at hs ⊢
  cases hs with
  | admitted h ho => exact Or.inr ⟨_, h, rfl, by simp only [List.length_cons]; omega⟩
  | released _ => exact Or.inl ⟨nofun, List.length_erase_le⟩
  | _ => exact Or.inl ⟨nofun, Nat.le_refl _⟩

theorem admit_bound {s : Sys} (hi : SInv s) (t : Tid) (h : (stepThread s t).2 = .admitted) :
    ∃ m : Int, s.pc t = .adding m ∧ ((stepThread s t).1.holders.length : Int) ≤ m := by
  rcases holders_stepThread hi t with ⟨hn, _⟩ | ⟨m, hpc, hH, hle⟩
  · exact absurd h hn
  · exact ⟨m, hpc, hH ▸ hle⟩

/-- the only limit value a step loads is the one in force -/
theorem stepThread_pc {s : Sys} (hi : SInv s) (t : Tid) : ∃ p, (stepThread s t).1.pc = setPc s t p ∧
    (stepThread s t).1.max = s.max ∧ ∀ m, p = .adding m → m = s.max := by
  have hs := step_cases hi t
  generalize stepThread s t = r at hs ⊢
  cases hs with
  | free _ _ => exact ⟨_, rfl, rfl, fun m h => (PC.adding.inj h).symm⟩
  | _ => exact ⟨_, rfl, rfl, nofun⟩

/-- The limit values in play, that is the limit in force and every value a thread of `T` has loaded and still carries,
    satisfy `R`. -/
def Limits (R : Int → Prop) (T : Tid → Prop) (s : Sys) : Prop := R s.max ∧ ∀ t m, T t → s.pc t = .adding m → R m

theorem limits_stepThread {R : Int → Prop} {T : Tid → Prop} {s : Sys} (hi : SInv s) (h : Limits R T s) (u : Tid) :
    Limits R T (stepThread s u).1 := by
  obtain ⟨p, hpc, hmax, hp⟩ := stepThread_pc hi u
  refine ⟨hmax.symm ▸ h.1, fun t m hT hm => ?_⟩
  rw [hpc] at hm
  by_cases ht : t = u
  · -- the thread that stepped: a value it carries now is the limit in force
    exact hp m (setPc_same s u p ▸ ht ▸ hm) ▸ h.1
  · exact h.2 t m hT (setPc_other s u t p ht ▸ hm)

abbrev Cap (M : Nat) : Sys → Prop := Limits (· ≤ (M : Int)) fun _ => True

theorem cap_init {m M : Nat} (h : m ≤ M) : Cap M (init m) :=
  ⟨Int.ofNat_le.2 h, nofun⟩

/-- Every `resize` event of the schedule sets a limit `≤ M`. -/
def ResizesLe (M : Nat) : List Ev → Prop
  | [] => True
  | .step _ :: es => ResizesLe M es
  | .resize n :: es => n ≤ M ∧ ResizesLe M es

theorem bound_run {M : Nat} {s : Sys} (hi : SInv s) (hc : Cap M s) (hb : s.holders.length ≤ M)
    (es : List Ev) (hr : ResizesLe M es) : (run s es).holders.length ≤ M := by
  induction es generalizing s with
  | nil => exact hb
  | cons e es ih =>
    cases e with
    | step t =>
      refine ih (inv_stepThread hi t) (limits_stepThread hi hc t) ?_ hr
      show (stepThread s t).1.holders.length ≤ M
      rcases holders_stepThread hi t with ⟨_, h⟩ | ⟨m, hpc, hH, hle⟩
      · exact Nat.le_trans h hb
      · have := hc.2 t m trivial hpc
        rw [hH]; omega
    | resize n =>
      exact ih (inv_step hi (.resize n)) ⟨Int.ofNat_le.2 hr.1, hc.2⟩ hb hr.2

/-! ## Resize semantics: a call that starts after the limit became `M'` uses `M'` -/

abbrev UpToDate (M' : Nat) (t : Tid) : Sys → Prop := Limits (· = (M' : Int)) (· = t)

def NoResize : List Ev → Prop
  | [] => True
  | .step _ :: es => NoResize es
  | .resize _ :: _ => False

/-- Along `es` from `s`, every step of thread `t` that admits leaves at most `M'` holders. -/
def AdmitsWithin (M' : Nat) (t : Tid) : Sys → List Ev → Prop
  | _, [] => True
  | s, e :: es =>
    (e = .step t → (step s e).2 = .admitted → (step s e).1.holders.length ≤ M') ∧ AdmitsWithin M' t (step s e).1 es

theorem resize_run {M' : Nat} {t : Tid} {s : Sys} (hi : SInv s) (hf : UpToDate M' t s)
    (es : List Ev) (hn : NoResize es) : AdmitsWithin M' t s es := by
  induction es generalizing s with
  | nil => trivial
  | cons e es ih =>
    cases e with
    | resize n => exact absurd hn (by simp [NoResize])
    | step u =>
      refine ⟨?_, ih (inv_stepThread hi u) (limits_stepThread hi hf u) hn⟩
      intro he hadm
      injection he with he; subst he
      obtain ⟨m, hpc, hle⟩ := admit_bound hi u hadm
      have := hf.2 u m rfl hpc
      show (stepThread s u).1.holders.length ≤ M'
      omega

/-! ## No leak -/

theorem quiescent_count {s : Sys} (hi : SInv s) (hq : Quiescent s) : s.count = s.holders.length := by
  have hp : s.pending = [] := by
    cases hpd : s.pending with
    | nil => rfl
    | cons x xs =>
      have hx : x ∈ s.pending := by simp [hpd]
      have := (hi.pend x).1 hx
      rcases hq x with h | h <;> simp [h] at this
  have := hi.cnt
  simp [hp] at this; exact this

/-! ## The same code under sequential use -/

theorem counter_tryAcquire_eq (cnt : Counter) (h : 0 ≤ cnt.count) :
    cnt.tryAcquire = if cnt.count < (cnt.max : Int) then ({ cnt with count := cnt.count + 1 }, true) else (cnt, false) := by
  unfold Counter.tryAcquire
  rw [if_neg (by omega : ¬ cnt.count < 0)]
  by_cases h2 : cnt.count < (cnt.max : Int)
  · rw [if_pos h2, if_neg (by omega : ¬ cnt.count ≥ (cnt.max : Int)), if_neg (by omega : ¬ cnt.count + 1 > (cnt.max : Int))]
  · rw [if_neg h2, if_pos (by omega : cnt.count ≥ (cnt.max : Int))]

theorem counter_release_eq (c : Counter) (h : 0 < c.count) : c.release = { c with count := c.count - 1 } := by
  unfold Counter.release
  rw [if_neg (by omega : ¬ c.count ≤ 0), if_neg (by omega : ¬ c.count - 1 < 0)]

/-- `runCall s t 4`: a complete `TryAcquire` by `t` with nobody else running. -/
theorem runCall_tryAcquire {s : Sys} (hi : SInv s) (t : Tid) (hpc : s.pc t = .idle) :
    runCall s t 4 = if s.count < (s.max : Int) then
        ({ s with count := s.count + 1, pc := setPc s t .holding, holders := t :: s.holders }, .admitted)
      else ({ s with pc := setPc s t .idle }, .rejected) := by
  have h0 := count_nonneg hi
  have hlt : ¬ s.count < 0 := by omega
  by_cases hfree : s.count < (s.max : Int)
  · have hfull : ¬ s.count ≥ (s.max : Int) := by omega
    have h1 : ¬ s.count + 1 > (s.max : Int) := by omega
    simp [runCall, stepThread, hpc, setPc_same, hlt, hfull, h1, hfree, setPc_setPc]
  · have hfull : s.count ≥ (s.max : Int) := by omega
    simp [runCall, stepThread, hpc, setPc_same, hlt, hfull, hfree, setPc_setPc]

/-- `runCall s t 3`: a complete `Release`; the sequential `Counter.release` does the same to the count (`counter_release_eq`) -/
theorem runCall_release {s : Sys} (hi : SInv s) (t : Tid) (hpc : s.pc t = .holding) :
    runCall s t 3 = ({ s with count := s.count - 1, pc := setPc s t .idle, holders := s.holders.erase t }, .released) := by
  have hpos := holding_count_pos hi hpc
  have hgt : ¬ s.count ≤ 0 := by omega
  have hge : ¬ s.count - 1 < 0 := by omega
  simp [runCall, stepThread, hpc, setPc_same, hgt, hge, setPc_setPc]

/-! ## many objects: each one only sees the events addressed to it -/

theorem heap_run_proj (h : Heap) (es : List (Nat × Ev)) (o : Nat) :
    (Heap.run h es).objs o = run (h.objs o) (eventsOf o es) := by
  induction es generalizing h with
  | nil => rfl
  | cons pe es ih =>
    obtain ⟨p, e⟩ := pe
    simp only [Heap.run, eventsOf]
    rw [ih]
    by_cases hp : p = o
    · subst hp; simp [Heap.step, run]
    · have : ¬ o = p := fun hh => hp hh.symm
      simp [Heap.step, hp, this]

end KG.Lemmas.MaxInflight
