import KG.Spec.Endpoints
import KG.Lemmas.Lists
/-! C03 rests on the simulation `Sim` with the abstract state of `KG.Spec.Endpoints`, kept by every op (`sim_step`); for it
    `syncEndpoints` is read as a finite function (`load_syncEndpoints`).  C14 rests on the cursor law of `Pop` (`pop_cursor`), the
    potential it feeds (`popMany_potential`) and the invariant `CInv` that linearises concurrent pickers. -/
namespace KG.Lemmas.Endpoints
open KG KG.Model.Endpoints KG.Spec.Endpoints

/-- `P b` is a full statement about the code, `b` a Boolean fact read from the source. Proved for `v` and refuted by a witness
    for the other value, it holds exactly when the fact is `v`: that is where the current code stands. -/
theorem iff_eq_of_bool {P : Bool → Prop} {v : Bool} (hv : P v) (hn : ¬ P (!v)) (b : Bool) : P b ↔ b = v := by
  by_cases h : b = v
  · subst h; exact ⟨fun _ => rfl, fun _ => hv⟩
  · have : b = !v := by cases b <;> cases v <;> simp_all
    subst this; exact ⟨fun hp => absurd hp hn, fun e => absurd e h⟩

/-! ## `load` / `updateAt` -/

theorem load_nil (n : Name) : load [] n = none := rfl

theorem load_cons (e : EP) (eps : List EP) (n : Name) :
    load (e :: eps) n = if e.name = n then some e else load eps n := by
  unfold load
  by_cases h : e.name = n <;> simp [h]

theorem load_some_name {eps : List EP} {n : Name} {e : EP} (h : load eps n = some e) : e.name = n := by
  simpa [load] using List.find?_some h

theorem load_some_mem {eps : List EP} {n : Name} {e : EP} (h : load eps n = some e) : e ∈ eps :=
  List.mem_of_find?_eq_some h

theorem load_none_iff {eps : List EP} {n : Name} : load eps n = none ↔ n ∉ eps.map (·.name) := by
  rw [load, List.find?_eq_none]
  simp

theorem load_isSome_iff {eps : List EP} {n : Name} : (load eps n).isSome = true ↔ n ∈ eps.map (·.name) := by
  rw [← Option.ne_none_iff_isSome, ne_eq, load_none_iff, Decidable.not_not]

theorem load_of_mem_nodup {eps : List EP} (hnd : (eps.map (·.name)).Nodup) {e : EP} (he : e ∈ eps) :
    load eps e.name = some e := by
  induction eps with
  | nil => cases he
  | cons x rest ih =>
    rw [load_cons]
    simp only [List.map_cons, List.nodup_cons] at hnd
    rcases List.mem_cons.1 he with h | h
    · subst h; simp
    · have hne : x.name ≠ e.name := fun hx => hnd.1 (hx ▸ List.mem_map.2 ⟨e, h, rfl⟩)
      simp [hne, ih hnd.2 h]

theorem load_updateAt (eps : List EP) (n m : Name) (f : EP → EP) (hf : ∀ e, (f e).name = e.name) :
    load (updateAt eps n f) m = if m = n then (load eps n).map f else load eps m := by
  induction eps with
  | nil => simp [updateAt, load_nil]
  | cons e eps ih =>
    have ih' : load (List.map (fun e => if (e.name == n) = true then f e else e) eps) m
        = if m = n then (load eps n).map f else load eps m := ih
    simp only [updateAt, List.map_cons]
    rw [load_cons, ih', load_cons, load_cons]
    by_cases h1 : e.name = n
    · by_cases h2 : m = n
      · subst h2; simp [h1, hf]
      · have : ¬ n = m := fun h => h2 h.symm
        simp [h1, h2, hf, this]
    · by_cases h2 : m = n
      · subst h2; simp [h1]
      · simp [h1, h2]

theorem names_updateAt (eps : List EP) (n : Name) (f : EP → EP) (hf : ∀ e, (f e).name = e.name) :
    (updateAt eps n f).map (·.name) = eps.map (·.name) := by
  unfold updateAt
  rw [List.map_map]
  apply List.map_congr_left
  intro e _
  simp only [Function.comp]
  split <;> simp [hf]

theorem updateAt_fix {eps : List EP} (hnd : (eps.map (·.name)).Nodup) {n : Name} {f : EP → EP}
    (h : ∀ e, load eps n = some e → f e = e) : updateAt eps n f = eps := by
  unfold updateAt
  conv => rhs; rw [← List.map_id eps]
  apply List.map_congr_left
  intro e he
  by_cases hn : e.name = n
  · simp [hn, h e (hn ▸ load_of_mem_nodup hnd he)]
  · simp [hn]

theorem load_append (xs ys : List EP) (m : Name) : load (xs ++ ys) m = (load xs m).or (load ys m) :=
  List.find?_append

/-! ## what the per-object methods change -/

/-- `f` is a method of the endpoint object that reports the health `hv` (`none`: none) and keeps its identity, its disabled
    mark and its worker -/
structure Method (f : EP → EP) (hv : Option Bool) : Prop where
  name : ∀ e, (f e).name = e.name
  gen : ∀ e, (f e).gen = e.gen
  disabled : ∀ e, (f e).disabled = e.disabled
  healthy : ∀ e, (f e).healthy = hv.getD e.healthy
  probing : ∀ e, (f e).probing = e.probing

theorem ensureHC_facts (e : EP) :
    e.ensureHC.name = e.name ∧ e.ensureHC.gen = e.gen ∧ e.ensureHC.disabled = e.disabled ∧
    e.ensureHC.healthy = e.healthy ∧ e.ensureHC.probing = !e.disabled := by
  rcases e with ⟨name, gen, dis, healthy, uc, probing, chan, blocked, probes⟩
  cases dis <;> cases probing <;> cases chan <;> simp [EP.ensureHC]

theorem ensureHC_name (e : EP) : e.ensureHC.name = e.name := (ensureHC_facts e).1

theorem ensureHC_fix (e : EP) (h : e.probing = !e.disabled) : e.ensureHC = e := by
  rcases e with ⟨name, gen, dis, healthy, uc, probing, chan, blocked, probes⟩
  simp only at h
  subst h
  cases dis <;> simp [EP.ensureHC]

theorem trigger_method : Method EP.trigger none := by
  constructor <;> rintro ⟨name, gen, dis, healthy, uc, probing, chan, blocked, probes⟩ <;> cases chan <;> rfl

theorem updateStatus_method (h : Bool) : Method (·.updateStatus h) (some h) := by
  constructor <;> intro _ <;> rfl

theorem fire_method (h : Bool) : Method (·.fire h) (some h) := by
  constructor <;> intro _ <;> rfl

theorem setDisabled_facts (e : EP) (d : Bool) :
    (e.setDisabled d).name = e.name ∧ (e.setDisabled d).gen = e.gen ∧ (e.setDisabled d).disabled = d ∧
    (e.setDisabled d).healthy = e.healthy := by
  simp [EP.setDisabled]

/-! ## `addOrUpdateEndpoint` and the loop over the wanted set -/

/-- the object stored under `n` after `addOrUpdateEndpoint … n d` -/
def upserted (gen : Nat) (old : Option EP) (n : Name) (d : Bool) : EP :=
  match old with
  | some e => (e.setDisabled d).ensureHC
  | none => (newEP n gen d).ensureHC

theorem load_addOrUpdate (gen : Nat) (eps : List EP) (n m : Name) (d : Bool) :
    load (addOrUpdateEndpoint gen eps n d) m = if m = n then some (upserted gen (load eps n) n d) else load eps m := by
  unfold addOrUpdateEndpoint
  cases hg : load eps n with
  | some e =>
    simp only
    rw [load_updateAt _ _ _ _ (fun e => by simp [ensureHC_name, EP.setDisabled])]
    simp [hg, upserted]
  | none =>
    simp only
    rw [load_append, load_cons, load_nil]
    by_cases h : m = n
    · subst h; simp [hg, upserted, ensureHC_name, newEP]
    · have h' : ¬ n = m := fun x => h x.symm
      cases hm : load eps m <;> simp [h, h', ensureHC_name, newEP]

theorem names_addOrUpdate_nodup (gen : Nat) (eps : List EP) (n : Name) (d : Bool)
    (h : (eps.map (·.name)).Nodup) : ((addOrUpdateEndpoint gen eps n d).map (·.name)).Nodup := by
  unfold addOrUpdateEndpoint
  cases hg : load eps n with
  | some e =>
    simp only
    rw [names_updateAt _ _ _ (fun e => by simp [ensureHC_name, EP.setDisabled])]
    exact h
  | none =>
    simp only [List.map_append, List.map_cons, List.map_nil, ensureHC_name, newEP]
    have hn := load_none_iff.1 hg
    rw [List.nodup_append]
    refine ⟨h, by simp, ?_⟩
    intro a ha b hb
    simp at hb
    subst hb
    intro hab
    exact hn (hab ▸ ha)

theorem mem_dedup (l : List Name) (a : Name) : a ∈ dedup l ↔ a ∈ l := by
  induction l with
  | nil => simp [dedup]
  | cons x xs ih =>
    simp only [dedup, List.mem_cons, List.mem_filter, ih]
    by_cases h : a = x <;> simp [h]

theorem nodup_dedup (l : List Name) : (dedup l).Nodup := by
  induction l with
  | nil => simp [dedup]
  | cons x xs ih =>
    simp only [dedup, List.nodup_cons]
    constructor
    · simp [List.mem_filter]
    · exact List.Pairwise.filter _ ih

/-- the loop `wantedEPs.Range(addOrUpdateEndpoint)` as a finite function -/
theorem load_foldl_addOrUpdate (gen : Nat) (D : Name → Bool) (wanted : List Name) (hw : wanted.Nodup) (eps : List EP) (m : Name) :
    load (wanted.foldl (fun eps n => addOrUpdateEndpoint gen eps n (D n)) eps) m
      = if m ∈ wanted then some (upserted gen (load eps m) m (D m)) else load eps m := by
  induction wanted generalizing eps with
  | nil => simp
  | cons n rest ih =>
    simp only [List.foldl_cons]
    have hn : n ∉ rest := (List.nodup_cons.1 hw).1
    rw [ih (List.nodup_cons.1 hw).2, load_addOrUpdate]
    by_cases h1 : m ∈ rest
    · have : ¬ m = n := fun h => hn (h ▸ h1)
      simp [h1, this]
    · by_cases h2 : m = n
      · subst h2; simp [h1]
      · simp [h1, h2]


/-! ## `syncEndpoints` as a finite function -/

theorem load_filter_name (eps : List EP) (q : Name → Bool) (m : Name) :
    load (eps.filter fun e => q e.name) m = if q m then load eps m else none := by
  induction eps with
  | nil => simp [load_nil]
  | cons e eps ih =>
    by_cases hq : q e.name = true
    · rw [List.filter_cons_of_pos (by simpa using hq), load_cons, load_cons, ih]
      by_cases h : e.name = m
      · subst h; simp [hq]
      · simp [h]
    · rw [List.filter_cons_of_neg (by simpa using hq), ih, load_cons]
      by_cases h : e.name = m
      · subst h; simp [hq]
      · simp [h]

theorem contains_disabledSet (servers : List Server) (n : Name) :
    (disabledSet servers).contains n = specDisabled servers n := by
  rw [Bool.eq_iff_iff]
  simp only [disabledSet, specDisabled, List.contains_iff_mem, List.mem_map, List.mem_filter, List.any_eq_true,
    Bool.and_eq_true, beq_iff_eq]
  exact ⟨fun ⟨a, ⟨ha, hd⟩, hn⟩ => ⟨a, ha, hn, hd⟩, fun ⟨a, ha, hn, hd⟩ => ⟨a, ⟨ha, hd⟩, hn⟩⟩

/-- `syncEndpoints` with its sets read as predicates -/
theorem syncEndpoints_eps (s : State) (servers : List Server) :
    (syncEndpoints s servers).eps
      = (dedup (serverNames servers)).foldl (fun eps n => addOrUpdateEndpoint s.epoch eps n (specDisabled servers n))
          (s.eps.filter fun e => (serverNames servers).contains e.name) := by
  unfold syncEndpoints
  simp only [contains_disabledSet]
  congr 1
  refine List.filter_congr fun e he => ?_
  -- an object of the map is deleted iff its name is not wanted
  have : e.name ∈ s.eps.map (·.name) := List.mem_map_of_mem he
  simp [mem_dedup, this]

theorem syncEndpoints_lb (s : State) (servers : List Server)
    (h : ∀ n, n ∈ s.eps.map (·.name) ↔ n ∈ serverNames servers) : (syncEndpoints s servers).lb = s.lb := by
  have hdel : (s.eps.map (·.name)).filter (fun n => !(dedup (serverNames servers)).contains n) = [] :=
    List.filter_eq_nil_iff.2 fun n hn => by simp [mem_dedup, (h n).1 hn]
  have hadd : (dedup (serverNames servers)).filter (fun n => !(s.eps.map (·.name)).contains n) = [] :=
    List.filter_eq_nil_iff.2 fun n hn => by simp [(h n).2 ((mem_dedup _ _).1 hn)]
  unfold syncEndpoints
  simp only [hdel, hadd, List.isEmpty_nil, Bool.and_self, if_true]

theorem load_syncEndpoints (s : State) (servers : List Server) (m : Name) :
    load (syncEndpoints s servers).eps m
      = if m ∈ serverNames servers then some (upserted s.epoch (load s.eps m) m (specDisabled servers m)) else none := by
  rw [syncEndpoints_eps, load_foldl_addOrUpdate s.epoch _ _ (nodup_dedup _),
    load_filter_name s.eps (fun n => (serverNames servers).contains n)]
  simp only [mem_dedup, List.contains_eq_mem, decide_eq_true_eq]
  -- the deletion loop and the second loop ask the same question of `m`
  split <;> rfl

theorem nodup_syncEndpoints (s : State) (servers : List Server) (h : (s.eps.map (·.name)).Nodup) :
    ((syncEndpoints s servers).eps.map (·.name)).Nodup := by
  rw [syncEndpoints_eps]
  exact foldl_inv (fun eps => (eps.map (·.name)).Nodup) _ _ (fun eps n _ h => names_addOrUpdate_nodup _ eps n _ h) _
    (h.sublist (List.filter_sublist.map _))


/-! ## `Pop` -/

section
variable (tag : Key) (eps : List EP) (lb : List (Key × Nat)) (us : List Name)

theorem readyList_eq :
    readyList eps us = us.filterMap fun n => (load eps n).filter EP.isReady := by
  unfold readyList
  congr 1
  funext n
  cases load eps n <;> rfl

theorem mem_readyList {eps : List EP} {us : List Name} {e : EP} :
    e ∈ readyList eps us ↔ ∃ n, n ∈ us ∧ load eps n = some e ∧ e.isReady = true := by
  simp only [readyList_eq, List.mem_filterMap, Option.filter_eq_some_iff]

/-- the ready key of a pick is `(readyList eps us).map EP.id`, the ordered ready objects: the key of its cursor -/
theorem readyKey_nodup {us : List Name} (h : us.Nodup) : ((readyList eps us).map EP.id).Nodup := by
  have hname : ∀ {n : Name} {b : Name × Nat}, ((load eps n).filter EP.isReady).map EP.id = some b → b.1 = n := fun hb => by
    obtain ⟨e, he, rfl⟩ := Option.map_eq_some_iff.1 hb
    exact load_some_name (Option.filter_eq_some_iff.1 he).1
  rw [readyList_eq, List.map_filterMap]
  exact List.Pairwise.filterMap (S := (· ≠ ·)) _ (fun n n' hne b hb b' hb' (hbb : b = b') => hne ((hname hb).symm.trans (hbb ▸ hname hb'))) h

theorem indexResult_eq {ready : List EP} (hk : 0 < ready.length) (c : Nat) :
    indexResult ready c = .picked (ready[c % ready.length]'(Nat.mod_lt _ hk)).name (ready[c % ready.length]'(Nat.mod_lt _ hk)).gen := by
  unfold indexResult
  rw [List.getElem?_eq_getElem (Nat.mod_lt _ hk)]

/-- `Pop` by the number of ready endpoints (with no upstreams there are none) -/
theorem popScoped_eq :
    popScoped tag eps lb us = match readyList eps us with
      | [] => (.noReady, lb)
      | [e] => (.picked e.name e.gen, lb)
      | ready => (indexResult ready (toU64 (lbGet lb (tag ++ ready.map EP.id) + 1)),
                  lbSet lb (tag ++ ready.map EP.id) (toU64 (lbGet lb (tag ++ ready.map EP.id) + 1))) := by
  unfold popScoped
  cases us with
  | nil => rfl
  | cons n rest =>
    rw [List.isEmpty_cons, if_neg Bool.false_ne_true]
    rcases readyList eps (n :: rest) with _ | ⟨_, _ | _⟩ <;> rfl

/-- the scope only says which cursor a pick draws from -/
theorem popScoped_fst :
    (popScoped tag eps lb us).1
      = (pop eps [((readyList eps us).map EP.id, lbGet lb (tag ++ (readyList eps us).map EP.id))] us).1 := by
  rw [pop, popScoped_eq, popScoped_eq]
  match readyList eps us with
  | [] => rfl
  | [_] => rfl
  | _ :: _ :: _ => simp only [List.nil_append, lbGet, List.lookup_cons_self, Option.getD_some]

end

theorem pop_multi (eps : List EP) (lb : List (Key × Nat)) (us : List Name) (h : 2 ≤ (readyList eps us).length) :
    pop eps lb us = (indexResult (readyList eps us) (toU64 (lbGet lb ((readyList eps us).map EP.id) + 1)),
                     lbSet lb ((readyList eps us).map EP.id) (toU64 (lbGet lb ((readyList eps us).map EP.id) + 1))) := by
  rw [pop, popScoped_eq]
  match readyList eps us, h with
  | _ :: _ :: _, _ => rfl

theorem pop_single (eps : List EP) (lb : List (Key × Nat)) (us : List Name) (e : EP) (h : readyList eps us = [e]) :
    pop eps lb us = (.picked e.name e.gen, lb) := by
  rw [pop, popScoped_eq, h]

/-- nothing ready ⇒ `noReady`; `pop_noReady` is the converse -/
theorem pop_none (eps : List EP) (lb : List (Key × Nat)) (us : List Name) (h : readyList eps us = []) :
    pop eps lb us = (.noReady, lb) := by
  rw [pop, popScoped_eq, h]

theorem pop_few (eps : List EP) (lb : List (Key × Nat)) (us : List Name) (h : ¬ 2 ≤ (readyList eps us).length) :
    (pop eps lb us).2 = lb := by
  rw [pop, popScoped_eq]
  match readyList eps us, h with
  | [], _ => rfl
  | [_], _ => rfl
  | _ :: _ :: _, h => exact absurd (Nat.le_add_left 2 _) h

theorem pop_cases (eps : List EP) (lb : List (Key × Nat)) (us : List Name) :
    ((pop eps lb us).1 = .noReady ∧ readyList eps us = []) ∨
    (∃ e, e ∈ readyList eps us ∧ (pop eps lb us).1 = .picked e.name e.gen) := by
  rw [pop, popScoped_eq]
  match readyList eps us with
  | [] => exact .inl ⟨rfl, rfl⟩
  | [e] => exact .inr ⟨e, List.mem_singleton_self e, rfl⟩
  | e1 :: e2 :: t => exact .inr ⟨_, List.getElem_mem _, indexResult_eq (ready := e1 :: e2 :: t) (Nat.zero_lt_succ _) _⟩

theorem pop_never_panics (eps : List EP) (lb : List (Key × Nat)) (us : List Name) : (pop eps lb us).1 ≠ .panic := by
  rcases pop_cases eps lb us with ⟨h, _⟩ | ⟨e, _, h⟩ <;> simp [h]

section
variable {eps : List EP} {lb : List (Key × Nat)} {us : List Name}

theorem pop_sound {n : Name} {g : Nat} (h : (pop eps lb us).1 = .picked n g) :
    ∃ e, load eps n = some e ∧ e.gen = g ∧ n ∈ us ∧ e.isReady = true := by
  rcases pop_cases eps lb us with ⟨h', _⟩ | ⟨e, he, h'⟩
  · rw [h'] at h; cases h
  · obtain ⟨m, hm, hg, hr⟩ := mem_readyList.1 he
    cases h'.symm.trans h
    cases load_some_name hg
    exact ⟨e, hg, rfl, hm, hr⟩

/-- `noReady` ⇒ nothing ready; the converse of `pop_none` -/
theorem pop_noReady (h : (pop eps lb us).1 = .noReady) :
    ∀ n, n ∈ us → ∀ e, load eps n = some e → e.isReady = false := by
  rcases pop_cases eps lb us with ⟨_, h'⟩ | ⟨e, _, h'⟩
  · intro n hn e hg
    cases hr : e.isReady with
    | false => rfl
    | true => exact absurd (mem_readyList.2 ⟨n, hn, hg, hr⟩) (h' ▸ List.not_mem_nil)
  · rw [h'] at h; cases h

end

/-! ## what the judge asks of an output -/

theorem enabled_iff {a : Abs} {n : Name} :
    a.enabled n = true ↔ n ∈ serverNames a.servers ∧ specDisabled a.servers n = false := by
  simp [Abs.enabled, Abs.inServers]

theorem eligible_iff {a : Abs} {n : Name} :
    a.eligible n = true ↔ n ∈ serverNames a.servers ∧ specDisabled a.servers n = false ∧ a.healthy n = true := by
  rw [Abs.eligible, Bool.and_eq_true, enabled_iff, and_assoc]

theorem judge_popped {a : Abs} {j : Nat} {r : PopOut} :
    judgeStep a (.pop j) (.popped r) = true ↔ ∃ us, a.pickers[j]? = some (some us) ∧
      match r with
      | .picked n g => n ∈ us ∧ a.eligible n = true ∧ g = a.bornAt n
      | .noReady => ∀ n, n ∈ us → a.eligible n = false
      | .panic => False := by
  simp only [judgeStep]
  split
  · next us hp => cases r <;> simp [hp, and_assoc]
  · next hne => exact ⟨fun h => by simp at h, fun ⟨us, hp, _⟩ => (hne us hp).elim⟩

theorem judge_matched {a : Abs} {policy : Nat} {order us : List Name} :
    judgeStep a (.matchAttrs policy order) (.matched us) = true ↔ ∃ subset, a.policies[policy]? = some subset ∧
      ((subset ≠ [] ∧ us = subset) ∨ (subset = [] ∧ us = order ∧ us.Perm (dedup (serverNames a.servers)))) := by
  simp only [judgeStep]
  split
  · next hp => simp [hp]
  · next subset hp => cases subset <;> simp [hp, List.isPerm_iff]

theorem judge_fired {a : Abs} {n n' : Name} {hv : Bool} {g : Nat} :
    judgeStep a (.probeFire n hv) (.fired n' g) = true ↔ n' = n ∧ a.enabled n = true ∧ g = a.bornAt n := by
  simp [judgeStep, and_assoc]

/-! ## what a Sync does to the abstract state -/

theorem lookup_map_pair {β : Type} (l : List Name) (f : Name → β) (n : Name) :
    (l.map fun m => (m, f m)).lookup n = if n ∈ l then some (f n) else none := by
  induction l with
  | nil => simp
  | cons x rest ih =>
    simp only [List.map_cons, List.lookup_cons, ih, List.mem_cons]
    by_cases h : n = x
    · subst h; simp
    · simp [beq_false_of_ne h, h]

theorem report_sync (a : Abs) (servers : List Server) (pols : List (List Name)) (out : Out) (n : Name) :
    (absStep a (.sync servers pols) out).report.lookup n
      = if n ∈ serverNames servers then a.report.lookup n else none := by
  show (a.report.filter fun p => (serverNames servers).contains p.1).lookup n = _
  rw [lookup_filter_key a.report (fun m => (serverNames servers).contains m) n, List.contains_eq_mem]
  simp only [decide_eq_true_eq]

theorem bornAt_sync (a : Abs) (servers : List Server) (pols : List (List Name)) (out : Out) {n : Name}
    (hn : n ∈ serverNames servers) :
    (absStep a (.sync servers pols) out).bornAt n = if a.inServers n then a.bornAt n else a.epoch := by
  show (((dedup (serverNames servers)).map fun n => (n, if a.inServers n then a.bornAt n else a.epoch)).lookup n).getD 0 = _
  rw [lookup_map_pair, if_pos ((mem_dedup _ _).2 hn), Option.getD_some]

/-! ## the simulation -/

/-- `ep … probing = !disabled`: every stored object has a worker iff it is enabled, so `ensure` finds nothing to do. `rep`: a name
    outside the server list has no report, so a server that enters the list again starts unhealthy. The cursors are not read. -/
structure Sim (s : State) (a : Abs) : Prop where
  policies : s.policies = a.policies
  pickers : s.pickers = a.pickers
  epoch : s.epoch = a.epoch
  nodup : (s.eps.map (·.name)).Nodup
  dom : ∀ n, (load s.eps n).isSome = a.inServers n
  ep : ∀ n e, load s.eps n = some e →
        e.disabled = specDisabled a.servers n ∧ e.healthy = a.healthy n ∧ e.gen = a.bornAt n ∧ e.probing = !e.disabled
  rep : ∀ n, a.inServers n = false → a.report.lookup n = none

theorem sim_init : Sim init Abs.init :=
  ⟨rfl, rfl, rfl, List.nodup_nil, fun _ => rfl, fun _ _ h => (nomatch h), fun _ _ => rfl⟩

theorem sim_initScoped (ps : Bool) : Sim (initScoped ps) Abs.init := { sim_init with }

section
variable {s : State} {a : Abs}

theorem sim_inServers_iff (h : Sim s a) (n : Name) :
    a.inServers n = true ↔ n ∈ s.eps.map (·.name) := by
  rw [← h.dom n, load_isSome_iff]

theorem sim_inServers_of_load (h : Sim s a) {n : Name} {e : EP} (hl : load s.eps n = some e) : a.inServers n = true := by
  rw [← h.dom n, hl]
  rfl

/-! `Sim.ep` clause by clause -/

theorem Sim.disabled_eq (h : Sim s a) {n : Name} {e : EP} (hl : load s.eps n = some e) :
    e.disabled = specDisabled a.servers n :=
  (h.ep n e hl).1

theorem Sim.healthy_eq (h : Sim s a) {n : Name} {e : EP} (hl : load s.eps n = some e) : e.healthy = a.healthy n :=
  (h.ep n e hl).2.1

theorem Sim.gen_eq (h : Sim s a) {n : Name} {e : EP} (hl : load s.eps n = some e) : e.gen = a.bornAt n :=
  (h.ep n e hl).2.2.1

theorem Sim.probing_eq (h : Sim s a) {n : Name} {e : EP} (hl : load s.eps n = some e) : e.probing = !e.disabled :=
  (h.ep n e hl).2.2.2

theorem sim_sync (h : Sim s a) (servers : List Server) (pols : List (List Name)) :
    Sim (sync s servers pols) (absStep a (.sync servers pols) .none) := by
  refine ⟨rfl, h.pickers, congrArg (· + 1) h.epoch, nodup_syncEndpoints s servers h.nodup, ?_, ?_, ?_⟩
  · intro n
    show (load (syncEndpoints s servers).eps n).isSome = (serverNames servers).contains n
    rw [load_syncEndpoints, List.contains_eq_mem]
    by_cases hn : n ∈ serverNames servers <;> simp only [hn, if_true, if_false] <;> rfl
  · intro n e he
    replace he : load (syncEndpoints s servers).eps n = some e := he
    rw [load_syncEndpoints] at he
    by_cases hn : n ∈ serverNames servers
    · rw [if_pos hn] at he
      cases he
      rw [bornAt_sync a servers pols .none hn]
      show _ ∧ _ = ((absStep a (.sync servers pols) .none).report.lookup n == some true) ∧ _
      rw [report_sync, if_pos hn]
      cases hl : load s.eps n with
      | some e0 =>
        obtain ⟨_, h2, h3, h4, h5⟩ := ensureHC_facts (e0.setDisabled (specDisabled servers n))
        have hdom := sim_inServers_of_load h hl
        have k2 : e0.healthy = a.healthy n := h.healthy_eq hl
        have k3 : e0.gen = a.bornAt n := h.gen_eq hl
        exact ⟨h3, h4.trans k2, by rw [hdom]; exact h2.trans k3, h5.trans (congrArg _ h3.symm)⟩
      | none =>
        obtain ⟨_, h2, h3, h4, h5⟩ := ensureHC_facts (newEP n s.epoch (specDisabled servers n))
        have hdom : a.inServers n = false := by rw [← h.dom n, hl]; rfl
        refine ⟨h3, ?_, by rw [hdom]; exact h2.trans h.epoch, h5.trans (congrArg _ h3.symm)⟩
        rw [h.rep n hdom]; exact h4
    · rw [if_neg hn] at he; cases he
  · intro n hn
    rw [report_sync, if_neg]
    exact fun hm => Bool.false_ne_true (hn.symm.trans (List.contains_iff_mem.2 hm))

/-- what the method reports is the abstract state's newest report -/
theorem sim_updateAt (h : Sim s a) (n : Name) {hv : Option Bool} {f : EP → EP} (hf : Method f hv)
    (hin : hv.isSome = true → a.inServers n = true) :
    Sim { s with eps := updateAt s.eps n f } { a with report := (hv.map fun v => (n, v)).toList ++ a.report } := by
  have hname := hf.name
  have hlook : ∀ m, ((hv.map fun v => (n, v)).toList ++ a.report).lookup m
      = if m = n then hv.or (a.report.lookup n) else a.report.lookup m := fun m => by
    by_cases hm : m = n
    · subst hm; cases hv <;> simp
    · cases hv <;> simp [hm, beq_false_of_ne hm, List.lookup_cons]
  refine ⟨h.policies, h.pickers, h.epoch, (names_updateAt _ _ _ hname).symm ▸ h.nodup, ?_, ?_, fun m hm => ?_⟩
  · intro m
    show (load (updateAt s.eps n f) m).isSome = a.inServers m
    rw [load_updateAt _ _ _ _ hname, ← h.dom m]
    split
    · next hm => subst hm; exact Option.isSome_map
    · rfl
  · intro m e he
    replace he : load (updateAt s.eps n f) m = some e := he
    rw [load_updateAt _ _ _ _ hname] at he
    show _ ∧ e.healthy = (List.lookup m _ == some true) ∧ e.gen = a.bornAt m ∧ _
    rw [hlook]
    split at he
    · next hm =>
      subst hm
      obtain ⟨e0, hl0, rfl⟩ := Option.map_eq_some_iff.1 he
      obtain ⟨k1, k2, k3, k4⟩ := h.ep m e0 hl0
      refine ⟨(hf.disabled e0).trans k1, ?_, (hf.gen e0).trans k3, by rw [hf.probing, hf.disabled]; exact k4⟩
      rw [if_pos rfl, hf.healthy]
      cases hv with
      | none => exact k2
      | some v => cases v <;> rfl
    · next hm =>
      rw [if_neg hm]
      exact h.ep m e he
  · show List.lookup m _ = none
    rw [hlook]
    split
    · next hmn =>
      cases hv with
      | none => exact hmn ▸ h.rep m hm
      | some v => cases (hmn ▸ hin rfl).symm.trans hm
    · exact h.rep m hm

theorem sim_picker (h : Sim s a) (pk : Picker) (pp : List Nat) :
    Sim { s with pickers := s.pickers ++ [pk], pickerPolicy := pp } { a with pickers := a.pickers ++ [pk] } :=
  { h with pickers := congrArg (· ++ [pk]) h.pickers }

/-- the simulation does not read the cursors -/
theorem sim_lb (h : Sim s a) (lb : List (Key × Nat)) : Sim { s with lb := lb } a := { h with }

theorem sim_eligible_iff (h : Sim s a) (n : Name) :
    a.eligible n = true ↔ ∃ e, load s.eps n = some e ∧ e.isReady = true := by
  have hdom := h.dom n
  cases hl : load s.eps n with
  | none =>
    rw [hl] at hdom
    simp [Abs.eligible, Abs.enabled, ← hdom]
  | some e =>
    rw [hl] at hdom
    simp [Abs.eligible, Abs.enabled, ← hdom, EP.isReady, h.disabled_eq hl, h.healthy_eq hl]

theorem sim_names_perm (h : Sim s a) :
    (s.eps.map (·.name)).Perm (dedup (serverNames a.servers)) := by
  rw [List.perm_ext_iff_of_nodup h.nodup (nodup_dedup _)]
  intro n
  rw [mem_dedup, ← sim_inServers_iff h n]
  simp [Abs.inServers]

end

theorem step_probeFire (s : State) (n : Name) (hv : Bool) :
    step s (.probeFire n hv) = match (load s.eps n).filter EP.canFire with
      | some e => ({ s with eps := updateAt s.eps n fun e => e.fire hv }, .fired e.name e.gen)
      | none => (s, .notFired) := by
  simp only [step]
  cases load s.eps n with
  | none => rfl
  | some e => cases hc : e.canFire <;> simp [Option.filter, hc]

theorem isPerm_congr_right {l l₁ l₂ : List Name} (h : l₁.Perm l₂) : l.isPerm l₁ = l.isPerm l₂ := by
  rw [Bool.eq_iff_iff, List.isPerm_iff, List.isPerm_iff]
  exact ⟨fun x => x.trans h, fun x => x.trans h.symm⟩

theorem sim_step {s : State} {a : Abs} (h : Sim s a) (op : Op) :
    judgeStep a op (step s op).2 = true ∧ Sim (step s op).1 (absStep a op (step s op).2) := by
  cases op with
  | sync servers pols => exact ⟨rfl, sim_sync h servers pols⟩
  | updateStatus n hv =>
    refine ⟨rfl, ?_⟩
    show Sim _ (if a.inServers n then { a with report := (n, hv) :: a.report } else a)
    split
    · next hin => exact sim_updateAt h n (updateStatus_method hv) fun _ => hin
    · next hin =>
      -- no object is stored under `n`
      have hl : load s.eps n = none := Option.not_isSome_iff_eq_none.1 (h.dom n ▸ hin)
      show Sim { s with eps := updateAt s.eps n fun e => e.updateStatus hv } a
      rw [updateAt_fix h.nodup fun e he => nomatch hl.symm.trans he]
      exact h
  | trigger n => exact ⟨rfl, sim_updateAt h n trigger_method fun x => nomatch x⟩
  | ensure n =>
    -- every stored object has a worker iff it is enabled: `EnsureGatewayHealthCheck` finds nothing to do
    refine ⟨rfl, ?_⟩
    show Sim { s with eps := updateAt s.eps n EP.ensureHC } a
    rw [updateAt_fix h.nodup fun e he => ensureHC_fix e (h.probing_eq he)]
    exact h
  | probeFire n hv =>
    rw [step_probeFire]
    cases hf : (load s.eps n).filter EP.canFire with
    | none => exact ⟨rfl, h⟩
    | some e =>
      obtain ⟨hl, hc⟩ := Option.filter_eq_some_iff.1 hf
      have hin := sim_inServers_of_load h hl
      have hdis : specDisabled a.servers n = false := by
        rw [← h.disabled_eq hl, ← Bool.not_eq_true', ← h.probing_eq hl]
        exact (Bool.and_eq_true_iff.1 hc).1
      exact ⟨judge_fired.2 ⟨load_some_name hl, by rw [Abs.enabled, hin, hdis]; rfl, h.gen_eq hl⟩,
        sim_updateAt h n (fire_method hv) fun _ => hin⟩
  | matchAttrs policy order =>
    simp only [step, matchAttrs, judgeStep, ← h.policies, ← isPerm_congr_right (sim_names_perm h)]
    cases s.policies[policy]? with
    | none => exact ⟨rfl, sim_picker h _ _⟩
    | some subset =>
      by_cases he : subset.isEmpty = true
      · by_cases hp : order.isPerm (s.eps.map (·.name)) = true
        · simp only [he, hp, Bool.not_true, Bool.false_eq_true, if_false, if_true]
          exact ⟨by simp, sim_picker h _ _⟩
        · simp only [he, hp, Bool.not_true, Bool.false_eq_true, if_false]
          exact ⟨rfl, sim_picker h _ _⟩
      · simp only [he, Bool.not_false, if_true]
        exact ⟨by simp, sim_picker h _ _⟩
  | pop j =>
    simp only [step]
    cases hj : s.pickers[j]? with
    | none => exact ⟨by simp [judgeStep, ← h.pickers, hj], h⟩
    | some pk =>
      cases pk with
      | none => exact ⟨by simp [judgeStep, ← h.pickers, hj], h⟩
      | some us =>
        refine ⟨judge_popped.2 ⟨us, h.pickers ▸ hj, ?_⟩, sim_lb h _⟩
        -- a scoped pick answers what some unscoped pick answers; `pop_sound` / `pop_noReady` say what that is in terms of
        -- `load`, `sim_eligible_iff` turns it into the judge's terms
        rw [popScoped_fst]
        cases hr : (pop s.eps _ us).1 with
        | picked n g =>
          obtain ⟨e, hl, hg, hmem, hready⟩ := pop_sound hr
          exact ⟨hmem, (sim_eligible_iff h n).2 ⟨e, hl, hready⟩, hg ▸ h.gen_eq hl⟩
        | noReady =>
          intro n hn
          cases hel : a.eligible n with
          | false => rfl
          | true =>
            obtain ⟨e, hl, hready⟩ := (sim_eligible_iff h n).1 hel
            rw [pop_noReady hr n hn e hl] at hready; cases hready
        | panic => exact pop_never_panics _ _ _ hr

theorem sim_run {s : State} {a : Abs} (h : Sim s a) (ops : List Op) :
    judgeTrace a (modelTrace s ops) = true ∧ Sim (run s ops).1 (absRun a (modelTrace s ops)) := by
  induction ops generalizing s a with
  | nil => exact ⟨rfl, h⟩
  | cons op ops ih =>
    obtain ⟨h1, h2⟩ := sim_step h op
    obtain ⟨i1, i2⟩ := ih h2
    exact ⟨by simp only [modelTrace, run, List.zip_cons_cons, judgeTrace, h1, Bool.true_and]; exact i1, i2⟩


/-! ## the load-balancer map under a concurrent Sync (finding C03-lb-reset-race) -/

/-- invariant of the race model when nothing overwrites the mutex -/
def RaceOK (s : RaceSys) : Prop := s.fatal = false ∧ s.muLocked = s.holder.isSome

theorem raceStep_ok (inPlace : Bool) (s : RaceSys) (a : RaceAct) (h : RaceOK s) (ha : inPlace = true ∨ a ≠ .syncReset) :
    RaceOK (raceStep inPlace s a) := by
  obtain ⟨h1, h2⟩ := h
  cases a with
  | popLock t =>
    simp only [raceStep]
    split
    · exact ⟨h1, h2⟩
    · exact ⟨h1, by simp⟩
  | popUnlock t =>
    simp only [raceStep]
    split
    · exact ⟨h1, h2⟩
    · rename_i hc
      simp only [Bool.or_eq_true, not_or, bne_iff_ne, ne_eq, Decidable.not_not] at hc
      have : s.muLocked = true := by rw [h2, hc.2]; rfl
      simp [this, RaceOK, h1]
  | syncReset =>
    rcases ha with ha | ha
    · subst ha; simpa [raceStep] using ⟨h1, h2⟩
    · exact absurd rfl ha

theorem raceRun_ok (inPlace : Bool) (acts : List RaceAct) (ha : inPlace = true ∨ RaceAct.syncReset ∉ acts) :
    RaceOK (raceRun inPlace acts) :=
  foldl_inv RaceOK _ acts (fun s a hm h => raceStep_ok inPlace s a h (ha.imp_right fun x y => x (y ▸ hm))) _ ⟨rfl, rfl⟩


/-! ## C14: round-robin counting -/

/-- steps since the cursor last had residue `p` modulo `k` -/
def dist (k p c : Nat) : Nat := (c + (k - p)) % k

theorem dist_succ {k : Nat} (hk : 2 ≤ k) (p c : Nat) :
    dist k p (c + 1) = if dist k p c + 1 = k then 0 else dist k p c + 1 := by
  unfold dist
  rw [Nat.add_right_comm]
  generalize c + (k - p) = x
  have hr : x % k < k := Nat.mod_lt _ (by omega)
  rw [Nat.add_mod, Nat.mod_eq_of_lt (show 1 < k by omega)]
  split
  · next h => rw [h, Nat.mod_self]
  · exact Nat.mod_eq_of_lt (by omega)

theorem dist_eq_zero {k p : Nat} (hp : p < k) (c : Nat) : dist k p c = 0 ↔ c % k = p := by
  unfold dist
  rw [← Nat.mod_add_mod]
  have hr : c % k < k := Nat.mod_lt _ (Nat.zero_lt_of_lt hp)
  have hq : p + (k - p) = k := Nat.add_sub_cancel' (Nat.le_of_lt hp)
  generalize c % k = r at hr ⊢
  generalize k - p = q at hq ⊢
  subst hq
  by_cases h : r < p
  · rw [Nat.mod_eq_of_lt (Nat.add_lt_add_right h q)]; omega
  · rw [Nat.mod_eq_sub_mod (by omega), Nat.mod_eq_of_lt (by omega)]; omega

/-- one increment of the cursor: the pick hits residue `p` exactly when the distance wraps from `k-1` to `0` -/
theorem dist_step {k p : Nat} (hk : 2 ≤ k) (hp : p < k) (c : Nat) :
    k * (if (c + 1) % k = p then 1 else 0) + dist k p (c + 1) = 1 + dist k p c := by
  simp only [← dist_eq_zero hp, dist_succ hk]
  by_cases h : dist k p c + 1 = k
  · simp only [h, if_true]; omega
  · simp only [h, Nat.succ_ne_zero, if_false]; omega

theorem lbGet_lbSet (lb : List (Key × Nat)) (k k' : Key) (v : Nat) :
    lbGet (lbSet lb k v) k' = if k' = k then v else lbGet lb k' := by
  -- instances for `Key` are found once
  have hb : ∀ {a b : Key}, (a == b) = true ↔ a = b := beq_iff_eq
  have hn : ∀ {a b : Key}, a ≠ b → (a == b) = false := beq_false_of_ne
  unfold lbGet
  induction lb with
  | nil =>
    rw [lbSet, List.lookup_cons]
    by_cases h : k' = k
    · rw [if_pos h, hb.2 h]; rfl
    · rw [if_neg h, hn h]
  | cons p rest ih =>
    rw [lbSet]
    by_cases h0 : p.1 = k
    · rw [if_pos (hb.2 h0), List.lookup_cons, List.lookup_cons, h0]
      by_cases h : k' = k
      · rw [if_pos h, hb.2 h]; rfl
      · rw [if_neg h, hn h]
    · rw [if_neg (fun x => h0 (hb.1 x)), List.lookup_cons, List.lookup_cons]
      by_cases h : k' = p.1
      · rw [hb.2 h, if_neg (fun x => h0 (h ▸ x))]
      · rw [hn h]; exact ih

/-- the potential: over the orders in `K`, the steps since each order's cursor last selected `e` -/
def potential (K : List Key) (k : Nat) (e : Name × Nat) (lb : List (Key × Nat)) : Nat :=
  (K.map fun κ => dist k (κ.idxOf e) (lbGet lb κ)).sum

theorem potential_le (K : List Key) {k : Nat} (hk : 0 < k) (e : Name × Nat) (lb : List (Key × Nat)) :
    potential K k e lb ≤ K.length * (k - 1) := by
  unfold potential
  induction K with
  | nil => exact Nat.zero_le _
  | cons κ rest ih =>
    have : dist k (κ.idxOf e) (lbGet lb κ) < k := Nat.mod_lt _ hk
    rw [List.map_cons, List.sum_cons, List.length_cons, Nat.add_mul]
    omega

/-- changing one term of a sum over a duplicate-free list -/
theorem sum_map_update {α : Type} {K : List α} (hK : K.Nodup) {κ : α} (hκ : κ ∈ K) {f g : α → Nat}
    (h : ∀ κ', κ' ∈ K → κ' ≠ κ → f κ' = g κ') : (K.map f).sum + g κ = (K.map g).sum + f κ := by
  induction K with
  | nil => cases hκ
  | cons κ0 rest ih =>
    obtain ⟨h0, hrest⟩ := List.nodup_cons.1 hK
    rw [List.map_cons, List.sum_cons, List.map_cons, List.sum_cons]
    by_cases hc : κ0 = κ
    · subst hc
      rw [List.map_congr_left fun κ' h' => h κ' (List.mem_cons_of_mem _ h') fun x => h0 (x ▸ h')]
      omega
    · have := ih hrest ((List.mem_cons.1 hκ).resolve_left (Ne.symm hc)) fun κ' h' => h κ' (List.mem_cons_of_mem _ h')
      rw [h κ0 List.mem_cons_self hc]
      omega

theorem indexResult_hit (ready : List EP) (e : Name × Nat) (c : Nat)
    (hnd : (ready.map EP.id).Nodup) (he : e ∈ ready.map EP.id) :
    (indexResult ready c == .picked e.1 e.2) = decide (c % ready.length = (ready.map EP.id).idxOf e) := by
  have hk : 0 < ready.length := by rw [← List.length_map (f := EP.id)]; exact List.length_pos_of_mem he
  have hlt : c % ready.length < (ready.map EP.id).length := by rw [List.length_map]; exact Nat.mod_lt _ hk
  have hidx : (ready.map EP.id).idxOf e < (ready.map EP.id).length := List.idxOf_lt_length_iff.2 he
  rw [Bool.eq_iff_iff, beq_iff_eq, decide_eq_true_eq, ← List.getElem_inj (h₀ := hlt) (h₁ := hidx) hnd,
    List.getElem_idxOf hidx, List.getElem_map, indexResult_eq hk, PopOut.picked.injEq]
  exact (Prod.ext_iff (x := EP.id _) (y := e)).symm

theorem strictOK_of_bounded {k N cnt : Nat} (hk : 0 < k) (h : boundedOK k 1 N cnt = true) : strictOK k N cnt = true := by
  simp only [boundedOK, strictOK, Bool.and_eq_true, decide_eq_true_eq, Nat.one_mul] at h ⊢
  constructor
  · have : N / k < cnt + 1 := (Nat.div_lt_iff_lt_mul hk).2 (by rw [Nat.add_mul, Nat.mul_comm cnt k]; omega)
    omega
  · rw [Nat.le_div_iff_mul_le hk, Nat.mul_comm cnt k]; omega

theorem countPicked_cons (n : Name) (g : Nat) (r : PopOut) (rs : List PopOut) :
    countPicked n g (r :: rs) = countPicked n g rs + (if (r == .picked n g) = true then 1 else 0) :=
  List.countP_cons

/-- the cursor law; beside it the counting below only reads that a pick with fewer than two ready endpoints moves no cursor
    (`pop_few`) -/
theorem pop_cursor (eps : List EP) (lb : List (Key × Nat)) (us : List Name) (h : 2 ≤ (readyList eps us).length) :
    let key := (readyList eps us).map EP.id
    let c := toU64 (lbGet lb key + 1)
    (pop eps lb us).1 = indexResult (readyList eps us) c ∧
    lbGet (pop eps lb us).2 key = c ∧ ∀ κ, κ ≠ key → lbGet (pop eps lb us).2 κ = lbGet lb κ := by
  rw [pop_multi eps lb us h]
  exact ⟨rfl, by rw [lbGet_lbSet, if_pos rfl], fun κ hκ => by rw [lbGet_lbSet, if_neg hκ]⟩

theorem lbGet_pop_le (eps : List EP) (lb : List (Key × Nat)) (us : List Name) (κ : Key) :
    lbGet (pop eps lb us).2 κ ≤ lbGet lb κ + 1 := by
  by_cases h : 2 ≤ (readyList eps us).length
  · obtain ⟨_, h2, h3⟩ := pop_cursor eps lb us h
    by_cases hc : κ = (readyList eps us).map EP.id
    · rw [hc, h2]; exact Nat.mod_le _ _
    · rw [h3 κ hc]; exact Nat.le_succ _
  · rw [pop_few eps lb us h]; exact Nat.le_succ _

/-- one pick pays one unit: `k` at once into the count of `e` when `e` is chosen, one into the potential otherwise -/
theorem pop_potential (eps : List EP) (e : Name × Nat) (k : Nat) (hk : 2 ≤ k) (K : List Key) (hK : K.Nodup)
    (hKe : ∀ κ, κ ∈ K → κ.Nodup ∧ κ.length = k ∧ e ∈ κ) (us : List Name) (lb : List (Key × Nat))
    (hκ : (readyList eps us).map EP.id ∈ K) (hw : lbGet lb ((readyList eps us).map EP.id) + 1 < 2 ^ 64) :
    k * (if ((pop eps lb us).1 == .picked e.1 e.2) = true then 1 else 0) + potential K k e (pop eps lb us).2
      = 1 + potential K k e lb := by
  obtain ⟨hnd, hlen, hmem⟩ := hKe _ hκ
  have hlen' : (readyList eps us).length = k := by rw [← hlen, List.length_map]
  obtain ⟨h1, h2, h3⟩ := pop_cursor eps lb us (hlen' ▸ hk)
  rw [toU64, Nat.mod_eq_of_lt hw] at h1 h2
  have hset := sum_map_update hK hκ (f := fun κ => dist k (κ.idxOf e) (lbGet (pop eps lb us).2 κ))
    (g := fun κ => dist k (κ.idxOf e) (lbGet lb κ)) fun κ' _ hne => by rw [h3 κ' hne]
  have hstep := dist_step hk (hlen ▸ List.idxOf_lt_length_iff.2 hmem) (lbGet lb ((readyList eps us).map EP.id))
  rw [h1, indexResult_hit _ e _ hnd hmem, hlen']
  simp only [h2, decide_eq_true_eq] at hset ⊢
  unfold potential
  omega

theorem popMany_potential (eps : List EP) (e : Name × Nat) (k : Nat) (hk : 2 ≤ k) (K : List Key) (hK : K.Nodup)
    (hKe : ∀ κ, κ ∈ K → κ.Nodup ∧ κ.length = k ∧ e ∈ κ)
    (uss : List (List Name)) (lb : List (Key × Nat))
    (hkeys : ∀ us, us ∈ uss → (readyList eps us).map EP.id ∈ K)
    (hwrap : ∀ κ, κ ∈ K → lbGet lb κ + uss.length < 2 ^ 64) :
    k * countPicked e.1 e.2 (popMany eps lb uss).1 + potential K k e (popMany eps lb uss).2
      = uss.length + potential K k e lb := by
  induction uss generalizing lb with
  | nil => rfl
  | cons us rest ih =>
    have hκ := hkeys us List.mem_cons_self
    simp only [List.length_cons] at hwrap
    have hstep := pop_potential eps e k hk K hK hKe us lb hκ (by have := hwrap _ hκ; omega)
    have hih := ih (pop eps lb us).2 (fun us' h' => hkeys us' (List.mem_cons_of_mem _ h')) fun κ' h' => by
      have := hwrap κ' h'
      have := lbGet_pop_le eps lb us κ'
      omega
    rw [popMany, countPicked_cons, List.length_cons, Nat.mul_add]
    simp only
    omega


/-! ## C14: concurrent pickers -/

/-- the result a thread at `pc` has produced or is bound to produce -/
def PC.result (eps : List EP) (us : List Name) : PC → PopOut
  | .done r => r
  | .added c => indexResult (readyList eps us) c
  | .start => .panic

/-- the result thread `t` has produced or is bound to produce -/
def final (eps : List EP) (uss : List (List Name)) (pcs : List PC) (t : Nat) : PopOut :=
  match pcs[t]? with
  | some pc => PC.result eps (usAt uss t) pc
  | none => .panic

theorem final_set (eps : List EP) (uss : List (List Name)) {pcs : List PC} {t : Nat} (ht : t < pcs.length) (pc : PC) (t' : Nat) :
    final eps uss (pcs.set t pc) t' = if t = t' then PC.result eps (usAt uss t') pc else final eps uss pcs t' := by
  unfold final
  by_cases h : t = t'
  · rw [if_pos h, ← h, List.getElem?_set_self ht]
  · rw [if_neg h, List.getElem?_set_ne h]

theorem cstep_start {eps : List EP} {uss : List (List Name)} {sys : Sys} {t : Nat} {us : List Name}
    (hu : uss[t]? = some us) (hp : sys.pcs[t]? = some .start) :
    ∃ pc, pc ≠ .start ∧ PC.result eps us pc = (pop eps sys.lb us).1 ∧
      cstep eps uss sys t = { lb := (pop eps sys.lb us).2, pcs := sys.pcs.set t pc, log := sys.log ++ [t] } := by
  unfold cstep
  rw [hu, hp]
  simp only
  split
  · next h =>
    rw [pop_multi eps sys.lb us h]
    exact ⟨.added _, nofun, rfl, rfl⟩
  · next h =>
    rw [pop_few eps sys.lb us h]
    exact ⟨.done _, nofun, rfl, rfl⟩

theorem popMany_append (eps : List EP) (lb : List (Key × Nat)) (xs : List (List Name)) (us : List Name) :
    popMany eps lb (xs ++ [us]) =
      ((popMany eps lb xs).1 ++ [(pop eps (popMany eps lb xs).2 us).1], (pop eps (popMany eps lb xs).2 us).2) := by
  induction xs generalizing lb with
  | nil => rfl
  | cons x xs ih => simp only [List.cons_append, popMany, ih]

/-- what the threads that have left `start` have or will have answered, and the cursors, are those of the sequential run in the
    order of their first steps (`log`) -/
structure CInv (eps : List EP) (uss : List (List Name)) (lb0 : List (Key × Nat)) (sys : Sys) : Prop where
  view : sys.log.map (final eps uss sys.pcs) = (popMany eps lb0 (sys.log.map (usAt uss))).1
  lb : sys.lb = (popMany eps lb0 (sys.log.map (usAt uss))).2
  started : ∀ t, t ∈ sys.log ↔ t < uss.length ∧ sys.pcs[t]? ≠ some .start
  nodup : sys.log.Nodup

theorem cinv_init (eps : List EP) (uss : List (List Name)) (lb0 : List (Key × Nat)) :
    CInv eps uss lb0 (cinit lb0 uss.length) := by
  refine ⟨rfl, rfl, fun t => ⟨nofun, fun ⟨ht, h⟩ => ?_⟩, List.nodup_nil⟩
  exact absurd (by simp [cinit, ht]) h

/-- `CInv.started` after thread `t` has moved to `pc`; `log'` is the log then: `log` itself or `log ++ [t]`, both of which `hlog` fits -/
theorem started_set {n : Nat} {pcs : List PC} {log log' : List Nat} (hs : ∀ t, t ∈ log ↔ t < n ∧ pcs[t]? ≠ some .start)
    {t : Nat} {pc : PC} (htn : t < n) (ht : t < pcs.length) (hpc : pc ≠ .start) (hlog : ∀ t', t' ∈ log' ↔ t' ∈ log ∨ t' = t) (t' : Nat) :
    t' ∈ log' ↔ t' < n ∧ (pcs.set t pc)[t']? ≠ some .start := by
  rw [hlog, hs, List.getElem?_set]
  by_cases h : t = t'
  · subst h
    rw [if_pos rfl, if_pos ht]
    exact ⟨fun _ => ⟨htn, fun x => hpc (Option.some.inj x)⟩, fun _ => .inr rfl⟩
  · rw [if_neg h]
    exact ⟨fun x => x.resolve_right (Ne.symm h), .inl⟩

section
variable {eps : List EP} {uss : List (List Name)} {lb0 : List (Key × Nat)} {sys : Sys}

theorem cinv_step (h : CInv eps uss lb0 sys) (t : Nat) : CInv eps uss lb0 (cstep eps uss sys t) := by
  cases hu : uss[t]? with
  | none => unfold cstep; rw [hu]; exact h
  | some us =>
    have htn : t < uss.length := (List.getElem?_eq_some_iff.1 hu).1
    have husAt : usAt uss t = us := by rw [usAt, hu]; rfl
    cases hp : sys.pcs[t]? with
    | none => unfold cstep; rw [hu, hp]; exact h
    | some pc =>
      have htp : t < sys.pcs.length := (List.getElem?_eq_some_iff.1 hp).1
      cases pc with
      | done r => unfold cstep; rw [hu, hp]; exact h
      | added c =>
        unfold cstep; rw [hu, hp]
        refine ⟨?_, h.lb, started_set h.started htn htp nofun fun t' => ?_, h.nodup⟩
        · rw [← h.view]
          refine List.map_congr_left fun t' _ => ?_
          rw [final_set eps uss htp]
          split
          · next ht => rw [← ht, final, hp, husAt]; rfl
          · rfl
        · exact ⟨.inl, fun x => x.elim id fun e => e ▸ (h.started t).2 ⟨htn, by rw [hp]; nofun⟩⟩
      | start =>
        obtain ⟨pc, hpc, hres, heq⟩ := cstep_start (eps := eps) hu hp
        have hnot : t ∉ sys.log := fun hm => ((h.started t).1 hm).2 hp
        rw [heq]
        refine ⟨?_, ?_, started_set h.started htn htp hpc fun t' => by rw [List.mem_append, List.mem_singleton],
          List.nodup_append.2 ⟨h.nodup, List.pairwise_singleton _ t, fun a ha b hb => by rw [List.mem_singleton.1 hb]; exact fun x => hnot (x ▸ ha)⟩⟩
        · show (sys.log ++ [t]).map (final eps uss (sys.pcs.set t pc)) = _
          have hold : sys.log.map (final eps uss (sys.pcs.set t pc)) = sys.log.map (final eps uss sys.pcs) :=
            List.map_congr_left fun t' ht' => by rw [final_set eps uss htp, if_neg fun (x : t = t') => hnot (x ▸ ht')]
          rw [List.map_append, List.map_append, hold, List.map_singleton, List.map_singleton, popMany_append, husAt, ← h.lb,
            ← h.view, final_set eps uss htp, if_pos rfl, husAt, hres]
        · show (pop eps sys.lb us).2 = _
          rw [List.map_append, List.map_singleton, popMany_append, husAt, ← h.lb]

theorem cinv_run (h : CInv eps uss lb0 sys) (sched : List Nat) : CInv eps uss lb0 (crun eps uss sys sched) :=
  foldl_inv (CInv eps uss lb0) _ sched (fun _ t _ h => cinv_step h t) sys h

end


/-! ## C14: Syncs that do not change the server list -/

/-- the same endpoints with the same disabled marks (order, duplicates and the rest of the spec may differ) -/
def sameServers (old new : List Server) : Prop :=
  ∀ n, (n ∈ serverNames old ↔ n ∈ serverNames new) ∧ specDisabled old n = specDisabled new n

theorem addOrUpdate_noop {gen : Nat} {eps : List EP} {n : Name} {d : Bool} (hnd : (eps.map (·.name)).Nodup)
    (hn : n ∈ eps.map (·.name)) (hfix : ∀ e, load eps n = some e → e.disabled = d ∧ e.probing = !e.disabled) :
    addOrUpdateEndpoint gen eps n d = eps := by
  unfold addOrUpdateEndpoint
  cases hl : load eps n with
  | none => exact absurd hn (load_none_iff.1 hl)
  | some e0 =>
    refine updateAt_fix hnd fun e he => ?_
    obtain ⟨h1, h2⟩ := hfix e he
    subst h1
    exact ensureHC_fix e h2

theorem resync_noop {s : State} {a : Abs} (h : Sim s a) (servers : List Server) (pols : List (List Name))
    (hs : sameServers a.servers servers) : (sync s servers pols).eps = s.eps ∧ (sync s servers pols).lb = s.lb := by
  show (syncEndpoints s servers).eps = s.eps ∧ (syncEndpoints s servers).lb = s.lb
  have hmem : ∀ n, n ∈ s.eps.map (·.name) ↔ n ∈ serverNames servers := fun n => by
    rw [← sim_inServers_iff h n, ← (hs n).1]
    exact List.contains_iff_mem
  refine ⟨?_, syncEndpoints_lb s servers hmem⟩
  rw [syncEndpoints_eps, List.filter_eq_self.2 fun e he => List.contains_iff_mem.2 ((hmem _).1 (List.mem_map_of_mem he))]
  -- every call of the loop finds its object and leaves it as it is
  refine foldl_inv (· = s.eps) _ _ (fun eps n hn heq => ?_) _ rfl
  subst heq
  refine addOrUpdate_noop h.nodup ((hmem n).2 ((mem_dedup _ _).1 hn)) fun e he => ?_
  exact ⟨by rw [h.disabled_eq he, (hs n).2], h.probing_eq he⟩

theorem sameServers_of_common {a b c : List Server} (h1 : sameServers a b) (h2 : sameServers a c) : sameServers b c :=
  fun n => ⟨((h1 n).1.symm).trans (h2 n).1, ((h1 n).2.symm).trans (h2 n).2⟩

theorem runEvents_resyncs {s : State} {a : Abs} (h : Sim s a) (events : List Event)
    (hev : ∀ sv pl, Event.sync sv pl ∈ events → sameServers a.servers sv) :
    (runEvents s events).2 = (popMany s.eps s.lb (picksOf events)).1 := by
  induction events generalizing s a with
  | nil => rfl
  | cons ev rest ih =>
    cases ev with
    | pick us =>
      exact congrArg _ (ih (sim_lb h (pop s.eps s.lb us).2) fun sv pl hm => hev sv pl (List.mem_cons_of_mem _ hm))
    | sync sv pl =>
      have hsame := hev sv pl List.mem_cons_self
      obtain ⟨heps, hlb⟩ := resync_noop h sv pl hsame
      have := ih (sim_sync h sv pl) fun sv' pl' hm => sameServers_of_common hsame (hev sv' pl' (List.mem_cons_of_mem _ hm))
      rw [heps, hlb] at this
      exact this


/-! ## C14: requests with an authentication pick; probes that change nothing -/

theorem runReqs_eq (own : Bool) (eps : List EP) (lb lbA : List (Key × Nat)) (reqs : List Req)
    (h : own = true ∨ ∀ r, r ∈ reqs → r.authOrder = none) :
    runReqs own eps lb lbA reqs = (popMany eps lb (reqs.map (·.us))).1 := by
  induction reqs generalizing lb lbA with
  | nil => rfl
  | cons r rest ih =>
    have ih' := fun lb lbA => ih lb lbA (h.imp_right fun h r' hr' => h r' (List.mem_cons_of_mem _ hr'))
    cases hr : r.authOrder with
    | none => simp only [runReqs, hr, List.map_cons, popMany, ih']
    | some order =>
      rcases h with rfl | h
      · simp only [runReqs, hr, if_true, List.map_cons, popMany, ih']
      · cases (h r List.mem_cons_self).symm.trans hr

theorem readyKey_updateAt (eps : List EP) (n : Name) {f : EP → EP} {hv : Option Bool} (hf : Method f hv)
    (hr : ∀ e, load eps n = some e → hv.getD e.healthy = e.healthy) (us : List Name) :
    (readyList (updateAt eps n f) us).map EP.id = (readyList eps us).map EP.id := by
  rw [readyList_eq, readyList_eq, List.map_filterMap, List.map_filterMap]
  congr 1
  funext m
  rw [load_updateAt _ _ _ _ hf.name]
  split
  · next hm =>
    subst hm
    cases hl : load eps m with
    | none => rfl
    | some e => simp [Option.filter, EP.isReady, EP.id, hf.name, hf.gen, hf.disabled, hf.healthy, hr e hl]
  · rfl


/-! ## C14: several policies, each with its own cursors -/

theorem runPolicies_own (eps : List EP) (p : Nat) (lbs : Nat → List (Key × Nat)) (evs : List (Nat × List Name)) :
    ((runPolicies true eps lbs evs).filter (fun x => x.1 == p)).map (·.2)
      = (popMany eps (lbs p) ((evs.filter (fun x => x.1 == p)).map (·.2))).1 := by
  induction evs generalizing lbs with
  | nil => rfl
  | cons ev rest ih =>
    obtain ⟨q, us⟩ := ev
    simp only [runPolicies, if_true, List.filter_cons]
    by_cases hq : q = p
    · subst hq
      simp only [beq_self_eq_true, if_true, List.map_cons, popMany]
      rw [ih, if_pos rfl]
    · rw [if_neg (by simpa using hq), if_neg (by simpa using hq), ih, if_neg (Ne.symm hq)]

end KG.Lemmas.Endpoints
