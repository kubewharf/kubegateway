import KG.Spec.LimiterLoop
import KG.Lemmas.RemoteLimiter
import KG.Props.C07
import KG.Props.C09
import KG.Lemmas.Reclaim
/-! Lemmas for the closed loop (`KG.Model.LimiterLoop`). Server side: `SInv` is C07's `InvH`; a property of single
records that the four changes of a record keep (`Kept`) holds of every record through every move of the records (`Recs`).
Gateway side: `LimOK`, one `upstreamLimiter` under C09's step, a state of C09's model (`GwReach`). Both make `LInv`, from
which the judge's clauses follow. `toReclaim` maps the server onto C18's model: a pass of the loop is C18's `sweep`. -/
namespace KG.Lemmas.LimiterLoop
open KG KG.Model KG.Model.LimiterLoop KG.Spec.LimiterLoop
open KG.Model.Alloc (sumQ onesQ lookupD setQuota)

/-! ## association lists -/

/-- so C07's lookup lemmas serve every map of the loop -/
theorem aget_eq {α : Type} (l : List (Nat × α)) (k : Nat) : aget l k = l.lookup k := by
  induction l with
  | nil => rfl
  | cons p rest ih => obtain ⟨j, v⟩ := p; rw [KG.Lemmas.lookup_cons_ite, ← ih]; rfl

theorem aget_mem {α : Type} {l : List (Nat × α)} {k : Nat} {v : α} (h : aget l k = some v) : (k, v) ∈ l :=
  KG.Lemmas.mem_of_lookup (aget_eq l k ▸ h)

theorem mem_aset {α : Type} {l : List (Nat × α)} {k : Nat} {v : α} {p : Nat × α} (h : p ∈ aset l k v) :
    p = (k, v) ∨ (p ∈ l ∧ p.1 ≠ k) := by
  unfold aset at h
  rcases List.mem_cons.1 h with e | e
  · exact Or.inl e
  · exact Or.inr ⟨(List.mem_filter.1 e).1, by simpa using (List.mem_filter.1 e).2⟩

theorem aget_cons {α : Type} (i : Nat) (w : α) (l : List (Nat × α)) (j : Nat) :
    aget ((i, w) :: l) j = if i = j then some w else aget l j := rfl

theorem aget_adel {α : Type} (l : List (Nat × α)) (k j : Nat) :
    aget (adel l k) j = if j = k then none else aget l j := by
  rw [aget_eq, aget_eq, adel, KG.Lemmas.lookup_filter_key l (· != k) j]
  by_cases h : j = k
  · rw [if_pos h, if_neg (by simp [h])]
  · rw [if_neg h, if_pos (by simpa using h)]

theorem aget_adel_self {α : Type} (l : List (Nat × α)) (k : Nat) : aget (adel l k) k = none := by
  rw [aget_adel, if_pos rfl]

theorem aget_aset {α : Type} (l : List (Nat × α)) (k j : Nat) (v : α) :
    aget (aset l k v) j = if j = k then some v else aget l j := by
  rw [aset, aget_cons, aget_adel]
  by_cases h : j = k
  · rw [if_pos h.symm, if_pos h]
  · rw [if_neg (Ne.symm h), if_neg h, if_neg h]

theorem aget_map {α : Type} (l : List (Nat × α)) (f : Nat → α → α) (k : Nat) :
    aget (l.map fun p => (p.1, f p.1 p.2)) k = (aget l k).map (f k) := by
  induction l with
  | nil => rfl
  | cons p rest ih =>
    obtain ⟨i, w⟩ := p
    simp only [List.map_cons, aget]
    by_cases hi : i = k
    · subst hi; simp
    · simp only [hi, if_false]; exact ih

/-! ## the recorded-quota invariant of one upstream's store -/

/-- C07's history invariant relative to `hi`, the largest limit in force since the record began (`KG.Props.C07.InvH`);
    with `hi = total` it is `KG.Props.C07.Inv` -/
structure SInv (e : UpStore) : Prop where
  limit : 1 ≤ e.srv.total
  hi : e.srv.total ≤ e.hi
  ge_one : ∀ p ∈ e.srv.quotas, 1 ≤ p.2
  recorded : sumQ e.srv.quotas ≤ e.srv.recSum
  slack : sumQ e.srv.quotas - onesQ e.srv.quotas ≤ e.hi

theorem sinv_iff_invH (e : UpStore) : SInv e ↔ KG.Props.C07.InvH e.hi e.srv :=
  ⟨fun h => ⟨h.limit, h.hi, h.ge_one, h.recorded, KG.Props.C07.slack_eq _ ▸ h.slack⟩,
   fun h => ⟨h.limit, h.hi, h.ge_one, h.recorded, KG.Props.C07.slack_eq _ ▸ h.slack⟩⟩

theorem sinv_c07 {e : UpStore} (h : SInv e) (hh : e.hi = e.srv.total) : KG.Props.C07.Inv e.srv :=
  (KG.Props.C07.inv_iff_invH _).2 (hh ▸ (sinv_iff_invH e).1 h)

theorem c07_sinv {e : UpStore} (h : KG.Props.C07.Inv e.srv) (hh : e.hi = e.srv.total) : SInv e :=
  (sinv_iff_invH e).2 (hh ▸ (KG.Props.C07.inv_iff_invH _).1 h)

theorem sinv_fresh {t : Int} (ht : 1 ≤ t) : SInv (UpStore.fresh t) :=
  ⟨ht, Int.le_refl _, nofun, Int.le_refl 0, show (0 : Int) - 0 ≤ t by omega⟩

theorem sinv_setLimit {e : UpStore} (h : SInv e) {t : Int} (ht : 1 ≤ t) : SInv (e.setLimit t) :=
  (sinv_iff_invH _).2 (KG.Props.C07.invH_setLimit ((sinv_iff_invH e).1 h) ht
    (by show e.hi ≤ if e.hi < t then t else e.hi; split <;> omega)
    (by show t ≤ if e.hi < t then t else e.hi; split <;> omega))

theorem sinv_report {e : UpStore} (h : SInv e) (i : Nat) (x m : Rat) (used lvl : Int) :
    SInv (e.report i x m used lvl) :=
  (sinv_iff_invH _).2 (KG.Props.C07.invH_report ((sinv_iff_invH e).1 h) i x m)

theorem sinv_drop {e : UpStore} (h : SInv e) (p : Nat → Bool) : SInv (e.drop p) :=
  (sinv_iff_invH _).2 (KG.Props.C07.invH_filter ((sinv_iff_invH e).1 h) _)

/-! ## records under drops and reports -/

theorem lookup_drop (e : UpStore) (p : Nat → Bool) (j : Nat) :
    (e.drop p).srv.quotas.lookup j = if p j then none else e.srv.quotas.lookup j :=
  (KG.Lemmas.lookup_filter_key e.srv.quotas (fun i => !p i) j).trans (by cases p j <;> rfl)

/-- what a pass does to one record: the instances `D` selects are gone, everybody else's record and the limit stay; so does
    the recorded sum: the next report recomputes it, not the pass -/
theorem drop_spec (e : UpStore) (D : Nat → Bool) :
    (∀ d, D d = true → (e.drop D).has d = false ∧ (e.drop D).quotaOf d = 0) ∧
    (∀ j, D j = false → (e.drop D).quotaOf j = e.quotaOf j ∧ (e.drop D).has j = e.has j) ∧
    (e.drop D).srv.total = e.srv.total ∧ (e.drop D).srv.recSum = e.srv.recSum :=
  ⟨fun d hd => by simp [UpStore.has, UpStore.quotaOf, lookupD, lookup_drop, hd],
   fun j hj => by simp [UpStore.has, UpStore.quotaOf, lookupD, lookup_drop, hj], rfl, rfl⟩

theorem lookup_report (e : UpStore) (i : Nat) (x m : Rat) (used lvl : Int) (j : Nat) :
    (e.report i x m used lvl).srv.quotas.lookup j
      = if i = j then some (Alloc.answer e.srv i x m) else e.srv.quotas.lookup j :=
  KG.Props.C07.lookup_setQuota _ _ _ _

theorem quotaOf_report (e : UpStore) (i : Nat) (x m : Rat) (used lvl : Int) (j : Nat) :
    (e.report i x m used lvl).quotaOf j = if i = j then Alloc.answer e.srv i x m else e.quotaOf j := by
  simp only [UpStore.quotaOf, lookupD, lookup_report]
  split <;> rfl

theorem answer_takes_all (s : Alloc.Srv) (i : Nat) (x m : Rat) (hm : m ≤ x)
    (hx : ((lookupD s.quotas i + (s.total - s.recSum) : Int) : Rat) ≤ x)
    (h1 : 1 ≤ lookupD s.quotas i + (s.total - s.recSum)) (h2 : lookupD s.quotas i + (s.total - s.recSum) ≤ s.total) :
    Alloc.answer s i x m = lookupD s.quotas i + (s.total - s.recSum) := by
  have hcast : ((lookupD s.quotas i + (s.total - s.recSum) : Int) : Rat)
      = (lookupD s.quotas i : Rat) + ((s.total : Rat) - (s.recSum : Rat)) := by
    rw [Rat.intCast_add, Rat.intCast_sub]
  unfold Alloc.answer
  rw [KG.Props.C07.tailPre_takes_all x m _ _ _ hm (hcast ▸ hx) (hcast ▸ Rat.intCast_le_intCast.2 h1)
    (hcast ▸ Rat.intCast_le_intCast.2 h2), ← hcast]
  exact Rat.ceil_intCast _

/-! ## the limiter server

An invariant of the server speaks of each record it keeps, in a store or as an API copy the next holder will load. What
happens to one record is `Kept`; where the records go (hand-over, reload, write-through) is done once, for `Recs`. -/

structure SrvInv (s : Server) : Prop where
  ups : ∀ p ∈ s.ups, SInv p.2
  api : ∀ p ∈ s.api, SInv p.2
  listed : ∀ p ∈ s.listed, 1 ≤ p.2

/-- `P` holds of every record the server keeps; `L` is its lister -/
structure Recs (L : List (Nat × Int)) (P : Nat → UpStore → Prop) (s : Server) : Prop where
  listed : s.listed = L
  ups : ∀ p ∈ s.ups, P p.1 p.2
  api : ∀ p ∈ s.api, P p.1 p.2

/-- `P` survives whatever the server does to one record while the lister is `L` -/
structure Kept (L : List (Nat × Int)) (P : Nat → UpStore → Prop) : Prop where
  fresh : ∀ {u t}, aget L u = some t → P u (.fresh t)
  setLimit : ∀ {u t e}, aget L u = some t → P u e → P u (e.setLimit t)
  report : ∀ {u e} i x m used lvl, P u e → P u (e.report i x m used lvl)
  drop : ∀ {u e} p, P u e → P u (e.drop p)

theorem serving_mem (shardOf : Nat → Nat) {s : Server} {u : Nat} {e : UpStore} (h : s.serving shardOf u = some e) :
    (u, e) ∈ s.ups := by
  unfold Server.serving at h
  split at h
  · exact aget_mem h
  · cases h

theorem persist_api (s : Server) : ∃ api, s.persist = { s with api := api } ∧ ∀ p ∈ api, p ∈ s.ups ∨ p ∈ s.api := by
  unfold Server.persist
  split
  · exact ⟨_, rfl, fun p hp => (List.mem_append.1 hp).imp id fun h => (List.mem_filter.1 h).1⟩
  · exact ⟨s.api, rfl, fun _ => Or.inr⟩

theorem persist_ups (s : Server) : s.persist.ups = s.ups := by
  obtain ⟨_, e, _⟩ := persist_api s; rw [e]

theorem persist_hb (s : Server) : s.persist.hb = s.hb := by
  obtain ⟨_, e, _⟩ := persist_api s; rw [e]

theorem report_refused (shardOf : Nat → Nat) {s : Server} {u : Nat} (h : s.serving shardOf u = none) (i : Nat)
    (x m : Rat) (used lvl : Int) : s.report shardOf u i x m used lvl = (s, none) := by
  simp only [Server.report, h]

theorem report_served (shardOf : Nat → Nat) {s : Server} {u : Nat} {e : UpStore} (h : s.serving shardOf u = some e)
    (i : Nat) (x m : Rat) (used lvl : Int) :
    s.report shardOf u i x m used lvl =
      (({ s with ups := aset s.ups u (e.report i x m used lvl) } : Server).persist, some (Alloc.answer e.srv i x m)) := by
  simp only [Server.report, h, quotaOf_report, if_true]

section
variable {L : List (Nat × Int)} {P : Nat → UpStore → Prop} (shardOf : Nat → Nat)

theorem recs_persist {s : Server} (h : Recs L P s) : Recs L P s.persist := by
  obtain ⟨api, e, ha⟩ := persist_api s
  rw [e]
  exact ⟨h.listed, h.ups, fun p hp => (ha p hp).elim (h.ups p) (h.api p)⟩

theorem recs_handle (k : Kept L P) {s : Server} (h : Recs L P s) (u : Nat) : Recs L P (s.handle shardOf u) := by
  unfold Server.handle
  simp only
  split
  · exact h
  · split
    · exact h
    · split
      · exact h
      · rename_i t ht
        rw [h.listed] at ht
        refine recs_persist ⟨h.listed, fun p hp => ?_, h.api⟩
        rcases mem_aset hp with e | e
        · subst e
          show P u (match aget s.ups u with | some e => e.setLimit t | none => UpStore.fresh t)
          split
          · exact k.setLimit ht (h.ups _ (aget_mem ‹_›))
          · exact k.fresh ht
        · exact h.ups p e.1

theorem recs_startLeading (k : Kept L P) {s : Server} (h : Recs L P s) (n : Nat) :
    Recs L P (s.startLeading shardOf n) := by
  unfold Server.startLeading
  split
  · exact h
  · refine foldl_inv (Recs L P) _ _ (fun st p _ hst => recs_handle shardOf k hst p.1) _ ⟨h.listed, fun p hp => ?_, h.api⟩
    rcases List.mem_append.1 hp with e | e
    · split at e
      · exact h.api p (List.mem_filter.1 e).1
      · cases e
    · exact h.ups p (List.mem_filter.1 e).1

theorem recs_stopLeading {s : Server} (h : Recs L P s) (n : Nat) : Recs L P (s.stopLeading shardOf n) :=
  ⟨h.listed, fun p hp => h.ups p (List.mem_filter.1 hp).1, h.api⟩

theorem recs_leaderCheck (k : Kept L P) {s : Server} (h : Recs L P s) : Recs L P (s.leaderCheck shardOf) :=
  foldl_inv (Recs L P) _ _ (fun _ n _ hst => recs_stopLeading shardOf hst n) _
    (foldl_inv (Recs L P) _ _ (fun _ n _ hst => recs_startLeading shardOf k hst n) _ h)

/-- a clean-up pass: in every store, records are dropped or left alone -/
theorem recs_cleanup (k : Kept L P) {s : Server} (h : Recs L P s) (hb : List (Nat × Nat)) (c : Nat → Bool)
    (d : Nat × UpStore → Nat → Bool) :
    Recs L P ({ s with hb := hb, ups := s.ups.map (fun p => (p.1, if c p.1 then p.2.drop (d p) else p.2)) } : Server) := by
  refine ⟨h.listed, fun p hp => ?_, h.api⟩
  obtain ⟨q, hq, rfl⟩ := List.mem_map.1 hp
  show P q.1 (if c q.1 then q.2.drop (d q) else q.2)
  split
  · exact k.drop _ (h.ups q hq)
  · exact h.ups q hq

theorem recs_report (k : Kept L P) {s : Server} (h : Recs L P s) (u i : Nat) (x m : Rat) (used lvl : Int) :
    Recs L P (s.report shardOf u i x m used lvl).1 := by
  cases he : s.serving shardOf u with
  | none => rw [report_refused shardOf he]; exact h
  | some e =>
    rw [report_served shardOf he]
    refine recs_persist ⟨h.listed, fun p hp => ?_, h.api⟩
    rcases mem_aset hp with e' | e'
    · subst e'; exact k.report _ _ _ _ _ (h.ups _ (serving_mem shardOf he))
    · exact h.ups p e'.1

end

theorem sinv_kept {L : List (Nat × Int)} (hL : ∀ p ∈ L, 1 ≤ p.2) : Kept L (fun _ e => SInv e) :=
  ⟨fun ht => sinv_fresh (hL _ (aget_mem ht)), fun ht h => sinv_setLimit h (hL _ (aget_mem ht)),
   fun i x m used lvl h => sinv_report h i x m used lvl, fun p h => sinv_drop h p⟩

/-! ## the gateway side: C09's `step` on the three ops of the loop -/

open RemoteLimiter (maxInt32 bound toU32)

theorem bound_le_self (v g : Int) (hv : 0 ≤ v) : bound v g ≤ v := by
  simp only [bound]; split <;> split <;> omega

/-- the remote wrapper of an allocate schema: the answered item, the bounded item, the limiter built from it -/
def remShape (q b : Int) : RemoteLimiter.Remote :=
  ⟨some (mkItem q), some (mkItem b), some (.empty (.mi b))⟩

/-- the remote wrapper holds the answer `q` bounded by `tv`, a view of the global limit the gateway had; `fresh`: `tv` is the
    current view `t` ("the gateway applied the last answer") -/
structure RemoteOK (fresh : Bool) (t : Int) (r : Option RemoteLimiter.Remote) (q tv : Int) : Prop where
  tv_nonneg : 0 ≤ tv
  tv_le : tv ≤ maxInt32
  view : fresh = true → tv = t
  eq : r = some (remShape q (bound q tv))

/-- the shape of a loop gateway's `flowControlCache` with local limit `l` and view `t` of the global limit -/
structure CacheShape (fresh : Bool) (c : RemoteLimiter.Cache) (l t : Int) : Prop where
  l_nonneg : 0 ≤ l
  l_le : l ≤ t
  t_le : t ≤ maxInt32
  loc : c.loc = ⟨mkSchema l t, some (.mi l)⟩
  remote : c.remote = none ∨ ∃ q tv, RemoteOK fresh t c.remote q tv

def CacheOK (fresh : Bool) (c : RemoteLimiter.Cache) : Prop := ∃ l t, CacheShape fresh c l t

/-- `st` is a state of C09's model, reached by an operation list inside C09's quantifier -/
def GwReach (st : RemoteLimiter.State) : Prop :=
  ∃ log, KG.Props.C09.Allowed .mi log ∧ RemoteLimiter.exec {} log = some st

/-- one `upstreamLimiter` of the loop; `reach` makes C09's theorems about reachable states apply to it -/
structure LimOK (fresh : Bool) (st : RemoteLimiter.State) : Prop where
  shape : ∀ c, st.cache = some c → CacheOK fresh c
  reach : GwReach st

theorem LimOK.mono {f f' : Bool} {st : RemoteLimiter.State} (h : LimOK f st) (hf : f' = true → f = true) : LimOK f' st :=
  ⟨fun c hc => by
    obtain ⟨l, t, hs⟩ := h.shape c hc
    exact ⟨l, t, { hs with
      remote := hs.remote.imp id fun ⟨q, tv, hr⟩ => ⟨q, tv, { hr with view := fun e => hr.view (hf e) }⟩ }⟩,
   h.reach⟩

theorem exec_snoc : ∀ (log : List RemoteLimiter.Op) (st st' st'' : RemoteLimiter.State) (op : RemoteLimiter.Op),
    RemoteLimiter.exec st log = some st' → RemoteLimiter.step st' op = .ok st'' →
    RemoteLimiter.exec st (log ++ [op]) = some st''
  | [], st, st', st'', op, h1, h2 => by
    simp only [RemoteLimiter.exec, Option.some.injEq] at h1
    subst h1
    simp [RemoteLimiter.exec, h2]
  | o :: rest, st, st', st'', op, h1, h2 => by
    simp only [List.cons_append, RemoteLimiter.exec] at h1 ⊢
    cases hs : RemoteLimiter.step st o with
    | error e => rw [hs] at h1; cases h1
    | ok s1 =>
      rw [hs] at h1
      simp only at h1 ⊢
      exact exec_snoc rest s1 st' st'' op h1 h2

theorem gwReach_step {st st' : RemoteLimiter.State} {op : RemoteLimiter.Op} (h : GwReach st)
    (hs : RemoteLimiter.step st op = .ok st') (hop : KG.Props.C09.Allowed .mi [op]) : GwReach st' := by
  obtain ⟨log, h1, h2⟩ := h
  refine ⟨log ++ [op], fun o ho => ?_, exec_snoc log _ _ _ op h2 hs⟩
  rcases List.mem_append.1 ho with e | e
  · exact h1 o e
  · exact hop o e

theorem limOK_init (f : Bool) (n : Nat) : LimOK f (gwInit n) :=
  ⟨fun _ hc => (nomatch hc), [.shards n], fun o ho => by cases List.mem_singleton.1 ho; trivial, rfl⟩

theorem vs_mk {l t : Int} (h0 : 0 ≤ l) (h1 : l ≤ t) (h2 : t ≤ maxInt32) : KG.Lemmas.RemoteLimiter.VS .mi (mkSchema l t) :=
  .mi .alloc l t h0 h1 h2

theorem mkItem_inj {a b : Int} (h : mkItem a = mkItem b) : a = b := by
  simp [mkItem] at h; exact h

theorem bound_mk (l t n : Int) : RemoteLimiter.boundByGlobalLimit (mkSchema l t) (mkItem n) = mkItem (bound n t) := by
  simp [RemoteLimiter.boundByGlobalLimit, mkItem, mkSchema, RemoteLimiter.Schema.globalMax]

theorem newGFC_mk {b : Int} (h0 : 0 ≤ b) (h1 : b ≤ maxInt32) :
    RemoteLimiter.newGFC (mkItem b) = .ok (.empty (.mi b)) := by
  simp [RemoteLimiter.newGFC, RemoteLimiter.toSchema, mkItem, RemoteLimiter.newLim, RemoteLimiter.guessType,
    RemoteLimiter.newCounter, KG.Lemmas.RemoteLimiter.toU32_id h0 h1, bind, Except.bind]

/-- `remoteWrapper.Sync` of an answer, the first or a later one -/
theorem remoteSync_mk (l t n : Int) (h0 : 0 ≤ t) (h1 : t ≤ maxInt32) {r : RemoteLimiter.Remote}
    (hr : r = {} ∨ ∃ q b, r = remShape q b) :
    RemoteLimiter.remoteSync r (mkSchema l t) (mkItem n) = .ok (remShape n (bound n t)) := by
  have hb := KG.Lemmas.RemoteLimiter.bound_range n t h0
  have hb1 : bound n t ≤ maxInt32 := by omega
  rcases KG.Lemmas.RemoteLimiter.remoteSync_cases r (mkSchema l t) (mkItem n) with
    ⟨c1, c2, -, e⟩ | ⟨g, n', b', hg, -, -, -, e, hn⟩ | ⟨-, -, hmis, e⟩ <;> rw [e, bound_mk] at * <;> clear e
  · -- nothing to do: it holds this answer already
    rcases hr with rfl | ⟨q, b, rfl⟩
    · cases c1
    · rw [← mkItem_inj (Option.some.inj c1), ← mkItem_inj (Option.some.inj c2)]
  · -- resized in place: it held a limiter of the same type and strategy
    rcases hr with rfl | ⟨q, b, rfl⟩
    · cases hg
    · cases hg
      rcases hn with ⟨am, ham, rfl, -⟩ | ⟨_, ham, _⟩
      · cases ham
        simp [remShape, RemoteLimiter.GFC.resize, KG.Lemmas.RemoteLimiter.toU32_id hb.1 hb1,
          KG.Lemmas.RemoteLimiter.resize_mi]
      · cases ham
  · -- built anew: only when it held nothing
    rcases hr with rfl | ⟨q, b, rfl⟩
    · simp [newGFC_mk hb.1 hb1, remShape, bind, Except.bind]; rfl
    · rcases hmis _ rfl with h | h | h
      · exact absurd rfl h
      · exact absurd rfl h
      · cases h

/-- a schema sync keeps the remote limiter; it stays fresh only if the view of the global limit does not change -/
theorem limStep_schema {f f' : Bool} {st : RemoteLimiter.State} (h : LimOK f st) {l t : Int} (h0 : 0 ≤ l) (h1 : l ≤ t)
    (h2 : t ≤ maxInt32) (hf : f' = true → f = true ∧ view st = some t) :
    ∃ st', RemoteLimiter.step st (.schema (mkSchema l t)) = .ok st' ∧ LimOK f' st' := by
  have hv := vs_mk h0 h1 h2
  have key : ∃ st' c', RemoteLimiter.step st (.schema (mkSchema l t)) = .ok st' ∧ st'.cache = some c' ∧
      c'.loc = ⟨mkSchema l t, some (.mi l)⟩ ∧ c'.remote = st.cache.bind (·.remote) := by
    cases hc : st.cache with
    | none =>
      simp only [RemoteLimiter.step, hc, KG.Lemmas.RemoteLimiter.VS_newLim hv]
      exact ⟨_, _, rfl, rfl, rfl, rfl⟩
    | some c =>
      obtain ⟨l0, t0, hs0⟩ := h.shape c hc
      have hsync := KG.Lemmas.RemoteLimiter.localSync_VS (l := c.loc) (vs_mk hs0.l_nonneg hs0.l_le hs0.t_le) hv
        (by rw [hs0.loc]) (by rw [hs0.loc]; rfl)
      have he : RemoteLimiter.enableGlobal (mkSchema l t) = true := rfl
      simp only [RemoteLimiter.step, hc, hsync, he, Bool.not_true, Bool.and_false, Bool.false_eq_true, if_false]
      exact ⟨_, _, rfl, rfl, rfl, rfl⟩
  obtain ⟨st', c', hstep, hst', hloc', hrem'⟩ := key
  refine ⟨st', hstep, fun c1 hc1 => ?_, gwReach_step h.reach hstep
    fun o ho => by cases List.mem_singleton.1 ho; exact KG.Lemmas.RemoteLimiter.valid_of_VS hv⟩
  obtain rfl := Option.some.inj (hst'.symm.trans hc1)
  refine ⟨l, t, { l_nonneg := h0, l_le := h1, t_le := h2, loc := hloc', remote := ?_ }⟩
  cases hc : st.cache with
  | none => rw [hrem', hc]; exact Or.inl rfl
  | some c =>
    obtain ⟨l0, t0, hs0⟩ := h.shape c hc
    rw [hrem', hc]
    refine hs0.remote.imp id fun ⟨q, tv, hr⟩ => ⟨q, tv, { hr with view := fun e => ?_ }⟩
    rw [hr.view (hf e).1]
    have hview : view st = some t0 := by simp [view, hc, hs0.loc, mkSchema]
    exact Option.some.inj (hview.symm.trans (hf e).2)

/-- an answer is applied whatever the cache held: afterwards fresh, remote = the answer bounded by the current view, and
    `raw = n` once a schema was synced -/
theorem limStep_answer {f : Bool} {st : RemoteLimiter.State} (h : LimOK f st) (n : Int) :
    ∃ st', RemoteLimiter.step st (.answer true (mkItem n)) = .ok st' ∧ LimOK true st' ∧
      (st.cache.isSome = true → raw st' = some n) := by
  have hop : KG.Props.C09.Allowed .mi [.answer true (mkItem n)] := fun o ho => by cases List.mem_singleton.1 ho; trivial
  cases hc : st.cache with
  | none =>
    have hstep : RemoteLimiter.step st (.answer true (mkItem n)) = .ok st := by simp only [RemoteLimiter.step, hc]
    exact ⟨st, hstep, ⟨fun c hc' => (nomatch hc.symm.trans hc'), h.reach⟩, fun e => (nomatch e)⟩
  | some c =>
    obtain ⟨l, t, hs⟩ := h.shape c hc
    have ht : 0 ≤ t := Int.le_trans hs.l_nonneg hs.l_le
    have hcfg : c.loc.config = mkSchema l t := by rw [hs.loc]
    have he : RemoteLimiter.enableGlobal (mkSchema l t) = true := rfl
    have hty : RemoteLimiter.itemType (mkItem n) = RemoteLimiter.guessType (mkSchema l t) := rfl
    have hsync : RemoteLimiter.remoteSync (c.remote.getD {}) (mkSchema l t) (mkItem n)
        = .ok (remShape n (bound n t)) :=
      remoteSync_mk l t n ht hs.t_le
        (hs.remote.imp (fun hr => by rw [hr]; rfl) (fun ⟨q, tv, hr⟩ => ⟨q, _, by rw [hr.eq]; rfl⟩))
    have hstep : ∃ st' c', RemoteLimiter.step st (.answer true (mkItem n)) = .ok st' ∧ st'.cache = some c' ∧
        c'.loc = c.loc ∧ c'.remote = some (remShape n (bound n t)) := by
      simp only [RemoteLimiter.step, hc, hcfg, he, hty, RemoteLimiter.cacheRemoteSync, hsync]
      simp only [bind, Except.bind, pure, Except.pure, Bool.not_true, Bool.false_eq_true, if_false, ne_eq,
        not_true_eq_false]
      exact ⟨_, _, rfl, rfl, rfl, rfl⟩
    obtain ⟨st', c', e1, e2, e3, e4⟩ := hstep
    refine ⟨st', e1, ⟨fun c1 hc1 => ?_, gwReach_step h.reach e1 hop⟩, fun _ => by simp [raw, e2, e4, remShape, mkItem]⟩
    obtain rfl := Option.some.inj (e2.symm.trans hc1)
    exact ⟨l, t, { hs with loc := by rw [e3, hs.loc], remote := Or.inr ⟨n, t, ht, hs.t_le, fun _ => rfl, e4⟩ }⟩

/-- a heartbeat outcome leaves the cache alone -/
theorem limStep_hb {f : Bool} {st : RemoteLimiter.State} (h : LimOK f st) (ok : Bool) (now : Int) :
    ∃ st', RemoteLimiter.step st (.hb ok now false) = .ok st' ∧ LimOK f st' := by
  obtain ⟨st', hstep, hc⟩ : ∃ st', RemoteLimiter.step st (.hb ok now false) = .ok st' ∧ st'.cache = st.cache := by
    simp only [RemoteLimiter.step, Bool.false_eq_true, if_false]
    exact ⟨_, rfl, rfl⟩
  exact ⟨st', hstep, fun c h' => h.shape c (hc ▸ h'),
    gwReach_step h.reach hstep fun o ho => by cases List.mem_singleton.1 ho; trivial⟩

theorem stepOr_ok {st st' : RemoteLimiter.State} {op : RemoteLimiter.Op} (h : RemoteLimiter.step st op = .ok st') :
    stepOr st op = st' := by
  simp only [stepOr, h]

/-! ## what such a gateway hands out -/

/-- all six observers of the loop, read off a cache of the `CacheOK` shape; `r`: the held quota and the size of the remote
    limiter -/
theorem obs_shape {st : RemoteLimiter.State} {c : RemoteLimiter.Cache} (hc : st.cache = some c) {l t : Int}
    (r : Option (Int × Int)) (hloc : c.loc = ⟨mkSchema l t, some (.mi l)⟩)
    (hr : c.remote = r.map fun p => remShape p.1 p.2) :
    view st = some t ∧ localLimit st = some l ∧ raw st = r.map (·.1) ∧ applied st = r.map (·.2) ∧
      usesRemote st = (r.isSome && RemoteLimiter.isReady st) ∧
      enforced st = some (match r with
        | some p => if RemoteLimiter.isReady st then p.2 else l
        | none => l) := by
  obtain ⟨loc, rem⟩ := c
  simp only at hloc hr
  subst hloc; subst hr
  refine ⟨?_, ?_, ?_, ?_, ?_, ?_⟩
  · simp [view, hc, mkSchema]
  · simp [localLimit, hc, mkSchema]
  · cases r <;> simp [raw, hc, remShape, mkItem]
  · cases r <;> simp [applied, RemoteLimiter.observe, hc, remShape, RemoteLimiter.GFC.inner, limSize]
  · cases r <;> cases hrd : RemoteLimiter.isReady st <;>
      simp [usesRemote, RemoteLimiter.load, hc, gwCfg, mkSchema, hrd, remShape]
  · cases r <;> cases hrd : RemoteLimiter.isReady st <;>
      simp [enforced, RemoteLimiter.observe, RemoteLimiter.load, hc, gwCfg, mkSchema, hrd, remShape,
        RemoteLimiter.GFC.inner, limSize]

theorem limOK_hands_out {f : Bool} {st : RemoteLimiter.State} (h : LimOK f st) (hs : st.cache.isSome = true) :
    (usesRemote st = true → RemoteLimiter.isReady st = true ∧
      ∃ q b, raw st = some q ∧ applied st = some b ∧ enforced st = some b ∧ 0 ≤ b ∧ (0 ≤ q → b ≤ q) ∧
        (f = true → ∃ t, view st = some t ∧ b = bound q t ∧ b ≤ t)) ∧
    (usesRemote st = false → ∃ l, localLimit st = some l ∧ enforced st = some l ∧ 0 ≤ l) := by
  obtain ⟨c, hc⟩ := Option.isSome_iff_exists.1 hs
  obtain ⟨l, t, hs⟩ := h.shape c hc
  rcases hs.remote with hr | ⟨q, tv, hr⟩
  · obtain ⟨_, hlocal, _, _, huses, henf⟩ := obs_shape hc none hs.loc hr
    exact ⟨fun h => (nomatch huses.symm.trans h), fun _ => ⟨l, hlocal, henf, hs.l_nonneg⟩⟩
  · obtain ⟨hview, hlocal, hraw, happlied, huses, henf⟩ := obs_shape hc (some (q, bound q tv)) hs.loc hr.eq
    have hb := KG.Lemmas.RemoteLimiter.bound_range q tv hr.tv_nonneg
    have huses : usesRemote st = RemoteLimiter.isReady st := huses
    rw [huses, henf]
    exact ⟨fun hrd => ⟨hrd, q, _, hraw, happlied, by rw [hrd]; rfl, hb.1, bound_le_self q tv, fun hf => ⟨t, hview, hr.view hf ▸ ⟨rfl, hb.2⟩⟩⟩,
      fun hrd => ⟨l, hlocal, by rw [hrd]; rfl, hs.l_nonneg⟩⟩

theorem judgeG_ok {fresh : Bool} {st : RemoteLimiter.State} (h : LimOK fresh st) (hs : st.cache.isSome = true) (id : Nat) :
    judgeG { id := id, remote := usesRemote st, enforced := (enforced st).getD 0, raw := raw st, applied := applied st,
             view := (view st).getD 0, loc := (localLimit st).getD 0, ready := RemoteLimiter.isReady st,
             fresh := fresh } = [] := by
  cases hr : usesRemote st with
  | false =>
    obtain ⟨l, hlocal, henf, _⟩ := (limOK_hands_out h hs).2 hr
    simp [judgeG, hlocal, henf]
  | true =>
    obtain ⟨hrd, q, b, hraw, happlied, henf, hb0, hle, hfr⟩ := (limOK_hands_out h hs).1 hr
    simp only [judgeG, hraw, happlied, henf, hrd, if_true, Option.getD_some]
    rw [if_pos ⟨trivial, hb0⟩, if_pos hle, if_pos fun hf => by
      obtain ⟨t, hview, e1, e2⟩ := hfr hf
      rw [hview]; exact ⟨e1, fun _ => e2⟩]
    rfl

/-! ## the gateways of the loop -/

/-- every limiter the gateway keeps, fresh where the monitor says so -/
def GwInv (g : Gw) : Prop := ∀ u st, aget g.ups u = some st → LimOK (g.fresh.contains u) st

/-- an upstream outside the loop has the limiter of a process that has just started -/
theorem GwInv.limOK {g : Gw} (h : GwInv g) (n u : Nat) : LimOK (g.fresh.contains u) (g.st n u) := by
  unfold Gw.st
  cases hu : aget g.ups u with
  | none => exact limOK_init _ n
  | some st => exact h u st hu

theorem st_entry {n : Nat} {g : Gw} {u : Nat} {st : RemoteLimiter.State} (h : aget g.ups u = some st) : g.st n u = st := by
  simp only [Gw.st, h, Option.getD_some]

theorem gwInv_started (n nUp : Nat) (g : Gw) (h1 : g.ups = freshUps n nUp) : GwInv g := by
  intro u st hu
  have := aget_mem (h1 ▸ hu)
  simp only [freshUps, List.mem_map, Prod.mk.injEq] at this
  obtain ⟨_, _, _, rfl⟩ := this
  exact limOK_init _ n

theorem entry_of_cache {n : Nat} {g : Gw} {u : Nat} (hs : ((g.st n u).cache).isSome = true) :
    ∃ st0, aget g.ups u = some st0 ∧ g.st n u = st0 := by
  cases hu : aget g.ups u with
  | none => simp [Gw.st, hu, gwInit] at hs
  | some st0 => exact ⟨st0, rfl, st_entry hu⟩

/-- one C09 step of the limiter for `u` under a new monitor `F` that claims no more elsewhere -/
theorem gwInv_apply {n : Nat} {g : Gw} (h : GwInv g) (u : Nat) (op : RemoteLimiter.Op) (F : List Nat)
    (hu : ∀ st, aget g.ups u = some st → LimOK (F.contains u) (stepOr st op))
    (hF : ∀ v, v ≠ u → F.contains v = true → g.fresh.contains v = true) :
    GwInv { g.apply n u op with fresh := F } := by
  intro v st hv
  unfold Gw.apply at hv
  cases h0 : aget g.ups u with
  | none =>
    rw [h0] at hv
    exact (h v st hv).mono (hF v (fun e => by rw [e, h0] at hv; cases hv))
  | some st0 =>
    rw [h0] at hv
    simp only [aget_aset] at hv
    split at hv
    · cases hv; subst v; exact hu st0 h0
    · exact (h v st hv).mono (hF v ‹_›)

theorem gwInv_schema {n : Nat} {g : Gw} (h : GwInv g) (u : Nat) {l t : Int} (h0 : 0 ≤ l) (h1 : l ≤ t)
    (h2 : t ≤ maxInt32) :
    GwInv { g.apply n u (.schema (mkSchema l t)) with
            fresh := if view (g.st n u) = some t then g.fresh else g.fresh.filter (· != u) } := by
  have hF : ∀ v, (if view (g.st n u) = some t then g.fresh else g.fresh.filter (· != u)).contains v = true →
      g.fresh.contains v = true ∧ (v = u → view (g.st n u) = some t) := by
    intro v hv
    split at hv
    · exact ⟨hv, fun _ => ‹_›⟩
    · simp only [List.contains_eq_mem, List.mem_filter, decide_eq_true_eq, bne_iff_ne] at hv ⊢
      exact ⟨hv.1, fun e => absurd e hv.2⟩
  refine gwInv_apply h u _ _ (fun st hst => ?_) (fun v _ hv => (hF v hv).1)
  obtain ⟨st', hstep, hok⟩ := limStep_schema (h u st hst) h0 h1 h2 (fun e => ⟨(hF u e).1, st_entry hst ▸ (hF u e).2 rfl⟩)
  exact stepOr_ok hstep ▸ hok

theorem gwInv_answer {n : Nat} {g : Gw} (h : GwInv g) (u : Nat) (q : Int) :
    GwInv { g.apply n u (.answer true (mkItem q)) with fresh := if g.fresh.contains u then g.fresh else u :: g.fresh } := by
  refine gwInv_apply h u _ _ (fun st hst => ?_) (fun v hv hvf => ?_)
  · obtain ⟨st', hstep, hok, _⟩ := limStep_answer (h u st hst) q
    exact stepOr_ok hstep ▸ hok.mono (fun _ => rfl)
  · split at hvf
    · exact hvf
    · simp only [List.contains_eq_mem, List.mem_cons, decide_eq_true_eq] at hvf ⊢
      exact hvf.resolve_left hv

theorem raw_answer {n : Nat} {g : Gw} (h : GwInv g) (u : Nat) (q : Int) (F : List Nat)
    (hs : ((g.st n u).cache).isSome = true) :
    raw (({ g.apply n u (.answer true (mkItem q)) with fresh := F } : Gw).st n u) = some q := by
  obtain ⟨st0, hu, hst0⟩ := entry_of_cache hs
  obtain ⟨st', hstep, _, hraw⟩ := limStep_answer (h u st0 hu) q
  rw [st_entry (st := st') (by simp only [Gw.apply, hu, aget_aset, if_true, stepOr_ok hstep])]
  exact hraw (hst0 ▸ hs)

theorem gwInv_heartbeat {g : Gw} (h : GwInv g) (ok : Bool) (now : Int) : GwInv (g.heartbeat ok now) := by
  intro u st hu
  simp only [Gw.heartbeat, aget_map g.ups (fun _ st => stepOr st (.hb ok now false)) u, Option.map_eq_some_iff] at hu
  obtain ⟨st0, h0, rfl⟩ := hu
  obtain ⟨st', hstep, hok⟩ := limStep_hb (h u st0 h0) ok now
  exact stepOr_ok hstep ▸ hok

/-! ## the loop invariant -/

/-- what the loop's environment guarantees: configured global limits are at least 1, gateways sync schemas that validation
    accepts (C16) -/
def OpOK : Op → Prop
  | .list _ t => 1 ≤ t
  | .gwSchema _ _ l t => 0 ≤ l ∧ l ≤ t ∧ t ≤ maxInt32
  | _ => True

instance (op : Op) : Decidable (OpOK op) := by
  cases op <;> simp only [OpOK] <;> infer_instance

structure LInv (s : State) : Prop where
  srv : SrvInv s.srv
  gws : ∀ g ∈ s.gws, GwInv g

theorem recs_init (nShards nGw nUp : Nat) (k8s : Bool) (P : Nat → UpStore → Prop) :
    Recs (init nShards nGw nUp k8s).srv.listed P (init nShards nGw nUp k8s).srv :=
  ⟨rfl, fun _ h => absurd h List.not_mem_nil, fun _ h => absurd h List.not_mem_nil⟩

theorem linv_init (nShards nGw nUp : Nat) (k8s : Bool) : LInv (init nShards nGw nUp k8s) := by
  have h := recs_init nShards nGw nUp k8s (fun _ e => SInv e)
  refine ⟨⟨h.ups, h.api, fun _ h => absurd h List.not_mem_nil⟩, fun g hg => ?_⟩
  simp only [init, List.mem_map, List.mem_range] at hg
  obtain ⟨i, _, rfl⟩ := hg
  exact gwInv_started nShards nUp _ rfl

theorem gw_mem {s : State} {g : Nat} {x : Gw} (h : s.gw g = some x) : x ∈ s.gws :=
  List.mem_of_getElem? h

theorem reports_cache {n : Nat} {x : Gw} {u : Nat} (h : reports n x u = true) : ((x.st n u).cache).isSome = true :=
  (Bool.and_eq_true_iff.1 h).2

/-- the shape of every op that addresses a gateway slot: nothing without a process there -/
theorem onGw (o : Option Gw) (s : State) (f : Gw → State) :
    (match o with | none => s | some x => f x) = s ∨
      ∃ x, o = some x ∧ (match o with | none => s | some x => f x) = f x := by
  cases o
  · exact Or.inl rfl
  · exact Or.inr ⟨_, rfl, rfl⟩

section
variable (shardOf : Nat → Nat) (s : State)

theorem step_of_gwSchema (g u : Nat) (l t : Int) :
    step shardOf s (.gwSchema g u l t) = s ∨ ∃ x, s.gw g = some x ∧ step shardOf s (.gwSchema g u l t) =
      s.setGw g { x.apply s.nShards u (.schema (mkSchema l t)) with
        fresh := if view (x.st s.nShards u) = some t then x.fresh else x.fresh.filter (· != u) } := by
  simp only [step]
  split
  · exact Or.inl rfl
  · split
    · exact Or.inr ⟨_, ‹_›, rfl⟩
    · exact Or.inl rfl

theorem step_of_hb (g now : Nat) :
    step shardOf s (.hb g now) = s ∨ ∃ x, s.gw g = some x ∧
      (step shardOf s (.hb g now)
          = { s.setGw g (x.heartbeat true (msToNs now)) with srv := s.srv.heartbeat x.id now } ∨
        step shardOf s (.hb g now) = s.setGw g (x.heartbeat false (msToNs now))) := by
  simp only [step]
  split
  · exact Or.inl rfl
  · split
    · exact Or.inl rfl
    · split
      · exact Or.inr ⟨_, ‹_›, Or.inl rfl⟩
      · exact Or.inr ⟨_, ‹_›, Or.inr rfl⟩

theorem step_of_report (g u : Nat) (x m : Rat) (used lvl : Int) :
    step shardOf s (.report g u x m used lvl) = s ∨ ∃ gw srv' n, s.gw g = some gw ∧
      (reports s.nShards gw u && gw.net) = true ∧ s.srv.report shardOf u gw.id x m used lvl = (srv', some n) ∧
      step shardOf s (.report g u x m used lvl) =
        { s.setGw g { gw.apply s.nShards u (.answer true (mkItem n)) with
            fresh := if gw.fresh.contains u then gw.fresh else u :: gw.fresh } with srv := srv' } := by
  simp only [step]
  split
  · exact Or.inl rfl
  · split
    · exact Or.inl rfl
    · split
      · exact Or.inl rfl
      · rename_i gw hgw hrep _ srv' n hsr
        refine Or.inr ⟨gw, srv', n, hgw, ?_, hsr, rfl⟩
        cases hb : (reports s.nShards gw u && gw.net)
        · rw [hb] at hrep; exact absurd rfl hrep
        · rfl

theorem step_report_served (g u : Nat) (x m : Rat) (used lvl : Int) {gw : Gw} {e : UpStore} (hgw : s.gw g = some gw)
    (hrep : reports s.nShards gw u = true) (hnet : gw.net = true) (hserv : s.srv.serving shardOf u = some e) :
    step shardOf s (.report g u x m used lvl) =
      { s.setGw g { gw.apply s.nShards u (.answer true (mkItem (Alloc.answer e.srv gw.id x m))) with
          fresh := if gw.fresh.contains u then gw.fresh else u :: gw.fresh } with
        srv := ({ s.srv with ups := aset s.srv.ups u (e.report gw.id x m used lvl) } : Server).persist } := by
  simp only [step, hgw, hrep, hnet, Bool.and_self, Bool.not_true, Bool.false_eq_true, if_false,
    report_served shardOf hserv]

theorem step_of_net (g : Nat) (b : Bool) :
    step shardOf s (.net g b) = s ∨ ∃ x, s.gw g = some x ∧ step shardOf s (.net g b) = s.setGw g { x with net := b } :=
  onGw (s.gw g) s fun x => s.setGw g { x with net := b }

theorem step_of_crash (g : Nat) :
    step shardOf s (.crash g) = s ∨ ∃ x, s.gw g = some x ∧ step shardOf s (.crash g) = s.setGw g { x with alive := false } :=
  onGw (s.gw g) s fun x => s.setGw g { x with alive := false }

theorem step_of_ret (g id : Nat) :
    step shardOf s (.ret g id) = s ∨ ∃ x, s.gw g = some x ∧ step shardOf s (.ret g id) =
      s.setGw g { x with id := id, alive := true, ups := freshUps s.nShards s.nUp, fresh := [] } :=
  onGw (s.gw g) s fun x => s.setGw g { x with id := id, alive := true, ups := freshUps s.nShards s.nUp, fresh := [] }

end

theorem step_nShards (shardOf : Nat → Nat) (s : State) (op : Op) : (step shardOf s op).nShards = s.nShards := by
  cases op with
  | gwSchema g u l t => rcases step_of_gwSchema shardOf s g u l t with e | ⟨_, _, e⟩ <;> rw [e] <;> rfl
  | hb g now => rcases step_of_hb shardOf s g now with e | ⟨_, _, e | e⟩ <;> rw [e] <;> rfl
  | report g u x m used lvl =>
    rcases step_of_report shardOf s g u x m used lvl with e | ⟨_, _, _, _, _, _, e⟩ <;> rw [e] <;> rfl
  | net g b => rcases step_of_net shardOf s g b with e | ⟨_, _, e⟩ <;> rw [e] <;> rfl
  | crash g => rcases step_of_crash shardOf s g with e | ⟨_, _, e⟩ <;> rw [e] <;> rfl
  | ret g id => rcases step_of_ret shardOf s g id with e | ⟨_, _, e⟩ <;> rw [e] <;> rfl
  | _ => rfl

def listedAfter (L : List (Nat × Int)) : Op → List (Nat × Int)
  | .list u t => aset L u t
  | _ => L

/-- `hl`: a change of the lister keeps `P`; the lister (the index of `Recs`) moves with `.list` alone -/
theorem recs_step (shardOf : Nat → Nat) {P : List (Nat × Int) → Nat → UpStore → Prop} {L : List (Nat × Int)}
    {s : State} (op : Op) (k : Kept L (P L)) (hl : ∀ u t, op = .list u t → ∀ v e, P L v e → P (aset L u t) v e)
    (h : Recs L (P L) s.srv) : Recs (listedAfter L op) (P (listedAfter L op)) (step shardOf s op).srv := by
  cases op with
  | list u t =>
    exact ⟨congrArg (aset · u t) h.listed, fun p hp => hl u t rfl _ _ (h.ups p hp), fun p hp => hl u t rfl _ _ (h.api p hp)⟩
  | handle u => exact recs_handle shardOf k h u
  | tick now =>
    exact recs_leaderCheck shardOf k (recs_persist (recs_cleanup k h _ (fun u => s.srv.isLeader (shardOf u))
      (fun p i => (s.srv.dead now).contains i && p.2.labelled.contains i)))
  | unknownPass =>
    exact recs_persist (recs_cleanup k h s.srv.hb (fun u => s.srv.isLeader (shardOf u)) (fun _ i => !s.srv.hbHas i))
  | elect n b => exact ⟨h.listed, h.ups, h.api⟩
  | gain n => exact recs_startLeading shardOf k (s := s.srv.elect n true) ⟨h.listed, h.ups, h.api⟩ n
  | lose n => exact recs_stopLeading shardOf (s := s.srv.elect n false) ⟨h.listed, h.ups, h.api⟩ n
  | hb g now =>
    rcases step_of_hb shardOf s g now with e | ⟨_, _, e | e⟩ <;> rw [e]
    · exact h
    · exact ⟨h.listed, h.ups, h.api⟩
    · exact h
  | report g u x m used lvl =>
    rcases step_of_report shardOf s g u x m used lvl with e | ⟨gw, srv', n, _, _, hsr, e⟩ <;> rw [e]
    · exact h
    · have := recs_report shardOf k h u gw.id x m used lvl
      rw [hsr] at this
      exact this
  | gwSchema g u l t => rcases step_of_gwSchema shardOf s g u l t with e | ⟨_, _, e⟩ <;> rw [e] <;> exact h
  | net g b => rcases step_of_net shardOf s g b with e | ⟨_, _, e⟩ <;> rw [e] <;> exact h
  | crash g => rcases step_of_crash shardOf s g with e | ⟨_, _, e⟩ <;> rw [e] <;> exact h
  | ret g id => rcases step_of_ret shardOf s g id with e | ⟨_, _, e⟩ <;> rw [e] <;> exact h

theorem srvInv_step (shardOf : Nat → Nat) {s : State} (h : SrvInv s.srv) (op : Op) (hop : OpOK op) :
    SrvInv (step shardOf s op).srv := by
  have h' := recs_step shardOf (P := fun _ _ e => SInv e) op (sinv_kept h.listed) (fun _ _ _ _ _ h => h)
    ⟨rfl, h.ups, h.api⟩
  refine ⟨h'.ups, h'.api, ?_⟩
  rw [h'.listed]
  cases op with
  | list u t =>
    intro p hp
    rcases mem_aset hp with e | e
    · subst e; exact hop
    · exact h.listed p e.1
  | _ => exact h.listed

theorem gws_step (shardOf : Nat → Nat) {s : State} (h : ∀ g ∈ s.gws, GwInv g) (op : Op) (hop : OpOK op) :
    ∀ g ∈ (step shardOf s op).gws, GwInv g := by
  have hset : ∀ g x, GwInv x → ∀ y ∈ (s.setGw g x).gws, GwInv y := by
    intro g x hx y hy
    rcases List.mem_or_eq_of_mem_set hy with e | e
    · exact h y e
    · exact e ▸ hx
  cases op with
  | gwSchema g u l t =>
    rcases step_of_gwSchema shardOf s g u l t with e | ⟨x, hx, e⟩ <;> rw [e]
    · exact h
    · exact hset g _ (gwInv_schema (h x (gw_mem hx)) u hop.1 hop.2.1 hop.2.2)
  | hb g now =>
    rcases step_of_hb shardOf s g now with e | ⟨x, hx, e | e⟩ <;> rw [e]
    · exact h
    · exact hset g _ (gwInv_heartbeat (h x (gw_mem hx)) true _)
    · exact hset g _ (gwInv_heartbeat (h x (gw_mem hx)) false _)
  | report g u x m used lvl =>
    rcases step_of_report shardOf s g u x m used lvl with e | ⟨gw, _, n, hgw, _, _, e⟩ <;> rw [e]
    · exact h
    · exact hset g _ (gwInv_answer (h gw (gw_mem hgw)) u n)
  | net g b =>
    rcases step_of_net shardOf s g b with e | ⟨x, hx, e⟩ <;> rw [e]
    · exact h
    · exact hset g _ (h x (gw_mem hx))
  | crash g =>
    rcases step_of_crash shardOf s g with e | ⟨x, hx, e⟩ <;> rw [e]
    · exact h
    · exact hset g _ (h x (gw_mem hx))
  | ret g id =>
    rcases step_of_ret shardOf s g id with e | ⟨x, _, e⟩ <;> rw [e]
    · exact h
    · exact hset g _ (gwInv_started s.nShards s.nUp _ rfl)
  | _ => exact h

theorem linv_step (shardOf : Nat → Nat) {s : State} (h : LInv s) (op : Op) (hop : OpOK op) :
    LInv (step shardOf s op) :=
  ⟨srvInv_step shardOf h.srv op hop, gws_step shardOf h.gws op hop⟩

theorem linv_run (shardOf : Nat → Nat) (ops : List Op) (s : State) (h : LInv s) (hops : ∀ op ∈ ops, OpOK op) :
    LInv (run shardOf s ops) :=
  foldl_inv LInv (step shardOf) ops (fun _ op ho h => linv_step shardOf h op (hops op ho)) s h

/-! ## the system-level clause follows from the per-gateway clauses and the recorded-quota invariant -/

theorem sum_map_le {α : Type} (l : List α) (f g : α → Int) (h : ∀ x ∈ l, f x ≤ g x) : (l.map f).sum ≤ (l.map g).sum := by
  induction l with
  | nil => simp
  | cons a rest ih =>
    simp only [List.map_cons, List.sum_cons]
    have := h a List.mem_cons_self
    have := ih (fun x hx => h x (List.mem_cons_of_mem _ hx))
    omega

theorem nil_of_ite {c : Prop} [Decidable c] {x : String} (h : (if c then ([] : List String) else [x]) = []) : c :=
  Decidable.by_contra fun hc => by rw [if_neg hc] at h; cases h

/-- a remote gateway that passes `judgeG` and holds its record enforces between 0 and its recorded quota -/
theorem enforced_le_record {g : GObs} (h : judgeG g = []) (hr : g.remote = true) {q : List (Nat × Int)}
    (hq : ∀ p ∈ q, 1 ≤ p.2) (hh : holdsRecord q g = true) : 0 ≤ g.enforced ∧ g.enforced ≤ lookupD q g.id := by
  unfold judgeG at h
  rw [if_pos hr] at h
  unfold holdsRecord at hh
  cases hraw : g.raw with
  | none => rw [hraw] at hh; cases hh
  | some r =>
    cases hl : q.lookup g.id with
    | none => rw [hraw, hl] at hh; cases hh
    | some c =>
      rw [hraw, hl] at hh
      obtain rfl : r = c := by simpa using hh
      have hc1 := hq _ (KG.Lemmas.mem_of_lookup hl)
      rw [hraw] at h
      -- the clauses `remote-size` and `exceeds-answer` of the judge
      simp only [List.append_eq_nil_iff] at h
      obtain ⟨⟨hsize, -⟩, hanswer, -⟩ := h
      refine ⟨(nil_of_ite hsize).2, ?_⟩
      simp only [lookupD, hl, Option.getD_some]
      exact nil_of_ite hanswer (by omega)

/-- the system-level bound, on ANY observation: no model state is in it -/
theorem remote_sum_le (q : List (Nat × Int)) (H : Int) (gs : List GObs) (hg : ∀ g ∈ gs, judgeG g = [])
    (hq : ∀ p ∈ q, 1 ≤ p.2) (hslack : sumQ q - onesQ q ≤ H) (hnd : ((gs.filter (·.remote)).map (·.id)).Nodup)
    (hall : ∀ g ∈ gs, g.remote = true → holdsRecord q g = true) : sumRemote gs ≤ H + onesQ q := by
  have h1 : sumRemote gs ≤ ((gs.filter (·.remote)).map (fun g => lookupD q g.id)).sum :=
    sum_map_le _ _ _ fun g hgm =>
      have hgm' := List.mem_filter.1 hgm
      (enforced_le_record (hg g hgm'.1) hgm'.2 hq (hall g hgm'.1 hgm'.2)).2
  have h2 := KG.Props.C07.sum_lookup_le _ q hnd hq
  rw [List.map_map] at h2
  have h3 : ((gs.filter (·.remote)).map (lookupD q ∘ fun g => g.id)).sum
      = ((gs.filter (·.remote)).map (fun g => lookupD q g.id)).sum := rfl
  omega

theorem system_of_parts (s : SObs) (gs : List GObs) (hg : ∀ g ∈ gs, judgeG g = []) (hq : ∀ p ∈ s.quotas, 1 ≤ p.2)
    (hslack : sumQ s.quotas - onesQ s.quotas ≤ s.hi) : systemOK s gs = true := by
  simp only [systemOK]
  cases hpre : (decide ((gs.filter (·.remote)).map (·.id)).Nodup && (gs.filter (·.remote)).all (holdsRecord s.quotas))
  · rfl
  · simp only [Bool.and_eq_true, decide_eq_true_eq, List.all_eq_true] at hpre
    exact decide_eq_true (remote_sum_le s.quotas s.hi gs hg hq hslack hpre.1
      fun g hgm hr => hpre.2 g (List.mem_filter.2 ⟨hgm, hr⟩))

theorem judgeG_of_linv {s : State} (h : LInv s) (u : Nat) : ∀ g ∈ (obsU s u).gws, judgeG g = [] := by
  intro o ho
  simp only [obsU, List.mem_map, List.mem_filter] at ho
  obtain ⟨g, ⟨hg, hrep⟩, rfl⟩ := ho
  exact judgeG_ok ((h.gws g hg).limOK s.nShards u) (reports_cache hrep) g.id

theorem judgeU_of_linv {s : State} (h : LInv s) (u : Nat) : judgeU (obsU s u) = [] := by
  have hgs := judgeG_of_linv h u
  unfold judgeU
  have h1 : ((obsU s u).gws.map judgeG).flatten = [] := by
    rw [List.flatten_eq_nil_iff]
    intro l hl
    obtain ⟨o, ho, rfl⟩ := List.mem_map.1 hl
    exact hgs o ho
  rw [h1]
  cases hsrv : (obsU s u).srv with
  | none => rfl
  | some so =>
    simp only [obsU, Option.map_eq_some_iff] at hsrv
    obtain ⟨e, he, rfl⟩ := hsrv
    have hi := h.srv.ups _ (aget_mem he)
    have hrec : recordedOK (obsS e) = true := by
      simp only [recordedOK, obsS, Bool.and_eq_true, List.all_eq_true, decide_eq_true_eq]
      exact ⟨⟨hi.ge_one, decide_eq_true hi.recorded⟩, decide_eq_true hi.slack⟩
    have hsys := system_of_parts (obsS e) (obsU s u).gws hgs hi.ge_one hi.slack
    simp [hrec, hsys]

/-! ## the two passes on the record of one upstream; histories that never lower a limit -/

theorem cleanupTimeout_ups (shardOf : Nat → Nat) (s : Server) (now u : Nat) :
    aget (s.cleanupTimeout shardOf now).ups u =
      (aget s.ups u).map (fun e => if s.isLeader (shardOf u)
        then e.drop (fun i => (s.dead now).contains i && e.labelled.contains i) else e) := by
  unfold Server.cleanupTimeout
  rw [persist_ups]
  exact aget_map s.ups (fun k e => if s.isLeader (shardOf k)
    then e.drop (fun i => (s.dead now).contains i && e.labelled.contains i) else e) u

theorem cleanupUnknown_ups (shardOf : Nat → Nat) (s : Server) (u : Nat) :
    aget (s.cleanupUnknown shardOf).ups u =
      (aget s.ups u).map (fun e => if s.isLeader (shardOf u) then e.drop (fun i => !s.hbHas i) else e) := by
  unfold Server.cleanupUnknown
  rw [persist_ups]
  exact aget_map s.ups (fun k e => if s.isLeader (shardOf k) then e.drop (fun i => !s.hbHas i) else e) u

/-- the history never lowers the configured global limit of an upstream: `KG.Props.C07.Legal` for the loop -/
def NoLower : List (Nat × Int) → List Op → Prop
  | _, [] => True
  | listed, .list u t :: rest => (∀ t0, aget listed u = some t0 → t0 ≤ t) ∧ NoLower (aset listed u t) rest
  | listed, _ :: rest => NoLower listed rest

/-- the record's limit was never lowered and is at most what the lister says now -/
def NotLowered (L : List (Nat × Int)) (u : Nat) (e : UpStore) : Prop :=
  e.hi = e.srv.total ∧ ∃ t, aget L u = some t ∧ e.srv.total ≤ t

theorem notLowered_kept (L : List (Nat × Int)) : Kept L (NotLowered L) := by
  refine ⟨fun ht => ⟨rfl, _, ht, Int.le_refl _⟩, ?_, fun _ _ _ _ _ h => h, fun _ h => h⟩
  intro u t e ht ⟨h1, t0, h2, h3⟩
  have : t0 = t := Option.some.inj (h2.symm.trans ht)
  subst this
  refine ⟨?_, t0, ht, Int.le_refl _⟩
  show (if e.hi < t0 then t0 else e.hi) = t0
  split <;> omega

theorem notLowered_run (shardOf : Nat → Nat) : ∀ (ops : List Op) (s : State) (L : List (Nat × Int)),
    Recs L (NotLowered L) s.srv → NoLower L ops → ∃ L', Recs L' (NotLowered L') (run shardOf s ops).srv
  | [], _, L, h, _ => ⟨L, h⟩
  | op :: rest, s, L, h, hn =>
    notLowered_run shardOf rest _ _
      (recs_step shardOf (P := NotLowered) op (notLowered_kept L) (fun u t eq v r ⟨h1, t0, h2, h3⟩ => by
        subst eq
        by_cases hv : v = u
        · subst hv; exact ⟨h1, t, by rw [aget_aset, if_pos rfl], Int.le_trans h3 (hn.1 t0 h2)⟩
        · exact ⟨h1, t0, by rw [aget_aset, if_neg hv]; exact h2, h3⟩) h)
      (by cases op with
        | list u t => exact hn.2
        | _ => exact hn)

/-- the record is of an upstream the lister knows -/
def ListerKnows (L : List (Nat × Int)) (u : Nat) (_ : UpStore) : Prop := ∃ t, aget L u = some t

theorem listerKnows_run (shardOf : Nat → Nat) (ops : List Op) (s : State) (h : ∃ L, Recs L (ListerKnows L) s.srv) :
    ∃ L, Recs L (ListerKnows L) (run shardOf s ops).srv :=
  foldl_inv (fun s => ∃ L, Recs L (ListerKnows L) s.srv) (step shardOf) ops
    (fun s op _ ⟨L, h⟩ => ⟨_, recs_step shardOf (P := ListerKnows) op
      ⟨fun ht => ⟨_, ht⟩, fun ht _ => ⟨_, ht⟩, fun _ _ _ _ _ h => h, fun _ h => h⟩
      (fun u t _ v _ ⟨t0, h2⟩ => by
        by_cases hv : v = u
        · subst hv; exact ⟨t, by rw [aget_aset, if_pos rfl]⟩
        · exact ⟨t0, by rw [aget_aset, if_neg hv]; exact h2⟩) h⟩) s h

/-! ## abstraction onto C18's model (`KG.Model.Reclaim`): the loop's heartbeat and clean-up passes commute with C18's -/

/-- how the loop's numbers are spelled in C18's model; that the two shard functions agree is a hypothesis apart
    (`ShardsAgree`) -/
structure Naming where
  un : Nat → Str
  iname : Nat → Str
  sname : Str
  shardOf' : Str → Nat
  iname_inj : ∀ a b, iname a = iname b → a = b
  iname_ne : ∀ a, iname a ≠ []

/-- the shard function on names agrees with the loop's; a hypothesis of every lemma about the passes below -/
def ShardsAgree (N : Naming) (shardOf : Nat → Nat) : Prop := ∀ u, N.shardOf' (N.un u) = shardOf u

/-- the `.state` condition of an upstream -/
def stateCond (N : Naming) (u : Nat) (e : UpStore) : Reclaim.Cond :=
  ⟨Reclaim.stateName (N.un u), N.un u, [], none, [⟨N.sname, some e.srv.total, none⟩], [⟨N.sname, some e.srv.recSum, none⟩]⟩

/-- an instance's condition: labelled with the instance from the second report on, with the empty string by the first (C18) -/
def recCond (N : Naming) (u : Nat) (e : UpStore) (r : Nat × Int) : Reclaim.Cond :=
  ⟨Reclaim.condName (N.un u) (N.iname r.1), N.un u, N.iname r.1,
   some (if e.labelled.contains r.1 then N.iname r.1 else []), [⟨N.sname, some r.2, none⟩], []⟩

def condsOf (N : Naming) (shardOf : Nat → Nat) (p : Nat × UpStore) : List (Nat × Reclaim.Cond) :=
  (shardOf p.1, stateCond N p.1 p.2) :: p.2.srv.quotas.map (fun r => (shardOf p.1, recCond N p.1 p.2 r))

/-- the limiter server as a state of C18's model (local store: no API copies; the allocate loop has no global-count flow
    controls) -/
def toReclaim (N : Naming) (shardOf : Nat → Nat) (s : Server) : Reclaim.State :=
  { hb := s.hb.map (fun p => (N.iname p.1, p.2))
    leaders := s.leaders
    shards := s.stores
    clusters := []
    conds := s.ups.flatMap (condsOf N shardOf)
    fcs := []
    listed := s.listed.map (fun p => (N.un p.1, [⟨N.sname, some p.2, none⟩]))
    locks := []
    failing := [] }   -- no API fault is injected in the loop

section
variable (N : Naming) (shardOf : Nat → Nat)

theorem iname_beq (a b : Nat) : (N.iname a == N.iname b) = (a == b) := by
  rw [Bool.eq_iff_iff, beq_iff_eq, beq_iff_eq]
  exact ⟨N.iname_inj a b, congrArg N.iname⟩

theorem toReclaim_heartbeat (s : Server) (i t : Nat) :
    toReclaim N shardOf (s.heartbeat i t) = Reclaim.heartbeat (toReclaim N shardOf s) (N.iname i) t := by
  simp only [toReclaim, Server.heartbeat, Reclaim.heartbeat, List.map_append, List.map_cons, List.map_nil,
    List.filter_map, Function.comp_def, bne, iname_beq]

theorem dead_map (s : Server) (now : Nat) :
    ((toReclaim N shardOf s).hb.filter (Reclaim.timedOut now)).map (·.1) = (s.dead now).map N.iname := by
  simp only [toReclaim, Server.dead, List.filter_map, List.map_map]
  congr 1

theorem any_iname_eq_contains (l : List Nat) (i : Nat) :
    (l.map N.iname).any (fun d => d == N.iname i) = l.contains i := by
  simp only [List.any_map, Function.comp_def, iname_beq, List.contains_eq_any_beq]
  congr 1; funext d; exact Bool.beq_comm

theorem selects_rec (u : Nat) (e : UpStore) (r : Nat × Int) (d : Str) :
    Reclaim.selects d (recCond N u e r) = (e.labelled.contains r.1 && d == N.iname r.1) := by
  simp only [Reclaim.selects, recCond]
  cases hl : e.labelled.contains r.1 with
  | true =>
    simp only [if_true, Bool.true_and]
    rw [Bool.eq_iff_iff]
    simp only [Bool.and_eq_true, beq_iff_eq, Option.some.injEq]
    constructor
    · rintro ⟨h, _⟩; exact h.symm
    · intro h; exact ⟨h.symm, h.symm⟩
  | false =>
    simp only [Bool.false_eq_true, if_false, Bool.false_and]
    rw [Bool.eq_false_iff]
    intro h
    simp only [Bool.and_eq_true, beq_iff_eq, Option.some.injEq] at h
    exact N.iname_ne r.1 (h.2.trans h.1.symm)

theorem toReclaim_persist (s : Server) : toReclaim N shardOf s.persist = toReclaim N shardOf s := by
  obtain ⟨_, e, _⟩ := persist_api s; rw [e]; rfl

theorem deletable_rec (hsh : ShardsAgree N shardOf) (s : Server)
    (u : Nat) (e : UpStore) (r : Nat × Int) :
    Reclaim.deletable N.shardOf' (toReclaim N shardOf s) (recCond N u e r) = s.isLeader (shardOf u) := by
  have : (N.iname r.1 != []) = true := by simpa using N.iname_ne r.1
  have hf : (toReclaim N shardOf s).failing = [] := rfl
  simp only [Reclaim.deletable, recCond, hsh u, this, Bool.and_true, hf, List.contains_nil, Bool.not_false]
  rfl

theorem dead_selects (s : Server) (now u : Nat) (e : UpStore) (r : Nat × Int) :
    ((s.dead now).map N.iname).any (fun d => Reclaim.selects d (recCond N u e r))
      = ((s.dead now).contains r.1 && e.labelled.contains r.1) := by
  simp only [selects_rec]
  cases e.labelled.contains r.1 with
  | false => simp
  | true => simp only [Bool.true_and, Bool.and_true]; exact any_iname_eq_contains N (s.dead now) r.1

theorem recCond_drop (u : Nat) (e : UpStore) (P : Nat → Bool) (r : Nat × Int) (hr : P r.1 = false) :
    recCond N u (e.drop P) r = recCond N u e r := by
  have : (e.drop P).labelled.contains r.1 = e.labelled.contains r.1 := by
    simp only [UpStore.drop, List.contains_eq_mem, List.mem_filter, hr, Bool.not_false, and_true]
  simp only [recCond, this]

theorem condsOf_drop (u : Nat) (e : UpStore) (b : Bool) (D : Nat → Bool)
    (pick : Reclaim.Cond → Bool) (hst : pick (stateCond N u e) = false)
    (hrec : ∀ r, pick (recCond N u e r) = (b && D r.1)) :
    condsOf N shardOf (u, if b then e.drop D else e) = (condsOf N shardOf (u, e)).filter (fun r => !pick r.2) := by
  have hs : stateCond N u (if b then e.drop D else e) = stateCond N u e := by cases b <;> rfl
  simp only [condsOf, List.filter_cons, hst, Bool.not_false, if_true, hs, List.filter_map, Function.comp_def, hrec]
  congr 1
  cases b with
  | false =>
    simp only [Bool.false_and, Bool.not_false, Bool.false_eq_true, if_false]
    rw [List.filter_eq_self.2 (fun _ _ => rfl)]
  | true =>
    simp only [Bool.true_and, if_true]
    show List.map _ (e.srv.quotas.filter _) = _
    apply List.map_congr_left
    intro r hr
    have hr' : D r.1 = false := by simpa using (List.mem_filter.1 hr).2
    rw [recCond_drop N u e _ r hr']

/-- A pass of the loop is C18's `sweep` by any `pick` that takes a record's condition exactly when `D` selects the record.
    `.state` conditions name no instance; `hgone`: no upstream is removed whole; no flow controls, so `ds` is free. -/
theorem toReclaim_sweep (hsh : ShardsAgree N shardOf) (s : Server) (hb' : List (Nat × Nat)) (D : UpStore → Nat → Bool)
    (ds : List Reclaim.Inst) (pick : Reclaim.Cond → Bool) (gone : Nat → Reclaim.Ups → Bool)
    (hrec : ∀ u e r, pick (recCond N u e r) = D e r.1)
    (hgone : ∀ r ∈ (toReclaim N shardOf s).conds, gone r.1 r.2.upstream = false) :
    toReclaim N shardOf { s with hb := hb', ups := s.ups.map fun p =>
        (p.1, if s.isLeader (shardOf p.1) then p.2.drop (D p.2) else p.2) }
      = KG.Lemmas.Reclaim.sweep N.shardOf' (toReclaim N shardOf s) (hb'.map fun p => (N.iname p.1, p.2)) ds pick gone := by
  have hc : (s.ups.map fun p => (p.1, if s.isLeader (shardOf p.1) then p.2.drop (D p.2) else p.2)).flatMap (condsOf N shardOf)
      = (s.ups.flatMap (condsOf N shardOf)).filter fun r =>
          !(pick r.2 && Reclaim.deletable N.shardOf' (toReclaim N shardOf s) r.2) := by
    rw [List.flatMap_map, List.filter_flatMap, List.flatMap_def, List.flatMap_def]
    exact congrArg List.flatten (List.map_congr_left fun p _ => condsOf_drop N shardOf p.1 p.2 _ _
      (fun c => pick c && Reclaim.deletable N.shardOf' (toReclaim N shardOf s) c)
      (by simp [Reclaim.deletable, stateCond]) (fun r => by rw [deletable_rec N shardOf hsh, hrec, Bool.and_comm]))
  have hg : ∀ r ∈ (toReclaim N shardOf s).conds.filter fun r =>
      !(pick r.2 && Reclaim.deletable N.shardOf' (toReclaim N shardOf s) r.2), (!gone r.1 r.2.upstream) = true :=
    fun r hr => by rw [hgone r (List.mem_filter.1 hr).1]; rfl
  simp only [KG.Lemmas.Reclaim.sweep, List.filter_eq_self.2 hg]
  rw [show (toReclaim N shardOf s).conds = s.ups.flatMap (condsOf N shardOf) from rfl, ← hc]
  rfl

theorem toReclaim_cleanupTimeout (hsh : ShardsAgree N shardOf) (s : Server) (now : Nat) :
    toReclaim N shardOf (s.cleanupTimeout shardOf now)
      = Reclaim.cleanupTimeout N.shardOf' (toReclaim N shardOf s) now := by
  unfold Server.cleanupTimeout
  rw [toReclaim_persist, KG.Lemmas.Reclaim.cleanupTimeout_eq, dead_map,
    toReclaim_sweep N shardOf hsh s (s.hb.filter fun p => !timedOut now p)
      (fun e i => (s.dead now).contains i && e.labelled.contains i) ((s.dead now).map N.iname)
      (fun c => ((s.dead now).map N.iname).any fun d => Reclaim.selects d c) (fun _ _ => false)
      (dead_selects N s now) (fun _ _ => rfl)]
  simp only [toReclaim, List.filter_map]
  rfl

theorem hbHas_map (s : Server) (i : Nat) :
    Reclaim.hbHas (toReclaim N shardOf s) (N.iname i) = s.hbHas i := by
  simp only [Reclaim.hbHas, toReclaim, Server.hbHas, List.any_map, Function.comp_def, iname_beq]

theorem isListed_map (s : Server) (u : Nat) (t : Int)
    (h : aget s.listed u = some t) : Reclaim.isListed (toReclaim N shardOf s) (N.un u) = true := by
  simp only [Reclaim.isListed, toReclaim, List.any_map, List.any_eq_true]
  exact ⟨(u, t), aget_mem h, by simp⟩

theorem cond_upstream (s : Server) (r : Nat × Reclaim.Cond)
    (hr : r ∈ (toReclaim N shardOf s).conds) : ∃ p ∈ s.ups, r.2.upstream = N.un p.1 := by
  simp only [toReclaim, List.mem_flatMap] at hr
  obtain ⟨p, hp, hr⟩ := hr
  refine ⟨p, hp, ?_⟩
  simp only [condsOf, List.mem_cons, List.mem_map] at hr
  rcases hr with rfl | ⟨q, _, rfl⟩ <;> rfl

/-- `hlisted` holds in every reachable state (`loop_listed`): the unknown pass removes no upstream whole -/
theorem toReclaim_cleanupUnknown (hsh : ShardsAgree N shardOf)
    (s : Server) (hlisted : ∀ p ∈ s.ups, ∃ t, aget s.listed p.1 = some t) :
    toReclaim N shardOf (s.cleanupUnknown shardOf) = Reclaim.cleanupUnknown N.shardOf' (toReclaim N shardOf s) := by
  obtain ⟨gone, hg, e⟩ := KG.Lemmas.Reclaim.cleanupUnknown_eq N.shardOf' (toReclaim N shardOf s)
  unfold Server.cleanupUnknown
  rw [toReclaim_persist, e]
  refine toReclaim_sweep N shardOf hsh s s.hb (fun _ i => !s.hbHas i) _ _ gone
    (fun u e r => by simp only [Reclaim.unknown, recCond, hbHas_map]) fun r hr => ?_
  obtain ⟨p, hp, hu⟩ := cond_upstream N shardOf s r hr
  obtain ⟨t, ht⟩ := hlisted p hp
  exact hg _ _ (hu ▸ isListed_map N shardOf s p.1 t ht)

end

theorem hbHas_nil (N : Naming) (shardOf : Nat → Nat) (s : Server) :
    Reclaim.hbHas (toReclaim N shardOf s) [] = false := by
  simp only [Reclaim.hbHas, toReclaim, List.any_map]
  rw [List.any_eq_false]
  intro p _
  simp only [Function.comp, beq_iff_eq]
  exact N.iname_ne p.1

end KG.Lemmas.LimiterLoop
