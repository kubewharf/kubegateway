import KG.Spec.Shard
/-! Go maps as association lists. What an operation of the limiter leaves alone (`Frame`, `Keeps`) and what it reads
(`Agree`); the guarded entry points are one `guarded`, refused by `step_refuses`; `step_elector` and `step_has` make `Tracks`:
the server is what the specification says of its history. At the end: stopping the k8s store (`stopWithRetry_inv`) and, in
`KG.Lemmas.ShardOverlap`, two stores of one shard never run together (`OInv`). -/
namespace KG.Lemmas.Shard
open KG KG.Model.Shard KG.Spec.Shard

/-! ## association lists -/

/-- keys of a Go map are distinct -/
def NodupKeys {β : Type} (l : AList β) : Prop := (AList.keys l).Nodup

namespace AL
variable {β : Type}

theorem get_cons (a : Int) (v : β) (r : AList β) (k : Int) :
    AList.get ((a, v) :: r) k = if a = k then some v else AList.get r k := rfl

theorem get_del (l : AList β) (k k' : Int) :
    (AList.del l k).get k' = if k' = k then none else l.get k' := by
  induction l with
  | nil => exact (ite_self _).symm
  | cons p r ih =>
    obtain ⟨a, v⟩ := p
    unfold AList.del at ih ⊢
    by_cases h : a = k <;> by_cases h2 : a = k' <;> simp_all [AList.get]

theorem get_del_self (l : AList β) (k : Int) : (AList.del l k).get k = none :=
  (get_del l k k).trans (if_pos rfl)

theorem get_set (l : AList β) (k k' : Int) (v : β) :
    (AList.set l k v).get k' = if k' = k then some v else l.get k' := by
  unfold AList.set
  rw [get_cons, get_del]
  split
  · rw [if_pos ‹k = k'›.symm]
  · rw [if_neg (Ne.symm ‹_›), if_neg (Ne.symm ‹_›)]

theorem get_set_eq (l : AList β) (k : Int) (v : β) : (AList.set l k v).get k = some v := by
  rw [get_set, if_pos rfl]

theorem mem_keys (l : AList β) (k : Int) : k ∈ AList.keys l ↔ l.get k ≠ none := by
  induction l with
  | nil => simp [AList.keys, AList.get]
  | cons p r ih =>
    obtain ⟨a, v⟩ := p
    unfold AList.keys at ih ⊢
    rw [get_cons, List.map_cons, List.mem_cons, ih]
    by_cases h : a = k
    · simp [h]
    · simp [h, Ne.symm h]

theorem keys_del (l : AList β) (k : Int) :
    AList.keys (AList.del l k) = (AList.keys l).filter (fun x => !(x == k)) := by
  unfold AList.keys AList.del
  rw [List.filter_map]; rfl

theorem nodup_del (l : AList β) (k : Int) (h : NodupKeys l) : NodupKeys (AList.del l k) := by
  unfold NodupKeys at *
  rw [keys_del]
  exact h.sublist List.filter_sublist

theorem nodup_set (l : AList β) (k : Int) (v : β) (h : NodupKeys l) : NodupKeys (AList.set l k v) := by
  refine List.nodup_cons.2 ⟨?_, nodup_del l k h⟩
  rw [← AList.keys, keys_del]
  simp

end AL


/-! ## integer conversions -/

theorem toU32_lt (x : Int) : toU32 x < 4294967296 :=
  (Int.toNat_lt' (by decide)).2 (Int.emod_lt_of_pos x (by decide))

theorem toU32_of_range {n : Int} (h1 : 0 ≤ n) (h2 : n < 4294967296) : toU32 n = n.toNat := by
  unfold toU32; rw [Int.emod_eq_of_lt h1 h2]

theorem toI32_emod (x : Int) : toI32 x % 4294967296 = x % 4294967296 := by
  unfold toI32
  dsimp only
  split
  · exact Int.emod_emod x _
  · rw [Int.sub_emod_right, Int.emod_emod]

theorem toU32_toI32 (n : Int) : toU32 (toI32 n) = toU32 n := by
  unfold toU32; rw [toI32_emod]

theorem toU32_eq_zero_iff (n : Int) : toU32 n = 0 ↔ n % 4294967296 = 0 :=
  ⟨fun e => Int.le_antisymm (Int.toNat_eq_zero.1 e) (Int.emod_nonneg _ (by decide)),
   fun e => by unfold toU32; rw [e]; rfl⟩

theorem toU32_le {n : Int} (h : 0 ≤ n) : (toU32 n : Int) ≤ n := by
  unfold toU32; omega

theorem toI32_eq_zero_iff (n : Int) : toI32 n = 0 ↔ toU32 n = 0 := by
  constructor
  · intro e; rw [← toU32_toI32, e]; rfl
  · intro e; unfold toI32; rw [(toU32_eq_zero_iff n).1 e]; rfl

theorem toI32_of_range {k : Int} (h1 : 0 ≤ k) (h2 : k < 2147483648) : toI32 k = k := by
  unfold toI32
  rw [Int.emod_eq_of_lt h1 (by omega)]
  exact if_pos h2

theorem getShardID_ok (value : Str) {n : Int} (h : toU32 n ≠ 0) :
    getShardID value n = .ok (Int.ofNat ((fnv32a value).toNat % toU32 n)) := if_neg h

/-! ## frame lemmas of the limiter model -/

variable {σ ρ : Type}

theorem shardOf_spec (st : Srv σ) (u : Str) : getShardID u st.n = .ok (shardOf st u) := getShardID_ok u st.hn

/-- nothing but the stores changed -/
def Frame (st st' : Srv σ) : Prop :=
  st'.me = st.me ∧ st'.n = st.n ∧ st'.leaders = st.leaders ∧ st'.lister = st.lister

theorem Frame.me {a b : Srv σ} (h : Frame a b) : b.me = a.me := h.1
theorem Frame.n {a b : Srv σ} (h : Frame a b) : b.n = a.n := h.2.1
theorem Frame.leaders {a b : Srv σ} (h : Frame a b) : b.leaders = a.leaders := h.2.2.1
theorem Frame.lister {a b : Srv σ} (h : Frame a b) : b.lister = a.lister := h.2.2.2

theorem Frame.refl (st : Srv σ) : Frame st st := ⟨rfl, rfl, rfl, rfl⟩
theorem Frame.symm {a b : Srv σ} (h : Frame a b) : Frame b a := ⟨h.me.symm, h.n.symm, h.leaders.symm, h.lister.symm⟩
theorem Frame.trans {a b c : Srv σ} (h1 : Frame a b) (h2 : Frame b c) : Frame a c :=
  ⟨h2.me.trans h1.me, h2.n.trans h1.n, h2.leaders.trans h1.leaders, h2.lister.trans h1.lister⟩

/-- `Has st k`: limitStoreMap has a store for shard k -/
def Has (st : Srv σ) (k : Int) : Prop := st.stores.get k ≠ none

theorem has_set (st : Srv σ) (k k' : Int) (v : σ) :
    (AList.set st.stores k v).get k' ≠ none ↔ (k' = k ∨ st.stores.get k' ≠ none) := by
  rw [AL.get_set]
  by_cases h : k' = k <;> simp [h]

theorem shardOf_congr {st st' : Srv σ} (h : st'.n = st.n) : shardOf st' = shardOf st := by
  funext u; unfold shardOf; rw [h]

theorem shardOf_frame {st st' : Srv σ} (h : Frame st st') (u : Str) : shardOf st' u = shardOf st u :=
  congrFun (shardOf_congr h.n) u

theorem leaderName_frame {st st' : Srv σ} (h : Frame st st') (s : Int) : leaderName st' s = leaderName st s := by
  unfold leaderName; rw [h.leaders]

theorem isLeader_frame {st st' : Srv σ} (h : Frame st st') (s : Int) : isLeader st' s = isLeader st s := by
  unfold isLeader; rw [leaderName_frame h, h.me]

/-- `getD []`: a Go map read gives "" for a missing key -/
theorem get_of_getD {o : Option Str} {l : Str} (h : o.getD [] = l) (hl : l ≠ []) : o = some l := by
  cases o with
  | none => exact absurd h.symm hl
  | some v => exact congrArg some h

theorem isLeader_iff (st : Srv σ) (s : Int) (hme : st.me ≠ []) :
    isLeader st s = true ↔ st.leaders.get s = some st.me := by
  unfold isLeader leaderName
  rw [beq_iff_eq]
  exact ⟨fun e => get_of_getD e hme, fun e => by rw [e]; rfl⟩

theorem not_isLeader (st : Srv σ) (s : Int) (hme : st.me ≠ []) (h : st.leaders.get s ≠ some st.me) :
    isLeader st s = false :=
  Bool.eq_false_iff.2 fun hl => h ((isLeader_iff st s hme).1 hl)

/-- nothing but the contents of stores changed: no store was created or dropped -/
structure Keeps (st st' : Srv σ) : Prop where
  frame : Frame st st'
  has : ∀ k, Has st' k ↔ Has st k

theorem Keeps.refl (st : Srv σ) : Keeps st st := ⟨Frame.refl st, fun _ => Iff.rfl⟩
theorem Keeps.trans {a b c : Srv σ} (h1 : Keeps a b) (h2 : Keeps b c) : Keeps a c :=
  ⟨h1.frame.trans h2.frame, fun k => (h2.has k).trans (h1.has k)⟩

theorem Keeps.set {st : Srv σ} {k : Int} {v0 : σ} (hs : st.stores.get k = some v0) (v : σ) :
    Keeps st { st with stores := st.stores.set k v } :=
  ⟨⟨rfl, rfl, rfl, rfl⟩, fun k' => (has_set st k k' v).trans
    ⟨fun h => h.elim (fun e hn => Option.some_ne_none v0 (hs.symm.trans (e ▸ hn))) id, Or.inr⟩⟩

theorem stopLeading_frame (st : Srv σ) (s : Int) : Frame st (stopLeading st s) := ⟨rfl, rfl, rfl, rfl⟩

theorem stopLeading_get (st : Srv σ) (s k : Int) :
    (stopLeading st s).stores.get k = if k = s then none else st.stores.get k := AL.get_del _ _ _

theorem has_stopLeading {st : Srv σ} {s k : Int} (h : Has (stopLeading st s) k) : k ≠ s ∧ Has st k := by
  unfold Has at h
  rw [stopLeading_get] at h
  split at h
  · exact absurd rfl h
  · exact ⟨‹_›, h⟩

/-- the shape `UpdateRateLimitConditionStatus`, `DoAcquire` and `UpstreamConditionHandler` share -/
def guarded {α : Type} (st : Srv σ) (u : Str) (no : Int → Str → Reply ρ) (call : σ → σ × α) (wrap : α → Reply ρ) :
    Srv σ × Reply ρ :=
  let s := shardOf st u
  if !isLeader st s then (st, no s (leaderName st s))
  else match st.stores.get s with
    | none => (st, .noStore s)
    | some store => ({ st with stores := st.stores.set s (call store).1 }, wrap (call store).2)

-- stated of whatever equals a guarded call: at each use the equation (`updateStatus_eq` …) is the only argument
section
variable {α : Type} {st : Srv σ} {u : Str} {no : Int → Str → Reply ρ} {call : σ → σ × α} {wrap : α → Reply ρ}
  {x : Srv σ × Reply ρ} (hx : x = guarded st u no call wrap)
include hx

theorem guarded_refuses (h : isLeader st (shardOf st u) = false) :
    x = (st, no (shardOf st u) (leaderName st (shardOf st u))) := by
  rw [hx]
  unfold guarded
  dsimp only
  rw [h]
  rfl

theorem guarded_serves {store : σ} (hl : isLeader st (shardOf st u) = true) (hs : st.stores.get (shardOf st u) = some store) :
    x = ({ st with stores := st.stores.set (shardOf st u) (call store).1 }, wrap (call store).2) := by
  rw [hx]
  unfold guarded
  dsimp only
  rw [hl, hs]
  rfl

theorem guarded_keeps : Keeps st x.1 := by
  rw [hx]
  unfold guarded
  dsimp only
  split
  · exact Keeps.refl st
  · split
    · exact Keeps.refl st
    · exact Keeps.set ‹_› _

end

section
variable (ops : StoreOps σ ρ) (st : Srv σ)

theorem updateStatus_eq (u inst : Str) :
    updateStatus ops st u inst = guarded st u .refused (ops.update u inst) .served := rfl

theorem doAcquire_eq (u inst : Str) (t : Int) :
    doAcquire ops st u inst t = guarded st u .refused (ops.acquire u inst t) .served := rfl

theorem upstreamHandler_eq (u : Str) :
    upstreamHandler ops st u = guarded st u .skipped
      (fun x => if st.lister.contains u then ops.syncUpstream u x else ops.deleteUpstream u x) .handled := rfl

/-- `deleteCondition` looks up the store `k` before the leader test: it may answer `noStore k` instead -/
theorem step_refuses (e : Op) {u : Str} (hu : Op.upstream e = some u)
    (h : isLeader st (shardOf st u) = false) :
    step ops st e = (st, match (generalizing := false) e with
      | .allocate _ _ | .acquire _ _ _ => .refused (shardOf st u) (leaderName st (shardOf st u))
      | .deleteCond k _ _ _ =>
        if (st.stores.get k).isSome then .skipped (shardOf st u) (leaderName st (shardOf st u)) else .noStore k
      | _ => .skipped (shardOf st u) (leaderName st (shardOf st u))) := by
  cases e with
  | clusterUpdate _ => cases hu; exact guarded_refuses (upstreamHandler_eq ops st _) h
  | allocate _ i => cases hu; exact guarded_refuses (updateStatus_eq ops st _ i) h
  | acquire _ i t => cases hu; exact guarded_refuses (doAcquire_eq ops st _ i t) h
  | deleteCond k _ nm i =>
    cases hu
    show deleteCondition ops st k _ nm i = _
    unfold deleteCondition
    split
    · dsimp only
      rw [‹st.stores.get k = none›]
      rfl
    · dsimp only
      rw [‹st.stores.get k = some _›, h]
      rfl
  | _ => cases hu

theorem step_keeps (e : Op) {u : Str} (hu : Op.upstream e = some u) :
    Keeps st (step ops st e).1 := by
  cases e with
  | clusterUpdate u => exact guarded_keeps (upstreamHandler_eq ops st u)
  | allocate u i => exact guarded_keeps (updateStatus_eq ops st u i)
  | acquire u i t => exact guarded_keeps (doAcquire_eq ops st u i t)
  | deleteCond k u nm i =>
    show Keeps st (deleteCondition ops st k u nm i).1
    unfold deleteCondition
    split
    · exact Keeps.refl st
    · dsimp only
      split
      · exact Keeps.refl st
      · split
        · exact Keeps.refl st
        · exact Keeps.set ‹_› _
  | _ => cases hu

theorem syncShard_keeps (s : Int) (us : List Str) :
    Keeps st (syncShard ops s us st).1 := by
  induction us generalizing st with
  | nil => exact Keeps.refl st
  | cons u us ih =>
    have hu : Keeps st (upstreamHandler ops st u).1 := step_keeps ops st (.clusterUpdate u) rfl
    unfold syncShard
    split
    · dsimp only
      split
      · exact hu
      · exact hu.trans (ih _)
    · exact ih st

/-- the store `startLeading` puts into the map: created, then loaded (`none`: either failed) -/
def loaded (s n : Int) : Option σ :=
  (ops.newStore s n).bind fun v => if (ops.load v).2 then some (ops.load v).1 else none

theorem startLeading_eq (s : Int) : startLeading ops st s =
    match st.stores.get s, loaded ops s st.n with
    | none, some v =>
      let r := syncShard ops s st.lister { st with stores := st.stores.set s v }
      if r.2 then r.1 else stopLeading r.1 s
    | _, _ => st := by
  unfold startLeading loaded
  cases st.stores.get s with
  | some _ => rfl
  | none =>
    cases ops.newStore s st.n with
    | none => rfl
    | some v0 =>
      dsimp only [Option.bind]
      cases (ops.load v0).2 <;> rfl

theorem startLeading_spec (s : Int) :
    Frame st (startLeading ops st s) ∧ ∀ k, Has (startLeading ops st s) k → k = s ∨ Has st k := by
  rw [startLeading_eq]
  split
  · rename_i v _ _
    -- the new store enters the map; the initial sync keeps the map's shape
    obtain ⟨fr, hh⟩ := syncShard_keeps ops { st with stores := st.stores.set s v } s st.lister
    have hset : ∀ k, Has (syncShard ops s st.lister { st with stores := st.stores.set s v }).1 k → k = s ∨ Has st k :=
      fun k hk => (has_set st s k v).1 ((hh k).1 hk)
    dsimp only
    split
    · exact ⟨fr, hset⟩
    · exact ⟨Frame.trans fr (stopLeading_frame _ s), fun k hk => hset k (has_stopLeading hk).2⟩
  · exact ⟨Frame.refl st, fun _ => Or.inr⟩

theorem checkStart_spec (leaders : AList Str) (ks : List Int) :
    Frame st (checkStart ops leaders ks st) ∧
    ∀ k, Has (checkStart ops leaders ks st) k → ledIn leaders st.me k = true ∨ Has st k := by
  induction ks generalizing st with
  | nil => exact ⟨Frame.refl st, fun _ => Or.inr⟩
  | cons k' ks ih =>
    unfold checkStart
    dsimp only
    split
    · rename_i hled
      split
      · obtain ⟨f1, h1⟩ := startLeading_spec ops st k'
        obtain ⟨f2, h2⟩ := ih (startLeading ops st k')
        refine ⟨f1.trans f2, fun k hk => ?_⟩
        rcases h2 k hk with h | h
        · rw [f1.me] at h; exact Or.inl h
        · rcases h1 k h with rfl | h'
          · exact Or.inl hled
          · exact Or.inr h'
      · exact ih st
    · exact ih st

theorem foldl_stopLeading_get (ks : List Int) (k : Int) :
    (ks.foldl stopLeading st).stores.get k = if k ∈ ks then none else st.stores.get k := by
  induction ks generalizing st with
  | nil => simp
  | cons k' ks ih =>
    simp only [List.foldl_cons, ih, stopLeading_get, List.mem_cons]
    by_cases h1 : k ∈ ks <;> by_cases h2 : k = k' <;> simp [h1, h2]

theorem leaderCheck_frame : Frame st (leaderCheck ops st) :=
  (checkStart_spec ops st _ _).1.trans
    (List.foldlRecOn _ _ (Frame.refl _) fun b hb k _ => hb.trans (stopLeading_frame b k))

theorem leaderCheck_has (k : Int) :
    Has (leaderCheck ops st) k → st.leaders.get k = some st.me := by
  unfold leaderCheck Has
  dsimp only
  rw [foldl_stopLeading_get]
  split
  · intro h; exact absurd rfl h
  · rename_i hnot
    intro hk
    -- k has a store after the first loop and was not selected for stopping: it is led
    have := fun hl => hnot (List.mem_filter.2 ⟨(AL.mem_keys _ k).2 hk, hl⟩)
    simpa [ledIn] using this

/-- `leaderInfo` after a step: only the election callbacks write it -/
def electorStep (me : Str) (l : AList Str) : Op → AList Str
  | .gain s => l.set s me
  | .lose s | .loseBegin s => if (l.get s).getD [] == me then l.del s else l
  | .newLeader s id => l.set s id
  | _ => l

theorem electorStopPre_eq (s : Int) :
    electorStopPre st s = { st with leaders := electorStep st.me st.leaders (.loseBegin s) } := by
  unfold electorStopPre leaderName
  show _ = { st with leaders := if (st.leaders.get s).getD [] == st.me then st.leaders.del s else st.leaders }
  split <;> rfl

theorem electorStop_eq (s : Int) :
    electorStop st s = { st with leaders := electorStep st.me st.leaders (.lose s), stores := st.stores.del s } := by
  unfold electorStop stopLeading
  rw [electorStopPre_eq]
  rfl

end

theorem checkStart_has (ops : StoreOps σ ρ) (leaders : AList Str) (ks : List Int) (st : Srv σ) (k : Int) :
    Has (checkStart ops leaders ks st) k → ledIn leaders st.me k = true ∨ Has st k :=
  (checkStart_spec ops st leaders ks).2 k

theorem electorStep_get (me : Str) (l : AList Str) (e : Op) :
    leaderEv me (AList.get l) e = AList.get (electorStep me l e) := by
  funext s
  have lost : ∀ s', (if s = s' then (if (l.get s').getD [] == me then none else l.get s') else l.get s) =
      (if (l.get s').getD [] == me then l.del s' else l).get s := fun s' => by
    split
    · split
      · rw [AL.get_del, if_pos ‹s = s'›]
      · rw [‹s = s'›]
    · split
      · rw [AL.get_del, if_neg ‹_›]
      · rfl
  cases e with
  | gain | newLeader => exact (AL.get_set _ _ _ _).symm
  | lose s' | loseBegin s' => exact lost s'
  | _ => rfl

/-! ## isolation: a shard's store is read and written only through its own shard -/

/-- two servers that differ at most in the stores of shards other than `s` -/
structure Agree (s : Int) (st st' : Srv σ) : Prop where
  frame : Frame st st'
  store : st'.stores.get s = st.stores.get s

section
variable (ops : StoreOps σ ρ)

theorem upstreamHandler_agree {s : Int} {st st' : Srv σ} {u : Str} (h : Agree s st st') (hu : shardOf st u = s) :
    Agree s (upstreamHandler ops st u).1 (upstreamHandler ops st' u).1 ∧
    (upstreamHandler ops st u).2 = (upstreamHandler ops st' u).2 := by
  rw [upstreamHandler_eq, upstreamHandler_eq, h.frame.lister]
  unfold guarded
  simp only [shardOf_frame h.frame, isLeader_frame h.frame, leaderName_frame h.frame, hu, h.store]
  split
  · exact ⟨h, rfl⟩
  · split
    · exact ⟨h, rfl⟩
    · exact ⟨⟨h.frame, (AL.get_set_eq _ _ _).trans (AL.get_set_eq _ _ _).symm⟩, rfl⟩

theorem syncShard_agree (s : Int) (us : List Str) (st st' : Srv σ) (h : Agree s st st') :
    Agree s (syncShard ops s us st).1 (syncShard ops s us st').1 ∧
    (syncShard ops s us st).2 = (syncShard ops s us st').2 := by
  induction us generalizing st st' with
  | nil => exact ⟨h, rfl⟩
  | cons u us ih =>
    unfold syncShard
    rw [shardOf_frame h.frame]
    split
    · have := upstreamHandler_agree ops h ‹_›
      dsimp only
      rw [← this.2]
      split
      · exact ⟨this.1, rfl⟩
      · exact ih _ _ this.1
    · exact ih _ _ h

theorem startLeading_agree {s : Int} {st st' : Srv σ} (h : Agree s st st') :
    Agree s (startLeading ops st s) (startLeading ops st' s) := by
  rw [startLeading_eq, startLeading_eq, h.store, congrArg (loaded ops s) h.frame.n, congrArg (syncShard ops s) h.frame.lister]
  split
  · rename_i v _ _
    have := syncShard_agree ops s st.lister { st with stores := st.stores.set s v } { st' with stores := st'.stores.set s v }
      ⟨h.frame, (AL.get_set_eq _ _ _).trans (AL.get_set_eq _ _ _).symm⟩
    dsimp only
    rw [← this.2]
    split
    · exact this.1
    · exact ⟨((stopLeading_frame _ s).symm.trans this.1.frame).trans (stopLeading_frame _ s),
        (AL.get_del_self _ s).trans (AL.get_del_self _ s).symm⟩
  · exact h

theorem electorStop_agree {st st' : Srv σ} (h : Frame st st') (s : Int) :
    Agree s (electorStop st s) (electorStop st' s) := by
  rw [electorStop_eq, electorStop_eq]
  exact ⟨⟨h.me, h.n, by dsimp only; rw [h.me, h.leaders], h.lister⟩, (AL.get_del_self _ s).trans (AL.get_del_self _ s).symm⟩

theorem electorStart_agree {s : Int} {st st' : Srv σ} (h : Agree s st st') :
    Agree s (electorStart ops st s) (electorStart ops st' s) :=
  startLeading_agree ops ⟨⟨h.frame.me, h.frame.n, by unfold setLeader; rw [h.frame.me, h.frame.leaders], h.frame.lister⟩, h.store⟩

end

/-! ## the gateway sync -/

theorem clientFor_ok_iff (g : Gw) (u server : Str) :
    clientFor g u = .ok server ↔ ∃ s, shardIDFor g u = .ok s ∧ g.leaderEndpoints.get s = some server := by
  unfold clientFor
  constructor
  · intro h
    split at h <;> try cases h
    rename_i shard hs
    split at h <;> cases h
    exact ⟨shard, hs, ‹_›⟩
  · intro ⟨s, hs, hg⟩
    rw [hs]
    dsimp only
    rw [hg]

theorem gwSync_fold_other (eps : List Endpoint) (le : AList Str) (k : Int)
    (h : ∀ ep ∈ eps, ep.shardID ≠ k) : (eps.foldl gwSyncStep le).get k = le.get k := by
  induction eps generalizing le with
  | nil => rfl
  | cons ep eps ih =>
    rw [List.foldl_cons, ih _ fun e he => h e (List.mem_cons_of_mem _ he)]
    unfold gwSyncStep
    dsimp only
    split
    · rw [AL.get_set, if_neg (Ne.symm (h ep List.mem_cons_self))]
    · rfl

theorem gwSyncStep_getD (le : AList Str) (k : Int) (l : Str) :
    ((gwSyncStep le ⟨k, l⟩).get k).getD [] = l := by
  unfold gwSyncStep
  dsimp only
  split
  · rw [AL.get_set_eq]; rfl
  · rename_i h; simpa using h

theorem gwSync_get (leaders : AList Str) (le : AList Str) (k : Int) (l : Str)
    (hnd : NodupKeys leaders) (hk : leaders.get k = some l) (hl : l ≠ []) :
    ((leaders.map fun p => ({ shardID := p.1, leader := p.2 } : Endpoint)).foldl gwSyncStep le).get k = some l := by
  induction leaders generalizing le with
  | nil => cases hk
  | cons p rest ih =>
    obtain ⟨k', l'⟩ := p
    obtain ⟨hnot, hnd⟩ := List.nodup_cons.1 hnd
    rw [List.map_cons, List.foldl_cons]
    rw [AL.get_cons] at hk
    split at hk
    · -- the rest does not mention k'
      subst ‹k' = k›
      obtain rfl : l' = l := Option.some.inj hk
      rw [gwSync_fold_other]
      · exact get_of_getD (gwSyncStep_getD le k' l') hl
      · intro ep hep hk
        obtain ⟨q, hq, rfl⟩ := List.mem_map.1 hep
        exact hnot (List.mem_map.2 ⟨q, hq, hk⟩)
    · exact ih _ hnd hk

/-- shard ids travel as `int32`: ids in [0, 2^31) arrive unchanged -/
theorem serverInfo_endpoints (st : Srv σ) (hrange : ∀ p ∈ st.leaders, 0 ≤ p.1 ∧ p.1 < 2147483648) :
    (serverInfo st).endpoints = st.leaders.map fun p => { shardID := p.1, leader := p.2 } :=
  List.map_congr_left fun p hp => by rw [toI32_of_range (hrange p hp).1 (hrange p hp).2]

/-! ## gateway histories -/

theorem gwRun_requests (g : Gw) (us : List Str) :
    gwRun g (us.map GOp.request) = (g, us.map fun u => (u, requestDest g u)) := by
  induction us with
  | nil => rfl
  | cons u us ih => simp only [List.map_cons, gwRun, gwStep, ih]

theorem gwRun_append (g : Gw) (a b : List GOp) :
    gwRun g (a ++ b) = ((gwRun (gwRun g a).1 b).1, (gwRun g a).2 ++ (gwRun (gwRun g a).1 b).2) := by
  induction a generalizing g with
  | nil => simp [gwRun]
  | cons o a ih =>
    simp only [List.cons_append, gwRun, ih]
    cases (gwStep g o).2 <;> simp

/-! ## histories -/

theorem leaderAfter_append (me : Str) (h : List Op) (e : Op) :
    leaderAfter me (h ++ [e]) = leaderEv me (leaderAfter me h) e := by
  unfold leaderAfter; rw [List.foldl_append]; rfl

theorem heldSince_append (me : Str) (h : List Op) (e : Op) :
    heldSince me (h ++ [e]) = heldStep me h (heldSince me h) e := by
  suffices ∀ pre held, heldAux me pre (h ++ [e]) held = heldStep me (pre ++ h) (heldAux me pre h held) e from this [] _
  induction h with
  | nil => exact fun pre held => by rw [List.append_nil]; rfl
  | cons x h ih => exact fun pre held => (ih (pre ++ [x]) _).trans (by rw [List.append_cons pre x h]; rfl)

section
variable (ops : StoreOps σ ρ) (st : Srv σ)

theorem step_elector (e : Op) :
    (step ops st e).1.me = st.me ∧ (step ops st e).1.n = st.n ∧
    (step ops st e).1.leaders = electorStep st.me st.leaders e := by
  have fr : ∀ {a b : Srv σ}, Frame a b → b.me = a.me ∧ b.n = a.n ∧ b.leaders = a.leaders :=
    fun h => ⟨h.me, h.n, h.leaders⟩
  have pr : ∀ {a b : Srv σ}, a = b → a.me = b.me ∧ a.n = b.n ∧ a.leaders = b.leaders := fun h => h ▸ ⟨rfl, rfl, rfl⟩
  cases e with
  | gain s => exact fr (startLeading_spec ops (setLeader st s st.me) s).1
  | lose s => exact pr (electorStop_eq st s)
  | loseBegin s => exact pr (electorStopPre_eq st s)
  | leaderCheck => exact fr (leaderCheck_frame ops st)
  | clusterUpdate | allocate | acquire | deleteCond => exact fr (step_keeps ops st _ rfl).frame
  | _ => exact ⟨rfl, rfl, rfl⟩

theorem step_has (e : Op) (k : Int) (h : Has (step ops st e).1 k) :
    match (generalizing := false) e with
    | .gain s => k = s ∨ Has st k
    | .lose s | .loseEnd s => k ≠ s ∧ Has st k
    | .leaderCheck => st.leaders.get k = some st.me
    | _ => Has st k := by
  have pre : ∀ s, Has (electorStopPre st s) k → Has st k := fun s h => by rw [electorStopPre_eq] at h; exact h
  cases e with
  | gain s => exact (startLeading_spec ops (setLeader st s st.me) s).2 k h
  | lose s => exact (has_stopLeading h).imp_right (pre s)
  | loseEnd s => exact has_stopLeading h
  | loseBegin s => exact pre s h
  | leaderCheck => exact leaderCheck_has ops st k h
  | clusterUpdate | allocate | acquire | deleteCond => exact ((step_keeps ops st _ rfl).has k).1 h
  | _ => exact h

theorem run_append (h : List Op) (e : Op) :
    run ops st (h ++ [e]) = (step ops (run ops st h) e).1 := by
  unfold run; rw [List.foldl_append]; rfl

theorem run_nil : run ops st [] = st := rfl

theorem run_cons (e : Op) (h : List Op) :
    run ops st (e :: h) = run ops (step ops st e).1 h := rfl

def LeadersWF (P : Int → Prop) (l : AList Str) : Prop := NodupKeys l ∧ ∀ p ∈ l, P p.1

theorem wf_del (P : Int → Prop) (l : AList Str) (k : Int) (h : LeadersWF P l) : LeadersWF P (AList.del l k) :=
  ⟨AL.nodup_del l k h.1, fun p hp => h.2 p (List.mem_filter.1 hp).1⟩

theorem wf_set (P : Int → Prop) (l : AList Str) (k : Int) (v : Str) (h : LeadersWF P l) (hk : P k) :
    LeadersWF P (AList.set l k v) := by
  refine ⟨AL.nodup_set l k v h.1, fun p hp => ?_⟩
  rcases List.mem_cons.1 hp with rfl | hp
  · exact hk
  · exact (wf_del P l k h).2 p hp

theorem electorStep_wf (P : Int → Prop) (me : Str) (l : AList Str) (e : Op)
    (h : LeadersWF P l) (he : ∀ s, Op.callbackShard e = some s → P s) : LeadersWF P (electorStep me l e) := by
  have lost : ∀ s, LeadersWF P (if (l.get s).getD [] == me then l.del s else l) := fun s => by
    split
    · exact wf_del P l s h
    · exact h
  cases e with
  | gain s | newLeader s => exact wf_set P l s _ h (he s rfl)
  | lose s | loseBegin s => exact lost s
  | _ => exact h

theorem run_wf (P : Int → Prop) (h : List Op) (he : ∀ e ∈ h, ∀ s, Op.callbackShard e = some s → P s)
    (hw : LeadersWF P st.leaders) : LeadersWF P (run ops st h).leaders :=
  List.foldlRecOn (motive := fun st => LeadersWF P st.leaders) h _ hw fun st hst e hm =>
    (step_elector ops st e).2.2 ▸ electorStep_wf P st.me st.leaders e hst (he e hm)

end

/-- server `st` is what the specification says of a server `me` with `n` shards after history `h` -/
structure Tracks (me : Str) (n : Int) (h : List Op) (st : Srv σ) : Prop where
  me_eq : st.me = me
  n_eq : st.n = n
  leaders : ∀ s, st.leaders.get s = leaderAfter me h s
  held : ∀ s, Has st s → heldSince me h s = true

section
variable (ops : StoreOps σ ρ) {me : Str} {n : Int} {h : List Op} {st : Srv σ} (t : Tracks me n h st)
include t

theorem tracks_step (e : Op) : Tracks me n (h ++ [e]) (step ops st e).1 := by
  obtain ⟨h1, h2, h3⟩ := step_elector ops st e
  refine ⟨h1.trans t.me_eq, h2.trans t.n_eq, fun s => ?_, fun s hs => ?_⟩
  · rw [h3, leaderAfter_append, ← funext t.leaders, t.me_eq, electorStep_get]
  · have := step_has ops st e s hs
    rw [heldSince_append]
    cases e with
    | gain s' => exact this.elim (fun e => if_pos e) fun hk => ite_eq_left_iff.2 fun _ => t.held s hk
    | lose | loseEnd => exact (if_neg this.1).trans (t.held s this.2)
    | leaderCheck => exact decide_eq_true ((t.leaders s).symm.trans (this.trans (congrArg some t.me_eq)))
    | _ => exact t.held s this

theorem tracks_run (r : List Op) : Tracks me n (h ++ r) (run ops st r) := by
  induction r generalizing h st with
  | nil => exact (List.append_nil h).symm ▸ t
  | cons e r ih => exact List.append_cons h e r ▸ ih (tracks_step ops t e)

/-- **The judge holds of every step of a tracked server**, wherever it came from. -/
theorem tracks_judge (hme : me ≠ []) (e : Op) :
    JudgeStep me (shardOf st) h e (obsOf (step ops st e).2) ((step ops st e).1 = st)
      (AList.keys (step ops st e).1.stores) := by
  have nl : ∀ u, leaderAfter me h (shardOf st u) ≠ some me → isLeader st (shardOf st u) = false := fun u hnl =>
    not_isLeader st _ (t.me_eq ▸ hme) (by rw [t.leaders, t.me_eq]; exact hnl)
  have has := fun k hk => step_has ops st e k ((AL.mem_keys _ k).1 hk)
  cases e with
  | lose s | loseEnd s => exact fun hs => (has s hs).1 rfl
  | leaderCheck => exact fun s hs => (t.leaders s).symm.trans ((has s hs).trans (congrArg some t.me_eq))
  | clusterUpdate u => exact fun hnl => by rw [step_refuses ops st _ rfl (nl u hnl)]; exact ⟨rfl, rfl⟩
  | allocate u | acquire u =>
    intro hnl
    rw [step_refuses ops st _ rfl (nl u hnl), ← t.leaders]
    exact ⟨rfl, rfl⟩
  | deleteCond k u name inst => exact fun hnl => by rw [step_refuses ops st _ rfl (nl u hnl)]
  | _ => trivial

end

theorem tracks_init (me : Str) (n : Int) (hn : toU32 n ≠ 0) (lister : List Str) :
    Tracks (σ := σ) me n [] (init me n hn lister) :=
  ⟨rfl, rfl, fun _ => rfl, fun _ h => absurd rfl h⟩

/-! ## stopping a k8s store -/

theorem newKStore_wf (p : Bool) : (newKStore p).WF := by intro h; cases h

theorem kstop_wf (s : KStore) (api : Bool) (h : s.WF) : (s.stop api).1.WF := by
  unfold KStore.stop
  split
  · exact h
  · split <;> exact fun _ => rfl

theorem kstop_closed (s : KStore) (api : Bool) (h : s.WF) : (s.stop api).1.stopCh = true := by
  unfold KStore.stop
  split
  · exact h ‹_›
  · split <;> rfl

theorem stopWithRetry_inv (P : KStore → Prop) (hP : ∀ s api, P s → P (KStore.stop s api).1)
    (fuel : Nat) (api : List Bool) (s : KStore) (h : P s) : P (stopWithRetry fuel api s).1 := by
  induction fuel generalizing api s with
  | zero => exact h
  | succ fuel ih =>
    unfold stopWithRetry
    dsimp only
    split
    · exact hP s _ h
    · exact ih _ _ (hP s _ h)

theorem stopWithRetry_closed (fuel : Nat) (api : List Bool) (s : KStore) (h : s.WF) :
    (stopWithRetry (fuel + 1) api s).1.stopCh = true := by
  unfold stopWithRetry
  dsimp only
  split
  · exact kstop_closed s _ h
  · -- a closed `stopCh` stays closed: `WF` with the premise dropped
    exact stopWithRetry_inv (·.stopCh = true) (fun s api h => kstop_closed s api fun _ => h) _ _ _ (kstop_closed s _ h)

theorem kstop_api_ok (s : KStore) : (s.stop true).2 = true := by
  unfold KStore.stop
  split <;> rfl

theorem stopWithRetry_succeeds (fuel : Nat) (api : List Bool) (s : KStore) (i : Nat) (hi : i < fuel)
    (hapi : api.getD i true = true) : (stopWithRetry fuel api s).2.1 = true := by
  induction fuel generalizing api s i with
  | zero => omega
  | succ fuel ih =>
    unfold stopWithRetry
    dsimp only
    split
    · rfl
    · rename_i h1
      cases i with
      | zero =>
        have : api.headD true = true := by cases api <;> exact hapi
        rw [this] at h1
        exact absurd (kstop_api_ok s) h1
      | succ j =>
        have : api.tail.getD j true = true := by cases api <;> exact hapi
        exact ih api.tail _ j (by omega) this

end KG.Lemmas.Shard

/-! ## overlapping starts and stops of one shard -/
namespace KG.Lemmas.ShardOverlap
open KG KG.Model.Shard.Overlap

def OInv (st : OState) : Prop := ∀ i, running st i → st.map = some i

theorem set_true_running (l : List Bool) (id i : Nat) (h : (l.set id true)[i]? = some false) :
    i ≠ id ∧ l[i]? = some false := by
  rw [List.getElem?_set] at h
  split at h
  · split at h <;> cases h
  · exact ⟨Ne.symm ‹_›, h⟩

theorem startBegin_inv (st : OState) (b : Bool) (h : OInv st) : OInv (startBegin st b) := by
  unfold startBegin
  split
  · exact h
  · rename_i hm
    intro i hi
    unfold running at hi
    dsimp only at hi ⊢
    rw [List.getElem?_append] at hi
    split at hi
    · have := h i hi
      rw [hm] at this; cases this
    · rw [List.getElem?_singleton] at hi
      split at hi
      · exact congrArg some (by omega)
      · cases hi

theorem startFail_inv (st : OState) (id : Nat) (h : OInv st) : OInv (startFail st id) := by
  intro i hi
  obtain ⟨hne, hr⟩ := set_true_running _ _ _ hi
  unfold startFail
  dsimp only
  rw [h i hr, if_neg fun x => hne (Option.some.inj x)]

theorem dropStore_inv (st : OState) (h : OInv st) : OInv (dropStore st) := by
  unfold dropStore
  split
  · exact h
  · rename_i id hm
    intro i hi
    obtain ⟨hne, hr⟩ := set_true_running _ _ _ hi
    have := h i hr
    rw [hm] at this
    exact absurd (Option.some.inj this).symm hne

theorem step_inv (st : OState) (o : OOp) (h : OInv st) : OInv (step st o) := by
  cases o with
  -- `OInv` does not mention the `leader` flag: `h` proves it of `{ st with leader := true }` as well
  | begin => exact startBegin_inv _ _ h
  | finishFail id =>
    simp only [step]
    split
    · exact startFail_inv st id h
    · exact h
  | finishOk id =>
    simp only [step]
    split
    · split
      · exact startFail_inv st id h
      · exact h
    · exact h
  | lose => exact dropStore_inv _ h
  | check =>
    simp only [step]
    split
    · exact startBegin_inv st false h
    · exact dropStore_inv st h

theorem run_inv (ops : List OOp) : OInv (run ops) :=
  List.foldlRecOn ops _ (fun i hi => by cases hi) fun st h o _ => step_inv st o h

theorem dropStore_map (st : OState) : (dropStore st).map = none := by
  unfold dropStore; split <;> simp_all

theorem run_snoc (ops : List OOp) (o : OOp) : run (ops ++ [o]) = step (run ops) o := by
  unfold run; rw [List.foldl_append]; rfl

end KG.Lemmas.ShardOverlap
