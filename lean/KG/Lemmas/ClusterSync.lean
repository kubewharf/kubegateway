import KG.Spec.ClusterSync
import KG.Lemmas.Lists
/-! Lemmas for C11. `Inv` is kept by every sub-sync of `ClusterInfo.Sync`, successful or failed half-way; under it how
    `Sync` ends, and what a successful one leaves, is decided by the object alone (`sync_spec`). The controller's invariant
    `CInv` is kept because everything the handler does re-points the keys of one cluster's `ClusterInfo` (`repoint_spec`);
    a delivery settles its cluster or leaves it pending (`handler_spec`), so after every run each cluster is pending or
    settled (`AllInv`, `allInv_of_run`). -/
namespace KG.Lemmas.ClusterSync
open KG KG.Model.ClusterSync KG.Spec.ClusterSync

/-! ## lists: association lists, a cell written or appended, strings -/

/-- instance search reaches this through `LawfulBEq (List UInt8)`, slowly; every `if k ∈ l` below finds it here at once -/
instance decMemStr (a : Str) (l : List Str) : Decidable (a ∈ l) := inferInstance

theorem alookup_astore {β : Type} (k j : Str) (v : β) (m : List (Str × β)) :
    alookup j (astore k v m) = if k = j then some v else alookup j m := by
  induction m with
  | nil => rfl
  | cons kv r ih =>
    obtain ⟨k', v'⟩ := kv
    unfold astore
    by_cases h : k' = k
    · subst h
      by_cases hj : k' = j <;> simp [alookup, hj]
    · by_cases hj : k' = j
      · subst hj; simp [alookup, h, Ne.symm h]
      · simp [alookup, h, hj, ih]

theorem alookup_aerase {β : Type} (k j : Str) (m : List (Str × β)) :
    alookup j (aerase k m) = if k = j then none else alookup j m := by
  induction m with
  | nil => simp [aerase, alookup]
  | cons kv r ih =>
    obtain ⟨k', v'⟩ := kv
    unfold aerase
    by_cases h : k' = k
    · subst h
      rw [if_pos rfl, ih]
      by_cases hj : k' = j <;> simp [alookup, hj]
    · by_cases hj : k' = j
      · subst hj; simp [alookup, h, Ne.symm h]
      · simp [alookup, h, hj, ih]

theorem mem_akeys {β : Type} (k : Str) (m : List (Str × β)) : k ∈ akeys m ↔ (alookup k m).isSome = true := by
  unfold akeys
  induction m with
  | nil => simp [alookup]
  | cons kv r ih =>
    obtain ⟨k', v⟩ := kv
    rw [List.map_cons, List.mem_cons, ih, alookup]
    by_cases h : k' = k
    · simp [h]
    · rw [if_neg h]
      exact or_iff_right (Ne.symm h)

theorem memb_iff (a : Str) (l : List Str) : memb a l = true ↔ a ∈ l := by
  induction l with
  | nil => simp [memb]
  | cons b r ih =>
    unfold memb
    by_cases h : b = a
    · simp [h]
    · simp [h, ih, Ne.symm h]

theorem memb_false_iff (a : Str) (l : List Str) : memb a l = false ↔ a ∉ l := by
  rw [← memb_iff, Bool.not_eq_true]

theorem mem_dedup (a : Str) (l : List Str) : a ∈ dedup l ↔ a ∈ l := by
  induction l with
  | nil => simp [dedup]
  | cons b r ih =>
    unfold dedup
    by_cases h : memb b r = true
    · rw [if_pos h, ih, List.mem_cons]
      exact ⟨Or.inr, fun x => x.elim (fun e => e ▸ (memb_iff _ _).1 h) id⟩
    · rw [if_neg h, List.mem_cons, List.mem_cons, ih]

theorem mem_rangeOrder (ord wanted : List Str) (e : Str) : e ∈ rangeOrder ord wanted ↔ e ∈ wanted := by
  unfold rangeOrder
  simp only [List.mem_append, List.mem_filter, mem_dedup, memb_iff, Bool.not_eq_true', memb_false_iff]
  exact ⟨fun h => h.elim (·.2) (·.1), fun h => (Classical.em (e ∈ ord)).imp (⟨·, h⟩) (⟨h, ·⟩)⟩

theorem alookup_filter_keys {β : Type} (p : Str → Bool) (j : Str) (m : List (Str × β)) :
    alookup j (m.filter fun e => p e.1) = if p j then alookup j m else none :=
  KG.Lemmas.get_filter_key (fun l k => alookup k l) (fun _ => rfl) (fun _ _ _ _ => rfl) m p j

theorem foldl_skip {α σ : Type} (p : α → Bool) (f : σ → α → σ) : ∀ (l : List α) (s : σ),
    l.foldl (fun s a => if p a then s else f s a) s = (l.filter fun a => !p a).foldl f s := by
  intro l
  induction l with
  | nil => intro s; rfl
  | cons a r ih =>
    intro s
    simp only [List.foldl, List.filter_cons]
    cases p a with
    | true => exact ih s
    | false => exact ih _

theorem mem_filter_not_memb {j : Str} {l m : List Str} : j ∈ l.filter (fun o => !memb o m) ↔ j ∈ l ∧ j ∉ m := by
  rw [List.mem_filter, Bool.not_eq_true', memb_false_iff]

/-- looking up `j` after the keys of `k :: r` were given their values, `k` first -/
theorem ite_mem_cons {β : Type} (y : Str → β) (k j : Str) (r : List Str) (x : β) :
    (if j ∈ r then y j else if k = j then y k else x) = if j ∈ k :: r then y j else x := by
  by_cases hr : j ∈ r
  · rw [if_pos hr, if_pos (List.mem_cons_of_mem _ hr)]
  · by_cases hj : k = j
    · subst hj; rw [if_neg hr, if_pos rfl, if_pos List.mem_cons_self]
    · rw [if_neg hr, if_neg hj, if_neg (fun h => (List.mem_cons.1 h).elim (fun e => hj e.symm) hr)]

/-- looking up `j` after every key of `L` was given the value `v` (`none`: erased) by a point update -/
theorem alookup_foldl {β : Type} (upd : Str → List (Str × β) → List (Str × β)) (v : Option β)
    (h : ∀ k j m, alookup j (upd k m) = if k = j then v else alookup j m) (L : List Str) :
    ∀ (m : List (Str × β)) (j : Str), alookup j (L.foldl (fun m k => upd k m) m) = if j ∈ L then v else alookup j m := by
  induction L with
  | nil => exact fun m j => (if_neg List.not_mem_nil).symm
  | cons k r ih =>
    intro m j
    rw [List.foldl, ih, h]
    exact ite_mem_cons (fun _ => v) k j r _

theorem alookup_eraseAll {β : Type} (L : List Str) (m : List (Str × β)) (j : Str) :
    alookup j (L.foldl (fun m k => aerase k m) m) = if j ∈ L then none else alookup j m :=
  alookup_foldl (fun k m => aerase k m) none (fun k j m => alookup_aerase k j m) L m j

theorem alookup_storeAll {β : Type} (v : β) (L : List Str) (m : List (Str × β)) (j : Str) :
    alookup j (L.foldl (fun m k => astore k v m) m) = if j ∈ L then some v else alookup j m :=
  alookup_foldl (fun k m => astore k v m) (some v) (fun k j m => alookup_astore k j v m) L m j

theorem aerase_absent {β : Type} {k : Str} : ∀ {m : List (Str × β)}, alookup k m = none → aerase k m = m
  | [], _ => rfl
  | (k', v) :: r, h => by
    unfold alookup at h
    unfold aerase
    split at h
    · cases h
    · next hk => rw [if_neg hk, aerase_absent h]

theorem length_zero_iff (l : Str) : l.length = 0 ↔ l = [] := List.length_eq_zero_iff

/-! ## flow control -/

/-- the schema can be given a limiter (no nil dereference) -/
def safe (s : Schema) : Prop := (newFlowControl s).isSome = true

/-- untouched (`NewFlowControlCache`: only when synced with the zero schema), or the limiter is what `NewFlowControl`
    builds from the stored schema -/
def WOK (n : Str) (w : Wrapper) : Prop :=
  (w.fc = none ∧ w.localConfig = Schema.zero) ∨
  (w.localConfig.name = n ∧ ∃ v, w.fc = some v ∧ newFlowControl w.localConfig = some v)

theorem nfc_shape {s : Schema} {v : FCView} (h : newFlowControl s = some v) :
    v.name = s.name ∧ v.typ = guessType s ∧ (v.typ = .maxInflight → v.b = 0) ∧ (v.typ = .exempt → v.a = 0 ∧ v.b = 0) := by
  unfold newFlowControl at h
  split at h <;> rename_i hg
  · split at h <;> cases h
    simp [hg]
  · split at h <;> cases h
    simp [hg]
  · cases h; simp [hg]

theorem WOK_safe {n : Str} {w : Wrapper} (h : WOK n w) : safe w.localConfig := by
  unfold safe
  rcases h with ⟨_, h⟩ | ⟨_, v, _, hv⟩
  · rw [h]; rfl
  · rw [hv]; rfl

/-- whatever path `localWrapper.Sync` takes (create / type change / resize in place): the resize keeps name and type,
    which already agree, and overwrites every field the type uses -/
theorem localSync_eq {n : Str} {w : Wrapper} {s : Schema} (hw : WOK n w) (hn : s.name = n) (he : s ≠ w.localConfig) :
    localSync w s = (newFlowControl s).map fun v => ⟨s, some v⟩ := by
  unfold localSync
  rw [if_neg he]
  rcases hw with ⟨hfc, _⟩ | ⟨hname, v, hfc, hv⟩
  · rw [hfc]
  · rw [hfc]
    dsimp only
    by_cases ht : v.typ = guessType s
    · rw [if_neg (not_not_intro ht)]
      obtain ⟨hvn, _, hvb, hve⟩ := nfc_shape hv
      rw [hname, ← hn] at hvn
      unfold newFlowControl
      cases hg : guessType s with
      | maxInflight =>
        dsimp only
        cases s.maxInflight with
        | none => rfl
        | some m =>
          show some (⟨s, some ⟨v.name, v.typ, toU32 m, v.b⟩⟩ : Wrapper) = _
          rw [hvn, ht, hg, hvb (ht.trans hg)]; rfl
      | tokenBucket =>
        dsimp only
        cases s.tokenBucket with
        | none => rfl
        | some t =>
          show some (⟨s, some ⟨v.name, v.typ, toU32 t.qps, toU32 t.burst⟩⟩ : Wrapper) = _
          rw [hvn, ht, hg]; rfl
      | exempt =>
        show some (⟨s, some ⟨v.name, v.typ, v.a, v.b⟩⟩ : Wrapper) = _
        rw [hvn, ht, hg, (hve (ht.trans hg)).1, (hve (ht.trans hg)).2]; rfl
    · rw [if_pos ht]

theorem localSync_spec {n : Str} {w : Wrapper} {s : Schema} (hw : WOK n w) (hn : s.name = n) :
    match localSync w s with
    | none => ¬ safe s
    | some w' => w'.localConfig = s ∧ WOK n w' ∧ safe s := by
  by_cases he : s = w.localConfig
  · rw [show localSync w s = some w by unfold localSync; rw [if_pos he]]
    exact ⟨he.symm, hw, he ▸ WOK_safe hw⟩
  · rw [localSync_eq hw hn he]
    unfold safe
    cases hv : newFlowControl s with
    | none => exact fun h => nomatch h
    | some v => exact ⟨rfl, Or.inr ⟨hn, v, rfl, hv⟩, rfl⟩

theorem lastSchema_eq (l : List Schema) (n : Str) : lastSchema l n = l.reverse.find? (fun s => s.name = n) := by
  induction l with
  | nil => rfl
  | cons s r ih =>
    rw [lastSchema, ih, List.reverse_cons, List.find?_append]
    cases r.reverse.find? (fun s => s.name = n) with
    | some x => rfl
    | none =>
      by_cases hs : s.name = n <;> simp [hs]

theorem lastSchema_some {l : List Schema} {n : Str} {s : Schema} (h : lastSchema l n = some s) : s ∈ l ∧ s.name = n := by
  rw [lastSchema_eq] at h
  exact ⟨List.mem_reverse.1 (List.mem_of_find?_eq_some h), by simpa using List.find?_some h⟩

theorem lastSchema_mem {l : List Schema} {n : Str} {s : Schema} (h : lastSchema l n = some s) : s ∈ l :=
  (lastSchema_some h).1

theorem lastSchema_none_iff (l : List Schema) (n : Str) : lastSchema l n = none ↔ n ∉ schemaNames l := by
  rw [lastSchema_eq, List.find?_eq_none]
  simp [schemaNames]

def MapOK (m : List (Str × Wrapper)) : Prop := ∀ n w, alookup n m = some w → WOK n w

theorem MapOK_getD {m : List (Str × Wrapper)} (hm : MapOK m) (n : Str) : WOK n ((alookup n m).getD Wrapper.fresh) := by
  cases hl : alookup n m with
  | none => exact Or.inl ⟨rfl, rfl⟩
  | some w => exact hm n w hl

theorem MapOK_astore {m : List (Str × Wrapper)} (hm : MapOK m) {n : Str} {w : Wrapper} (hw : WOK n w) :
    MapOK (astore n w m) := by
  intro j w' hl
  rw [alookup_astore] at hl
  split at hl
  · next hj => cases hl; exact hj ▸ hw
  · exact hm j w' hl

theorem fcLoop_spec (new : List Schema) : ∀ (m : List (Str × Wrapper)), MapOK m →
    match fcLoop new m with
    | none => ¬ ∀ s ∈ new, safe s
    | some m' => (∀ s ∈ new, safe s) ∧ MapOK m' ∧
      ∀ n, (lastSchema new n = none → alookup n m' = alookup n m) ∧
           (∀ s, lastSchema new n = some s → ∃ w, alookup n m' = some w ∧ w.localConfig = s) := by
  induction new with
  | nil => exact fun m hm => ⟨fun _ h => (nomatch h), hm, fun n => ⟨fun _ => rfl, fun s hs => (nomatch hs)⟩⟩
  | cons s r ih =>
    intro m hm
    unfold fcLoop
    dsimp only
    have hls := localSync_spec (MapOK_getD hm s.name) (s := s) rfl
    generalize localSync _ s = r1 at hls ⊢
    cases r1 with
    | none => exact fun h => hls (h s List.mem_cons_self)
    | some w' =>
      obtain ⟨hcfg, hok', hsafe⟩ := hls
      have hr := ih _ (MapOK_astore hm hok')
      dsimp only
      generalize fcLoop r _ = r2 at hr ⊢
      cases r2 with
      | none => exact fun h => hr fun x hx => h x (List.mem_cons_of_mem _ hx)
      | some m' =>
        obtain ⟨hs1, hm2, hl2⟩ := hr
        refine ⟨List.forall_mem_cons.2 ⟨hsafe, hs1⟩, hm2, fun n => ?_⟩
        obtain ⟨hnone, hsome⟩ := hl2 n
        unfold lastSchema
        cases hr : lastSchema r n with
        | some y => exact ⟨fun hc => (nomatch hc), fun x hx => by cases hx; exact hsome _ hr⟩
        | none =>
          dsimp only
          have h1 := hnone hr
          rw [alookup_astore] at h1
          by_cases hn : s.name = n
          · rw [if_pos hn] at h1 ⊢
            exact ⟨fun hc => (nomatch hc), fun x hx => by cases hx; exact ⟨w', h1, hcfg⟩⟩
          · rw [if_neg hn] at h1 ⊢
            exact ⟨fun _ => h1, fun x hx => (nomatch hx)⟩

theorem fcDelete_eq (old new : List Str) : ∀ m : List (Str × Wrapper),
    fcDelete old new m = old.foldl (fun m n => if memb n new then m else aerase n m) m := by
  induction old with
  | nil => intro m; rfl
  | cons n r ih =>
    intro m
    unfold fcDelete
    split
    · next h => rw [ih, List.foldl, if_pos h]
    · next h => rw [ih, List.foldl, if_neg h]

theorem alookup_fcDelete (old new : List Str) (m : List (Str × Wrapper)) (n : Str) :
    alookup n (fcDelete old new m) = if n ∈ old ∧ n ∉ new then none else alookup n m := by
  rw [fcDelete_eq, foldl_skip, alookup_eraseAll]
  exact ite_congr (propext mem_filter_not_memb) (fun _ => rfl) (fun _ => rfl)

/-- the flow-control part of the invariant: the map holds, for every name, the wrapper of the LAST schema of that name -/
def FRel (spec : List Schema) (fcs : List (Str × Wrapper)) : Prop :=
  (∀ s ∈ spec, safe s) ∧ MapOK fcs ∧
  ∀ n, (lastSchema spec n = none → alookup n fcs = none) ∧
       (∀ s, lastSchema spec n = some s → ∃ w, alookup n fcs = some w ∧ w.localConfig = s)

def FInv (c : CI) : Prop := FRel (c.fcSpec.getD []) c.fcs

theorem syncLocalFlowControls_spec {c : CI} {new : List Schema} (hc : FInv c) :
    match syncLocalFlowControls c new with
    | none => ¬ ∀ s ∈ new, safe s
    | some c' => ∃ sp m, c' = { c with fcSpec := sp, fcs := m } ∧ sp.getD [] = new ∧ FRel new m := by
  unfold syncLocalFlowControls
  dsimp only
  by_cases he : c.fcSpec.getD [] = new
  · rw [if_pos he]; exact ⟨_, _, rfl, he, he ▸ hc⟩
  · rw [if_neg he]
    obtain ⟨_, hmap, hlook⟩ := hc
    have hl := fcLoop_spec new _ hmap
    generalize fcLoop new c.fcs = r at hl ⊢
    cases r with
    | none => exact hl
    | some m =>
      obtain ⟨hs', hm', hl'⟩ := hl
      refine ⟨_, _, rfl, rfl, hs', fun n w hw => ?_, fun n => ?_⟩
      · rw [alookup_fcDelete] at hw
        split at hw
        · cases hw
        · exact hm' n w hw
      · simp only [alookup_fcDelete]
        constructor
        · intro hn
          split
          · rfl
          · next hd =>
            rw [(hl' n).1 hn]
            exact (hlook n).1 ((lastSchema_none_iff _ _).2 (fun ho => hd ⟨ho, (lastSchema_none_iff _ _).1 hn⟩))
        · intro s hs
          have hnn : ¬ n ∉ schemaNames new := fun hc' => by
            rw [(lastSchema_none_iff _ _).2 hc'] at hs; cases hs
          rw [if_neg (fun x => hnn x.2)]
          exact (hl' n).2 s hs

/-! ## secure serving -/

variable {env : Env} {conn : Conn}

/-- the derived material is what the parsers make of the stored data (the two are always written together) -/
def SOK (env : Env) (cfg : SSCfg) : Prop :=
  cfg.clientCA = expCA env cfg.secureServing.clientCAData ∧
  cfg.verifyOptions = expCA env cfg.secureServing.clientCAData ∧
  cfg.certs = expCerts env cfg.secureServing.certData cfg.secureServing.keyData ∧
  (cfg.secureServing.clientCAData.length ≠ 0 → (env.parseCA cfg.secureServing.clientCAData).isSome = true) ∧
  (cfg.secureServing.keyData.length ≠ 0 → cfg.secureServing.certData.length ≠ 0 →
      (env.parsePair cfg.secureServing.certData cfg.secureServing.keyData).isSome = true)

def SInv (env : Env) (c : CI) : Prop := SOK env (loadSS c).1

/-- `cert.ParseCertsPEM` accepts the client CA, if there is one (the second clause of `applicable`, the fourth of `SOK`) -/
def CAOK (env : Env) (ca : Str) : Prop := ca.length ≠ 0 → (env.parseCA ca).isSome = true

/-- `tls.X509KeyPair` accepts the pair, if both halves are there (the third clause of `applicable`, the fifth of `SOK`) -/
def PairOK (env : Env) (cert key : Str) : Prop :=
  key.length ≠ 0 → cert.length ≠ 0 → (env.parsePair cert key).isSome = true

theorem ssClientCA_spec {old : SSCfg} (new : SecureServing) (hc : SOK env old) :
    match ssClientCA env old new with
    | .error _ => ¬ CAOK env new.clientCAData
    | .ok p => p = (expCA env new.clientCAData, expCA env new.clientCAData) ∧ CAOK env new.clientCAData := by
  obtain ⟨h1, h2, _, h4, _⟩ := hc
  unfold ssClientCA CAOK
  by_cases hca : old.secureServing.clientCAData = new.clientCAData
  · rw [if_neg (not_not_intro hca), h1, h2, hca]
    exact ⟨rfl, hca ▸ h4⟩
  · rw [if_pos hca]
    unfold expCA
    by_cases hz : new.clientCAData.length = 0
    · rw [if_pos hz, if_pos hz]
      exact ⟨rfl, fun a => absurd hz a⟩
    · rw [if_neg hz, if_neg hz]
      cases hp : env.parseCA new.clientCAData with
      | none => exact fun h => nomatch h hz
      | some id => exact ⟨rfl, fun _ => rfl⟩

theorem ssCerts_spec {old : SSCfg} (new : SecureServing) (hc : SOK env old) :
    match ssCerts env old new with
    | .error _ => ¬ PairOK env new.certData new.keyData
    | .ok p => p = expCerts env new.certData new.keyData ∧ PairOK env new.certData new.keyData := by
  obtain ⟨_, _, h3, _, h5⟩ := hc
  unfold ssCerts PairOK
  by_cases hk : old.secureServing.keyData = new.keyData ∧ old.secureServing.certData = new.certData
  · rw [if_neg (fun h => h.elim (· hk.1) (· hk.2)), h3, hk.1, hk.2]
    exact ⟨rfl, hk.1 ▸ hk.2 ▸ h5⟩
  · rw [if_pos (Classical.not_and_iff_not_or_not.1 hk)]
    unfold expCerts
    by_cases hz : new.keyData.length = 0 ∨ new.certData.length = 0
    · rw [if_pos hz, if_pos hz]
      exact ⟨rfl, fun a b => hz.elim (absurd · a) (absurd · b)⟩
    · rw [if_neg hz, if_neg hz]
      cases hp : env.parsePair new.certData new.keyData with
      | none => exact fun h => nomatch h (fun a => hz (Or.inl a)) (fun b => hz (Or.inr b))
      | some id => exact ⟨rfl, fun _ _ => rfl⟩

/-- both blocks must succeed for anything to be stored -/
theorem syncSecureServing_spec {c : CI} (new : SecureServing) (hc : SInv env c) :
    match syncSecureServing env c new with
    | .error _ => ¬ (CAOK env new.clientCAData ∧ PairOK env new.certData new.keyData)
    | .ok c' =>
      c' = { c with ss := some ⟨new, expCA env new.clientCAData, expCerts env new.certData new.keyData,
                                expCA env new.clientCAData⟩ } ∧
      CAOK env new.clientCAData ∧ PairOK env new.certData new.keyData := by
  have hA := ssClientCA_spec new hc
  have hB := ssCerts_spec new hc
  unfold syncSecureServing
  dsimp only
  generalize ssClientCA env (loadSS c).1 new = rA at hA ⊢
  cases rA with
  | error e => exact fun h => hA h.1
  | ok p =>
    obtain ⟨hp, hca⟩ := hA
    subst hp
    dsimp only
    generalize ssCerts env (loadSS c).1 new = rB at hB ⊢
    cases rB with
    | error e => exact fun h => hB h.2
    | ok certs =>
      obtain ⟨hp, hkp⟩ := hB
      subst hp
      exact ⟨rfl, hca, hkp⟩

/-! ## endpoints -/

def EpsOK (env : Env) (eps : List (Str × Bool)) : Prop := ∀ ep b, alookup ep eps = some b → env.addOK ep = true

/-- every endpoint present could be given a transport; nothing is ever added when endpoints are not synced -/
def EInv (env : Env) (c : CI) : Prop :=
  EpsOK env c.eps ∧ (c.conn.skipSyncEndpoints = true → c.eps = [])

theorem EInv_of_eq {env : Env} {a b : CI} (h1 : b.eps = a.eps) (h2 : b.conn = a.conn) (h : EInv env a) : EInv env b := by
  unfold EInv at *; rw [h1, h2]; exact h

/-- all present endpoints could be given a transport, so only a new one can be refused -/
theorem addOrUpdateEndpoint_eq {eps : List (Str × Bool)} (hok : EpsOK env eps) (ep : Str) (d : Bool) :
    addOrUpdateEndpoint env eps ep d = if env.addOK ep = true then .ok (astore ep d eps) else .error (.endpoint ep) := by
  unfold addOrUpdateEndpoint
  cases hl : alookup ep eps with
  | some b => rw [if_pos (hok ep b hl)]
  | none => rfl

theorem epLoop_spec (env : Env) (servers : List Server) : ∀ (l : List Str) (eps : List (Str × Bool)), EpsOK env eps →
    ∃ eps' err, epLoop env servers l eps = (eps', err) ∧ EpsOK env eps' ∧
      (err = none ↔ ∀ ep ∈ l, env.addOK ep = true) ∧
      (err = none → ∀ j, alookup j eps' = if j ∈ l then some (isDisabled servers j) else alookup j eps) := by
  intro l
  induction l with
  | nil =>
    exact fun eps hok => ⟨eps, none, rfl, hok, ⟨fun _ _ h => (nomatch h), fun _ => rfl⟩, fun _ j => (if_neg List.not_mem_nil).symm⟩
  | cons ep r ih =>
    intro eps hok
    unfold epLoop
    rw [addOrUpdateEndpoint_eq hok]
    by_cases ha : env.addOK ep = true
    · rw [if_pos ha]
      have hok1 : EpsOK env (astore ep (isDisabled servers ep) eps) := by
        intro j b hj
        rw [alookup_astore] at hj
        split at hj
        · next he => exact he ▸ ha
        · exact hok j b hj
      obtain ⟨eps', err, e, hok', hiff, hl⟩ := ih _ hok1
      refine ⟨eps', err, e, hok', by rw [List.forall_mem_cons]; exact hiff.trans (and_iff_right ha).symm, fun hn j => ?_⟩
      rw [hl hn j, alookup_astore]
      exact ite_mem_cons (fun j => some (isDisabled servers j)) ep j r _
    · rw [if_neg ha]
      exact ⟨eps, _, rfl, hok, ⟨fun h => (nomatch h), fun h => absurd (h ep List.mem_cons_self) ha⟩, fun h => (nomatch h)⟩

theorem syncEndpoints_spec {c : CI} {o : Obj} (ord : List Str) (hc : EInv env c) :
    ∃ eps err, syncEndpoints env c o.servers ord = ({ c with eps := eps }, err) ∧ EInv env { c with eps := eps } ∧
      (err = none ↔ (c.conn.skipSyncEndpoints = false → ∀ s ∈ o.servers, env.addOK s.endpoint = true)) ∧
      (err = none → ∀ j, alookup j eps = expEndpoint c.conn o j) := by
  unfold syncEndpoints
  by_cases hs : c.conn.skipSyncEndpoints = true
  · rw [if_pos hs]
    refine ⟨c.eps, none, rfl, hc, ⟨fun _ hf => (by rw [hs] at hf; cases hf), fun _ => rfl⟩, fun _ j => ?_⟩
    unfold expEndpoint
    rw [hc.2 hs, if_pos hs]; rfl
  · rw [if_neg hs]
    have hok1 : EpsOK env (c.eps.filter fun e => memb e.1 (wantedEndpoints o.servers)) := by
      intro j b hj
      rw [alookup_filter_keys (fun k => memb k (wantedEndpoints o.servers))] at hj
      split at hj
      · exact hc.1 j b hj
      · cases hj
    obtain ⟨eps, err, e, hok2, hiff, hl⟩ := epLoop_spec env o.servers (rangeOrder ord (wantedEndpoints o.servers)) _ hok1
    dsimp only
    rw [e]
    refine ⟨eps, err, rfl, ⟨hok2, fun hx => absurd hx hs⟩, ?_, fun hn j => ?_⟩
    · refine hiff.trans ⟨fun h _ s hsrv => h _ ((mem_rangeOrder _ _ _).2 (List.mem_map_of_mem hsrv)), fun h ep hep => ?_⟩
      obtain ⟨s, hs1, hs2⟩ := List.mem_map.1 ((mem_rangeOrder _ _ _).1 hep)
      exact hs2 ▸ h (Bool.eq_false_iff.2 hs) s hs1
    · unfold expEndpoint
      rw [hl hn j, alookup_filter_keys (fun k => memb k (wantedEndpoints o.servers)), if_neg hs]
      by_cases hm : memb j (wantedEndpoints o.servers) = true
      · rw [if_pos ((mem_rangeOrder _ _ _).2 ((memb_iff _ _).1 hm)), if_pos hm]
      · rw [if_neg (fun x => hm ((memb_iff _ _).2 ((mem_rangeOrder _ _ _).1 x))), if_neg hm, if_neg hm]

/-! ## `ClusterInfo.Sync` -/

/-- the invariant of a `ClusterInfo`: kept by every `Sync`, successful or failed half-way -/
def Inv (env : Env) (c : CI) : Prop := FInv c ∧ SInv env c ∧ EInv env c

theorem empty_inv (env : Env) (conn : Conn) (name : Str) : Inv env (empty env conn name) := by
  refine ⟨⟨by simp [empty], ?_, ?_⟩, by simp [SInv, SOK, loadSS, empty, expCA, expCerts, SecureServing.empty], ?_, fun _ => rfl⟩
  · intro n w h; simp [empty, alookup] at h
  · intro n; simp [empty, lastSchema, alookup]
  · intro ep b h; simp [empty, alookup] at h

/-- `featuregate.Set` accepts the object's gate annotation (the first clause of `applicable`) -/
def GatesOK (env : Env) (o : Obj) : Prop :=
  (gateAnnotation o.annotations).length ≠ 0 → (env.setGates (gateAnnotation o.annotations)).isSome = true

theorem syncFeatureGate_spec (c : CI) (o : Obj) :
    match syncFeatureGate env c o.annotations with
    | .error _ => ¬ GatesOK env o
    | .ok c1 => c1 = { c with gates := expGates env o } ∧ GatesOK env o := by
  unfold syncFeatureGate expGates GatesOK
  dsimp only
  by_cases hv : (gateAnnotation o.annotations).length = 0
  · rw [if_pos hv, if_pos hv]
    by_cases hd : c.gates = env.defaultGates
    · rw [isDefault, decide_eq_true hd, ← hd]
      exact ⟨rfl, fun a => absurd hv a⟩
    · rw [isDefault, decide_eq_false hd]
      exact ⟨rfl, fun a => absurd hv a⟩
  · rw [if_neg hv, if_neg hv]
    cases hs : env.setGates (gateAnnotation o.annotations) with
    | none => exact fun h => nomatch h hv
    | some g => exact ⟨rfl, fun _ => rfl⟩

theorem expGates_cases {o : Obj} (hg : GatesOK env o) :
    expGates env o = env.defaultGates ∨ ∃ v, env.setGates v = some (expGates env o) := by
  unfold expGates
  dsimp only
  by_cases hv : (gateAnnotation o.annotations).length = 0
  · rw [if_pos hv]; exact Or.inl rfl
  · rw [if_neg hv]
    obtain ⟨g, hgs⟩ := Option.isSome_iff_exists.1 (hg hv)
    rw [hgs]; exact Or.inr ⟨_, hgs⟩

theorem getFlowControlType_spec {o : Obj} {t : Str}
    (h : getFlowControlType conn.globalRateLimiter (expGates env o) = some t) : t = expMode env conn o := by
  unfold getFlowControlType at h
  unfold expMode
  by_cases hg : conn.globalRateLimiter = strRemote
  · rw [if_pos hg] at h
    cases hl : alookup strGlobalRateLimiter (expGates env o) with
    | none => rw [hl] at h; cases h
    | some b =>
      rw [hl] at h
      cases b <;> cases h <;> simp [hg]
  · rw [if_neg hg] at h
    cases h
    rw [if_neg (fun x => hg x.1)]

theorem getFlowControlType_isSome {global : Str} {g : Gates} (h : (alookup strGlobalRateLimiter g).isSome = true) :
    (getFlowControlType global g).isSome = true := by
  unfold getFlowControlType
  obtain ⟨b, hb⟩ := Option.isSome_iff_exists.1 h
  rw [hb]
  split
  · cases b <;> rfl
  · rfl

theorem getFlowSchema_of_FRel {c : CI} {o : Obj} (h : FRel o.schemas c.fcs) (n : Str) :
    getFlowSchema c n = expSchema o n ∧ hasFlowSchema c n = (lastSchema o.schemas n).isSome := by
  obtain ⟨_, hmap, hl⟩ := h
  unfold getFlowSchema hasFlowSchema expSchema
  cases hs : lastSchema o.schemas n with
  | none => rw [(hl n).1 hs]; exact ⟨rfl, rfl⟩
  | some s =>
    obtain ⟨w, hw, hcfg⟩ := (hl n).2 s hs
    rw [hw]
    refine ⟨?_, rfl⟩
    by_cases hz : n.length = 0
    · rw [if_pos hz, if_pos hz]
    · rw [if_neg hz, if_neg hz]
      dsimp only
      cases hmap n w hw with
      | inl hzero =>
        -- an untouched wrapper only sits under the empty name
        have : n = [] := by rw [← (lastSchema_some hs).2, ← hcfg, hzero.2]; rfl
        exact absurd (congrArg List.length this) hz
      | inr hr =>
        obtain ⟨_, v, hv, hnf⟩ := hr
        rw [hv, ← hcfg, hnf]

theorem resetLimiter_spec (c : CI) (t : Str) :
    resetLimiter c t = { c with limiterMode := t } := by
  unfold resetLimiter
  split
  · rfl
  · next h => rw [Classical.not_not.1 h]

/-- the object cannot make `Sync` panic: no schema lacks the member its limiter type needs, and `GlobalRateLimiter` is a
    registered gate -/
def PanicFree (env : Env) (conn : Conn) (o : Obj) : Prop :=
  (∀ s ∈ o.schemas, safe s) ∧ (getFlowControlType conn.globalRateLimiter (expGates env o)).isSome = true

/-- what every `Sync` that returns keeps -/
structure Kept (env : Env) (c c' : CI) : Prop where
  inv : Inv env c'
  cluster : c'.cluster = c.cluster
  conn : c'.conn = c.conn

theorem Kept.refl {c : CI} (h : Inv env c) : Kept env c c := ⟨h, rfl, rfl⟩

theorem Kept.trans {a b c : CI} (h1 : Kept env a b) (h2 : Kept env b c) : Kept env a c :=
  ⟨h2.inv, h2.cluster.trans h1.cluster, h2.conn.trans h1.conn⟩

/-- a `Sync` that returns keeps what the controller asks of every `ClusterInfo` it holds (`CInv.heapOK`) -/
theorem Kept.cell {c c' : CI} (hk : Kept env c c') (h : Inv env c ∧ env.lower c.cluster = c.cluster ∧ c.conn = conn) :
    Inv env c' ∧ env.lower c'.cluster = c'.cluster ∧ c'.conn = conn :=
  ⟨hk.inv, by rw [hk.cluster]; exact h.2.1, hk.conn.trans h.2.2⟩

theorem sync_other {c : CI} {o : Obj} (ord : List Str) (hn : c.cluster ≠ env.lower o.name) : sync env c o ord = .ok c := by
  unfold sync; exact if_pos hn

/-- **`Sync` as a function of the object**: it fails when the gate parser refuses the annotation; otherwise it panics iff
    the object is not `PanicFree`; otherwise it fails iff the object is not `applicable`. Every return is `Kept`; success
    observes what the object prescribes, failure leaves the serving configuration as it was. -/
theorem sync_spec {c : CI} {o : Obj} (ord : List Str) (hI : Inv env c) (hn : c.cluster = env.lower o.name) :
    match sync env c o ord with
    | .ok c' => Kept env c c' ∧ observe env c' = expected env c.conn o ∧ applicable env c.conn o ∧ PanicFree env c.conn o
    | .fail _ c' => Kept env c c' ∧ c'.ss = c.ss ∧ ¬ applicable env c.conn o ∧ (GatesOK env o → PanicFree env c.conn o)
    | .crash => GatesOK env o ∧ ¬ PanicFree env c.conn o := by
  obtain ⟨hF, hS, hE⟩ := hI
  unfold sync
  rw [if_neg (not_not_intro hn)]
  have h1 := syncFeatureGate_spec (env := env) c o
  generalize syncFeatureGate env c o.annotations = r1 at h1 ⊢
  cases r1 with
  | error e => exact ⟨⟨⟨hF, hS, hE⟩, rfl, rfl⟩, rfl, fun ha => h1 ha.1, fun h => absurd h h1⟩
  | ok c1 =>
    obtain ⟨hc1, hg⟩ := h1
    subst hc1
    dsimp only
    cases h2 : getFlowControlType c.conn.globalRateLimiter (expGates env o) with
    | none => exact ⟨hg, fun hp => by have h := hp.2; rw [h2] at h; cases h⟩
    | some t =>
      have hreg : (getFlowControlType c.conn.globalRateLimiter (expGates env o)).isSome = true := by rw [h2]; rfl
      dsimp only
      rw [resetLimiter_spec]
      have h3 := syncLocalFlowControls_spec (c := { c with gates := expGates env o, limiterMode := t }) (new := o.schemas) hF
      generalize syncLocalFlowControls _ o.schemas = r3 at h3 ⊢
      cases r3 with
      | none => exact ⟨hg, fun hp => h3 hp.1⟩
      | some c3 =>
        obtain ⟨sp, m, e3, hsp, hFR⟩ := h3
        subst e3
        have hF3 : FRel (sp.getD []) m := hsp.symm ▸ hFR
        have hpf : PanicFree env c.conn o := ⟨hFR.1, hreg⟩
        dsimp only
        obtain ⟨eps, err, e4, hE4, herr, hlook⟩ := syncEndpoints_spec (o := o) ord
          (show EInv env { c with gates := expGates env o, limiterMode := t, fcSpec := sp, fcs := m } from hE)
        rw [e4]
        cases err with
        | some e => exact ⟨⟨⟨hF3, hS, hE4⟩, rfl, rfl⟩, rfl, fun ha => (nomatch herr.2 ha.2.2.2), fun _ => hpf⟩
        | none =>
          dsimp only
          have h5 := syncSecureServing_spec o.secureServing
            (show SInv env { c with gates := expGates env o, limiterMode := t, fcSpec := sp, fcs := m, eps := eps } from hS)
          generalize syncSecureServing env _ o.secureServing = r5 at h5 ⊢
          cases r5 with
          | error e => exact ⟨⟨⟨hF3, hS, hE4⟩, rfl, rfl⟩, rfl, fun ha => h5 ⟨ha.2.1, ha.2.2.1⟩, fun _ => hpf⟩
          | ok c5 =>
            obtain ⟨e5, s4, s5⟩ := h5
            subst e5
            refine ⟨⟨⟨hF3, ⟨rfl, rfl, rfl, s4, s5⟩, hE4⟩, rfl, rfl⟩, ?_, ⟨hg, s4, s5, herr.1 rfl⟩, hpf⟩
            -- the observation is the one the object prescribes; the TLS material is, by definition, what was just stored
            rw [observe, expected, Obs.mk.injEq]
            exact ⟨rfl, rfl, funext (hlook rfl),
              funext fun n => (getFlowSchema_of_FRel (c := { c with fcs := m }) hFR n).1,
              funext fun n => (getFlowSchema_of_FRel (c := { c with fcs := m }) hFR n).2,
              getFlowControlType_spec (conn := c.conn) h2, rfl, rfl, rfl, congrArg (· :: _) hn⟩

theorem sync_ok_iff {c : CI} {o : Obj} (ord : List Str) (hI : Inv env c) (hn : c.cluster = env.lower o.name) :
    (∃ c', sync env c o ord = .ok c') ↔ applicable env c.conn o ∧ PanicFree env c.conn o := by
  have h := sync_spec ord hI hn
  cases hs : sync env c o ord with
  | ok c' => rw [hs] at h; exact ⟨fun _ => h.2.2, fun _ => ⟨c', rfl⟩⟩
  | fail e c' => rw [hs] at h; exact ⟨fun ⟨_, hc⟩ => (nomatch hc), fun ha => absurd ha.1 h.2.2.1⟩
  | crash => rw [hs] at h; exact ⟨fun ⟨_, hc⟩ => (nomatch hc), fun ha => absurd ha.2 h.2⟩

theorem sync_crash_iff {c : CI} {o : Obj} (ord : List Str) (hI : Inv env c) (hn : c.cluster = env.lower o.name) :
    sync env c o ord = .crash ↔ GatesOK env o ∧ ¬ PanicFree env c.conn o := by
  have h := sync_spec ord hI hn
  cases hs : sync env c o ord with
  | ok c' => rw [hs] at h; exact ⟨fun hc => (nomatch hc), fun hp => absurd h.2.2.2 hp.2⟩
  | fail e c' => rw [hs] at h; exact ⟨fun hc => (nomatch hc), fun hp => absurd (h.2.2.2 hp.1) hp.2⟩
  | crash => rw [hs] at h; exact ⟨fun _ => h, fun _ => rfl⟩

theorem fresh_ok {o : Obj} (ha : applicable env conn o) (hp : PanicFree env conn o) (ord : List Str) :
    ∃ f, fresh env conn o ord = .ok f ∧ observe env f = expected env conn o := by
  obtain ⟨f, hf⟩ := (sync_ok_iff ord (empty_inv env conn o.name) rfl).2 ⟨ha, hp⟩
  have h := sync_spec ord (empty_inv env conn o.name) (o := o) rfl
  rw [hf] at h
  exact ⟨f, hf, h.2.1⟩

theorem sync_converges {c c' : CI} {o : Obj} {ord : List Str} (hI : Inv env c) (hn : c.cluster = env.lower o.name)
    (h : sync env c o ord = .ok c') :
    Kept env c c' ∧ observe env c' = expected env c.conn o ∧
    ∀ ord', ∃ f, fresh env c.conn o ord' = .ok f ∧ observe env f = observe env c' := by
  have hs := sync_spec ord hI hn
  rw [h] at hs
  exact ⟨hs.1, hs.2.1, fun ord' => hs.2.1 ▸ fresh_ok hs.2.2.1 hs.2.2.2 ord'⟩

/-- the serving configuration the gateway reads is a function of `ss` and the cluster name -/
theorem serving_congr {c c' : CI} (hss : c'.ss = c.ss) (hcl : c'.cluster = c.cluster) :
    loadTLSConfig c' = loadTLSConfig c ∧ loadVerifyOptions c' = loadVerifyOptions c ∧
    loadServerNames env c' = loadServerNames env c := by
  unfold loadTLSConfig loadVerifyOptions loadServerNames loadSS
  rw [hss, hcl]
  exact ⟨rfl, rfl, rfl⟩

theorem names_of_expected {c : CI} {o : Obj} (h : observe env c = expected env conn o) :
    loadServerNames env c = env.lower o.name :: o.secureServing.serverNames.map env.lower :=
  congrArg Obs.serverNames h

theorem stepHist_kept {c c' : CI} {d : Delivery} (hI : Inv env c) (h : stepHist env (some c) d = some c') :
    Kept env c c' := by
  unfold stepHist at h
  dsimp only at h
  by_cases hn : c.cluster = env.lower d.obj.name
  · have hs := sync_spec d.ord hI hn
    cases hc : sync env c d.obj d.ord with
    | ok c1 => rw [hc] at h hs; cases h; exact hs.1
    | fail e c1 => rw [hc] at h hs; cases h; exact hs.1
    | crash => rw [hc] at h; cases h
  · rw [sync_other d.ord hn] at h
    cases h; exact Kept.refl hI

/-! ## re-keying: the keys of one value of a map replaced -/

/-- `m'` is `m` with the keys that map to `id` replaced by `keys` -/
def Rekeyed (m m' : List (Str × Nat)) (id : Nat) (keys : List Str) : Prop :=
  ∀ j, alookup j m' = if j ∈ keys then some id else if alookup j m = some id then none else alookup j m

theorem Rekeyed.mine {m m' : List (Str × Nat)} {id : Nat} {keys : List Str} (h : Rekeyed m m' id keys) (k : Str) :
    alookup k m' = some id ↔ k ∈ keys := by
  rw [h k]
  by_cases hk : k ∈ keys
  · rw [if_pos hk]; exact ⟨fun _ => hk, fun _ => rfl⟩
  · rw [if_neg hk]
    refine ⟨fun hx => ?_, fun hx => absurd hx hk⟩
    split at hx
    · cases hx
    · contradiction

/-- when no key of `keys` was taken from another value, the keys of the other values are as before -/
theorem Rekeyed.other {m m' : List (Str × Nat)} {id id' : Nat} {keys : List Str} (h : Rekeyed m m' id keys)
    (hfree : ∀ j ∈ keys, ∀ id', alookup j m = some id' → id' = id) (hne : id' ≠ id) (k : Str) :
    alookup k m' = some id' ↔ alookup k m = some id' := by
  rw [h k]
  by_cases hk : k ∈ keys
  · rw [if_pos hk]
    exact ⟨fun h => absurd (Option.some.inj h).symm hne, fun h => absurd (hfree k hk id' h) hne⟩
  · rw [if_neg hk]
    by_cases hp : alookup k m = some id
    · rw [if_pos hp, hp]
      exact ⟨fun h => (nomatch h), fun h => absurd (Option.some.inj h).symm hne⟩
    · rw [if_neg hp]

theorem rekeyed_self {m : List (Str × Nat)} {id : Nat} {old : List Str} (hold : ∀ k, alookup k m = some id ↔ k ∈ old) :
    Rekeyed m m id old := by
  intro j
  by_cases hj : j ∈ old
  · rw [if_pos hj]; exact (hold j).2 hj
  · rw [if_neg hj, if_neg (mt (hold j).1 hj)]

theorem rekeyed_erase {m : List (Str × Nat)} {id : Nat} {old : List Str} (hold : ∀ k, alookup k m = some id ↔ k ∈ old) :
    Rekeyed m (old.foldl (fun m k => aerase k m) m) id [] := by
  intro j
  rw [if_neg List.not_mem_nil, alookup_eraseAll]
  exact ite_congr (propext (hold j).symm) (fun _ => rfl) (fun _ => rfl)

theorem rekeyed_loops {m : List (Str × Nat)} {id : Nat} {old : List Str} (hold : ∀ k, alookup k m = some id ↔ k ∈ old)
    (new : List Str) :
    Rekeyed m ((new.filter fun n => !memb n old).foldl (fun m k => astore k id m)
      ((old.filter fun o => !memb o new).foldl (fun m k => aerase k m) m)) id new := by
  intro j
  rw [alookup_storeAll, alookup_eraseAll]
  simp only [mem_filter_not_memb]
  by_cases hjn : j ∈ new
  · rw [if_pos hjn]
    by_cases hjo : j ∈ old
    · rw [if_neg (fun h => h.2 hjo), if_neg (fun h => h.2 hjn)]; exact (hold j).2 hjo
    · rw [if_pos ⟨hjn, hjo⟩]
  · rw [if_neg hjn, if_neg (fun h => hjn h.1)]
    exact ite_congr (propext ⟨fun h => (hold j).2 h.1, fun h => ⟨(hold j).1 h, hjn⟩⟩) (fun _ => rfl) (fun _ => rfl)

/-! ## the controller: manager keys -/

/-- the `ClusterInfo`, with its number, that key `k` of the manager map points to -/
def resolves (st : Ctl) (k : Str) : Option (Nat × CI) :=
  match alookup k st.mgr with
  | none => none
  | some id =>
    match st.heap[id]? with
    | none => none
    | some ci => some (id, ci)

theorem get_eq (env : Env) (st : Ctl) (name : Str) : st.get env name = resolves st (env.lower name) := rfl

theorem resolves_some {st : Ctl} {k : Str} {id : Nat} {ci : CI} :
    resolves st k = some (id, ci) ↔ alookup k st.mgr = some id ∧ st.heap[id]? = some ci := by
  unfold resolves
  constructor
  · intro h
    split at h
    · cases h
    · rename_i id' h1
      split at h
      · cases h
      · rename_i ci' h2
        cases h
        exact ⟨h1, h2⟩
  · intro ⟨h1, h2⟩
    rw [h1]; dsimp only; rw [h2]

theorem resolves_congr {s s' : Ctl} {j : Str} (hm : alookup j s'.mgr = alookup j s.mgr)
    (hh : ∀ id, alookup j s.mgr = some id → s'.heap[id]? = s.heap[id]?) : resolves s' j = resolves s j := by
  unfold resolves
  rw [hm]
  cases h : alookup j s.mgr with
  | none => rfl
  | some id => simp only; rw [hh id h]

theorem delOwned_eq (env : Env) {X : Str} {s : Ctl} {o : Str} {id : Nat} {ci : CI} (ho : env.lower o = o)
    (hc : s.heap[id]? = some ci) (hX : ci.cluster = X) (hk : alookup o s.mgr = some id ∨ alookup o s.mgr = none) :
    delOwned env X s o = { s with mgr := aerase o s.mgr } := by
  unfold delOwned Ctl.get
  rw [ho]
  cases hk with
  | inl h =>
    rw [h]; dsimp only
    rw [hc]; dsimp only
    rw [if_pos hX, Ctl.delete, ho]
  | inr h => rw [h, aerase_absent h]

/-- the deleting loops run over keys of one `ClusterInfo`, that of cluster `X`: they erase them all -/
theorem delFold_eq (env : Env) {X : Str} {id : Nat} {ci : CI} (hX : ci.cluster = X) : ∀ (L : List Str) (s : Ctl),
    (∀ o ∈ L, env.lower o = o) → s.heap[id]? = some ci → (∀ o ∈ L, alookup o s.mgr = some id ∨ alookup o s.mgr = none) →
    L.foldl (delOwned env X) s = { s with mgr := L.foldl (fun m k => aerase k m) s.mgr } := by
  intro L
  induction L with
  | nil => exact fun s _ _ _ => rfl
  | cons o r ih =>
    intro s hL hc hk
    rw [List.foldl, delOwned_eq env (hL o List.mem_cons_self) hc hX (hk o List.mem_cons_self),
      ih { s with mgr := aerase o s.mgr } (fun x hx => hL x (List.mem_cons_of_mem _ hx)) hc]
    · rfl
    · intro x hx
      show alookup x (aerase o s.mgr) = _ ∨ alookup x (aerase o s.mgr) = _
      rw [alookup_aerase]
      split
      · exact Or.inr rfl
      · exact hk x (List.mem_cons_of_mem _ hx)

/-- … and over keys of another cluster's `ClusterInfo` they do nothing -/
theorem delFold_id {X : Str} {s : Ctl} (L : List Str)
    (hno : ∀ o ∈ L, ∀ id c, s.get env o = some (id, c) → c.cluster ≠ X) : L.foldl (delOwned env X) s = s := by
  induction L with
  | nil => rfl
  | cons o r ih =>
    have : delOwned env X s o = s := by
      unfold delOwned
      split
      · next id c h => exact if_neg (hno o List.mem_cons_self id c h)
      · rfl
    rw [List.foldl, this, ih (fun x hx => hno x (List.mem_cons_of_mem _ hx))]

/-- the adding loop of `AddOrUpdateForServerNames`, over (lower-case) names -/
theorem addFold_eq (env : Env) (id : Nat) : ∀ (L : List Str) (s : Ctl), (∀ n ∈ L, env.lower n = n) →
    L.foldl (fun s n => s.addWithKey env n id) s = { s with mgr := L.foldl (fun m k => astore k id m) s.mgr } := by
  intro L
  induction L with
  | nil => exact fun s _ => rfl
  | cons n r ih =>
    intro s hL
    rw [List.foldl, ih _ (fun x hx => hL x (List.mem_cons_of_mem _ hx)), Ctl.addWithKey, hL n List.mem_cons_self]
    rfl

/-! ## the controller: invariant -/

/-- `strings.ToLower` is idempotent -/
def LowerIdem (env : Env) : Prop := ∀ s, env.lower (env.lower s) = env.lower s

theorem names_fixed (hl : LowerIdem env) {ci : CI} (hc : env.lower ci.cluster = ci.cluster) :
    ∀ s ∈ loadServerNames env ci, env.lower s = s := by
  intro s hs
  cases hs with
  | head => exact hc
  | tail _ h =>
    obtain ⟨a, _, ha⟩ := List.mem_map.1 h
    rw [← ha]; exact hl a

theorem cluster_mem_names (env : Env) (ci : CI) : ci.cluster ∈ loadServerNames env ci := List.mem_cons_self

/-- the controller's invariant: the keys pointing to a `ClusterInfo` are exactly its server names, or none -/
structure CInv (env : Env) (conn : Conn) (st : Ctl) : Prop where
  heapOK : ∀ (id : Nat) (ci : CI), st.heap[id]? = some ci → Inv env ci ∧ env.lower ci.cluster = ci.cluster ∧ ci.conn = conn
  keysSub : ∀ (k : Str) (id : Nat), alookup k st.mgr = some id → ∃ ci, st.heap[id]? = some ci ∧ k ∈ loadServerNames env ci
  namesKeys : ∀ (k : Str) (id : Nat) (ci : CI), alookup k st.mgr = some id → st.heap[id]? = some ci →
    ∀ s ∈ loadServerNames env ci, alookup s st.mgr = some id
  listerOK : ∀ n o, alookup n st.lister = some o → o.name = n

theorem CInv_init (env : Env) (conn : Conn) : CInv env conn Ctl.init := by
  refine ⟨?_, ?_, ?_, ?_⟩
  · intro id ci h; simp [Ctl.init] at h
  · intro k id h; simp [Ctl.init, alookup] at h
  · intro k id ci h; simp [Ctl.init, alookup] at h
  · intro n o h; simp [Ctl.init, alookup] at h

theorem CInv.keys_eq_names {st : Ctl} (hI : CInv env conn st) {k : Str} {id : Nat} {ci : CI}
    (h : resolves st k = some (id, ci)) (j : Str) : alookup j st.mgr = some id ↔ j ∈ loadServerNames env ci := by
  rw [resolves_some] at h
  refine ⟨fun hj => ?_, hI.namesKeys k id ci h.1 h.2 j⟩
  obtain ⟨ci', hci', hm⟩ := hI.keysSub j id hj
  rw [h.2] at hci'; cases hci'
  exact hm

theorem CInv.own {st : Ctl} (hI : CInv env conn st) {k : Str} {id : Nat} {ci : CI}
    (h : resolves st k = some (id, ci)) : resolves st ci.cluster = some (id, ci) :=
  resolves_some.2 ⟨(hI.keys_eq_names h _).2 (cluster_mem_names env ci), (resolves_some.1 h).2⟩

theorem CInv.unique {env : Env} {conn : Conn} {st : Ctl} (hI : CInv env conn st) {k1 k2 : Str} {id1 id2 : Nat} {c1 c2 : CI}
    (h1 : resolves st k1 = some (id1, c1)) (h2 : resolves st k2 = some (id2, c2)) (hc : c1.cluster = c2.cluster) :
    id1 = id2 := by
  have a := hI.own h1
  rw [hc, hI.own h2] at a
  cases a; rfl

theorem ownedByOther_false {st : Ctl} {X n : Str} :
    st.ownedByOther env X n = false ↔ ∀ id c, resolves st (env.lower n) = some (id, c) → c.cluster = X := by
  unfold Ctl.ownedByOther
  rw [get_eq]
  cases resolves st (env.lower n) with
  | none => exact ⟨fun _ _ _ h => (nomatch h), fun _ => rfl⟩
  | some p => exact ⟨fun h id c e => (by cases e; simpa using h), fun h => by simpa using h p.1 p.2 rfl⟩

theorem conflict_false_iff {st : Ctl} {X : Str} {old new : List Str} (hne : old ≠ new) :
    checkServerNameConflict env st X old new = false ↔
      (∀ n ∈ new, ∀ id c, resolves st (env.lower n) = some (id, c) → c.cluster = X) ∧
      (∀ o ∈ old, o ∉ new → ∀ id c, resolves st (env.lower o) = some (id, c) → c.cluster = X) := by
  unfold checkServerNameConflict
  rw [if_neg hne, show ∀ a b : Bool, (if a = true then true else b) = (a || b) from fun a b => by cases a <;> rfl,
    Bool.or_eq_false_iff, List.any_eq_false, List.any_eq_false]
  refine and_congr (forall₂_congr fun n _ => by rw [Bool.not_eq_true, ownedByOther_false]) (forall₂_congr fun o _ => ?_)
  rw [Bool.and_eq_true, Bool.not_eq_true', memb_false_iff, not_and, Bool.not_eq_true, ownedByOther_false]

/-- an event of cluster `X` leaves alone what resolves to other clusters' `ClusterInfo`s -/
def Frame (st st' : Ctl) (X : Str) : Prop :=
  ∀ (k : Str) (id : Nat) (ci : CI), ci.cluster ≠ X → (resolves st k = some (id, ci) ↔ resolves st' k = some (id, ci))

/-- what every return of the handler for a queue item naming `X` leaves -/
structure HandlerPost (env : Env) (conn : Conn) (st st' : Ctl) (X : Str) : Prop where
  cinv : CInv env conn st'
  lister : st'.lister = st.lister
  queue : st'.queue = st.queue
  frame : Frame st st' X

theorem HandlerPost.refl {st : Ctl} (hI : CInv env conn st) (X : Str) : HandlerPost env conn st st X :=
  ⟨hI, rfl, rfl, fun _ _ _ _ => Iff.rfl⟩

/-- the shape of everything the handler does for cluster `X` (cell `id`): the cell may be replaced, and the keys pointing
    to it become `keys` — none, or the new cell's server names, on which no other `ClusterInfo` sat -/
theorem repoint_spec {st : Ctl} {mgr' : List (Str × Nat)} {heap' : List CI} {id : Nat} {X : Str} {keys : List Str}
    (hI : CInv env conn st) (hheap : ∀ id', id' ≠ id → heap'[id']? = st.heap[id']?)
    (hV : ∀ ci, st.heap[id]? = some ci → ci.cluster = X)
    (hcell : ∀ ci, heap'[id]? = some ci →
      Inv env ci ∧ env.lower ci.cluster = ci.cluster ∧ ci.conn = conn ∧ ci.cluster = X)
    (hkeys : keys = [] ∨ ∃ ci, heap'[id]? = some ci ∧ keys = loadServerNames env ci)
    (hmgr : Rekeyed st.mgr mgr' id keys)
    (hfree : ∀ j ∈ keys, ∀ id', alookup j st.mgr = some id' → id' = id) :
    HandlerPost env conn st { st with mgr := mgr', heap := heap' } X := by
  have other := fun {id'} (hne : id' ≠ id) k => hmgr.other hfree hne k
  -- an entry that points to `id` is one of `keys`, the server names of the new cell
  have mine : ∀ k, alookup k mgr' = some id →
      k ∈ keys ∧ ∃ ci, heap'[id]? = some ci ∧ keys = loadServerNames env ci := by
    intro k hk
    have hkk := (hmgr.mine k).1 hk
    cases hkeys with
    | inl h => rw [h] at hkk; cases hkk
    | inr h => exact ⟨hkk, h⟩
  refine ⟨⟨?_, ?_, ?_, hI.listerOK⟩, rfl, rfl, ?_⟩
  · intro id' ci hci
    by_cases he : id' = id
    · subst he; exact ⟨(hcell ci hci).1, (hcell ci hci).2.1, (hcell ci hci).2.2.1⟩
    · exact hI.heapOK id' ci ((hheap id' he).symm.trans hci)
  · intro k id' hk
    by_cases he : id' = id
    · subst he
      obtain ⟨hkk, ci, hci, hkeys'⟩ := mine k hk
      exact ⟨ci, hci, hkeys' ▸ hkk⟩
    · obtain ⟨ci, hci, hm⟩ := hI.keysSub k id' ((other he k).1 hk)
      exact ⟨ci, (hheap id' he).trans hci, hm⟩
  · intro k id' ci hk hci s hs
    by_cases he : id' = id
    · subst he
      obtain ⟨_, ci', hci', hkeys'⟩ := mine k hk
      cases hci.symm.trans hci'
      exact (hmgr.mine s).2 (hkeys' ▸ hs)
    · exact (other he s).2 (hI.namesKeys k id' ci ((other he k).1 hk) ((hheap id' he).symm.trans hci) s hs)
  · intro k id' ci hcX
    rw [resolves_some, resolves_some]
    have he : st.heap[id']? = some ci ∨ heap'[id']? = some ci → id' ≠ id := by
      intro h hc
      subst hc
      cases h with
      | inl h => exact hcX (hV ci h)
      | inr h => exact hcX (hcell ci h).2.2.2
    constructor
    · intro h
      have := he (Or.inl h.2)
      exact ⟨(other this k).2 h.1, (hheap id' this).trans h.2⟩
    · intro h
      have := he (Or.inr h.2)
      exact ⟨(other this k).1 h.1, (hheap id' this).symm.trans h.2⟩

theorem conflict_refl (st : Ctl) (X : Str) (l : List Str) : checkServerNameConflict env st X l l = false := by
  unfold checkServerNameConflict; exact if_pos rfl

theorem addOrUpdate_same {st : Ctl} {old : List Str} {id : Nat} {info : CI} (h : old = loadServerNames env info) :
    addOrUpdateForServerNames env st old id info = some st := by
  unfold addOrUpdateForServerNames; exact if_pos h

/-- `addOrUpdateForServerNames` for cluster `X` (cell `id`, keys `old`: `hold`; nothing else of `X` is served: `hV`, `hU`) on
    the heap with that cell written to `info'` succeeds and leaves `X` resolving to `info'`. The handler's pre-check having
    passed (`hchk`), the check inside passes too: writing the cell changes nothing for it. -/
theorem rekey_spec (hl : LowerIdem env) {st : Ctl} {heap' : List CI} {id : Nat}
    {info' : CI} {X : Str} {old : List Str} (hI : CInv env conn st)
    (hw : ∀ id', heap'[id']? = if id' = id then some info' else st.heap[id']?)
    (hok : Inv env info' ∧ env.lower info'.cluster = info'.cluster ∧ info'.conn = conn) (hcl : info'.cluster = X)
    (hold : ∀ k, alookup k st.mgr = some id ↔ k ∈ old)
    (hV : ∀ ci, st.heap[id]? = some ci → ci.cluster = X)
    (hU : ∀ k id' c, resolves st k = some (id', c) → c.cluster = X → id' = id)
    (hchk : checkServerNameConflict env st X old (loadServerNames env info') = false) :
    ∃ st', addOrUpdateForServerNames env { st with heap := heap' } old id info' = some st' ∧
      HandlerPost env conn st st' X ∧ resolves st' X = some (id, info') := by
  have hcell : heap'[id]? = some info' := by rw [hw, if_pos rfl]
  have hheap : ∀ id', id' ≠ id → heap'[id']? = st.heap[id']? := fun id' hne => by rw [hw, if_neg hne]
  -- what is left to show of a result: the keys of the cell, and that none was taken from another `ClusterInfo`
  have post : ∀ mgr', Rekeyed st.mgr mgr' id (loadServerNames env info') →
      (∀ j ∈ loadServerNames env info', ∀ id', alookup j st.mgr = some id' → id' = id) →
      HandlerPost env conn st { st with mgr := mgr', heap := heap' } X ∧
      resolves { st with mgr := mgr', heap := heap' } X = some (id, info') := by
    intro mgr' hmgr hfree
    exact ⟨repoint_spec hI hheap hV
      (by rw [hcell]; intro ci hci; cases hci; exact ⟨hok.1, hok.2.1, hok.2.2, hcl⟩)
      (Or.inr ⟨info', hcell, rfl⟩) hmgr hfree,
      resolves_some.2 ⟨(hmgr.mine X).2 (hcl ▸ cluster_mem_names env info'), hcell⟩⟩
  by_cases heq : old = loadServerNames env info'
  · rw [addOrUpdate_same heq]
    exact ⟨_, rfl, post _ (heq ▸ rekeyed_self hold)
      (fun j hj id' h => by rw [(hold j).2 (heq ▸ hj)] at h; exact (Option.some.inj h).symm)⟩
  · unfold addOrUpdateForServerNames
    dsimp only
    have hfn : ∀ s ∈ loadServerNames env info', env.lower s = s := names_fixed hl hok.2.1
    have hfo : ∀ k ∈ old, env.lower k = k := by
      intro k hk
      obtain ⟨ci, hci, hmem⟩ := hI.keysSub k id ((hold k).2 hk)
      exact names_fixed hl (hI.heapOK id ci hci).2.1 k hmem
    generalize loadServerNames env info' = new at heq hfn post hchk
    -- the pre-check: no new name belongs to another cluster
    have hnew : ∀ n ∈ new, ∀ id' c, resolves st n = some (id', c) → c.cluster = X :=
      fun n hn id' c hr => ((conflict_false_iff heq).1 hchk).1 n hn id' c (by rw [hfn n hn]; exact hr)
    -- with the cell written the check still passes: a name resolves to this cell, or as before
    have hcf : checkServerNameConflict env { st with heap := heap' } X old new = false := by
      refine (conflict_false_iff heq).2 ⟨fun n hn id' c hr => ?_, fun o ho _ id' c hr => ?_⟩
      · rw [hfn n hn, resolves_some] at hr
        by_cases hid : id' = id
        · subst hid; rw [hcell] at hr; cases hr.2; exact hcl
        · exact hnew n hn id' c (resolves_some.2 ⟨hr.1, (hheap id' hid).symm.trans hr.2⟩)
      · rw [hfo o ho, resolves_some, (hold o).2 ho] at hr
        cases hr.1; rw [hcell] at hr; cases hr.2; exact hcl
    rw [if_neg heq, hcl, hcf, foldl_skip, foldl_skip]
    rw [delFold_eq env hcl (old.filter fun o => !memb o new) { st with heap := heap' }
      (fun o ho => hfo o (mem_filter_not_memb.1 ho).1) hcell
      (fun o ho => Or.inl ((hold o).2 (mem_filter_not_memb.1 ho).1)),
      addFold_eq env id (new.filter fun n => !memb n old) _ (fun n hn => hfn n (mem_filter_not_memb.1 hn).1)]
    refine ⟨_, rfl, post _ (rekeyed_loops hold new) (fun j hj id' hk => ?_)⟩
    -- no other `ClusterInfo` sits on a new name
    obtain ⟨ci, hci, _⟩ := hI.keysSub j id' hk
    exact hU j id' ci (resolves_some.2 ⟨hk, hci⟩) (hnew j hj id' ci (resolves_some.2 ⟨hk, hci⟩))

theorem deleteForServerNames_spec (hl : LowerIdem env) {st : Ctl} {X : Str}
    (hI : CInv env conn st) (hX : env.lower X = X) :
    HandlerPost env conn st (deleteForServerNames env st X) X ∧
    ∀ (id : Nat) (ci : CI), resolves (deleteForServerNames env st X) X = some (id, ci) → ci.cluster ≠ X := by
  unfold deleteForServerNames
  rw [get_eq, hX]
  cases hr : resolves st X with
  | none => exact ⟨HandlerPost.refl hI X, fun id ci h => by rw [hr] at h; cases h⟩
  | some p =>
    obtain ⟨id0, info⟩ := p
    dsimp only
    have hr0 := resolves_some.1 hr
    obtain ⟨hinv, hfix, hconn⟩ := hI.heapOK id0 info hr0.2
    have hfn := names_fixed hl hfix
    by_cases hc : info.cluster = X
    · rw [delFold_eq env hc (loadServerNames env info) st hfn hr0.2 (fun o ho => Or.inl ((hI.keys_eq_names hr o).2 ho))]
      -- exactly the keys of this `ClusterInfo` go
      have hmgr := rekeyed_erase (hI.keys_eq_names hr)
      refine ⟨repoint_spec hI (fun id' _ => rfl)
        (fun ci h => by rw [hr0.2] at h; cases h; exact hc)
        (fun ci h => by rw [show _ = some ci from h] at hr0; cases hr0.2; exact ⟨hinv, hfix, hconn, hc⟩)
        (Or.inl rfl) hmgr (fun j hj => nomatch hj), fun id ci h _ => ?_⟩
      have hnone := hmgr X
      rw [if_neg List.not_mem_nil, if_pos hr0.1, show alookup X _ = some id from (resolves_some.1 h).1] at hnone
      cases hnone
    · -- the name is another cluster's alias: this cluster has no `ClusterInfo`, nothing is removed
      rw [delFold_id]
      · exact ⟨HandlerPost.refl hI X, fun id ci h => by rw [hr] at h; cases h; exact hc⟩
      · intro o ho id c hg
        rw [get_eq, hfn o ho, resolves_some.2 ⟨(hI.keys_eq_names hr o).2 ho, hr0.2⟩] at hg
        cases hg; exact hc

/-! ## the controller: the sync handler -/

/-- what is served under `n` is what the lister's current object prescribes; nothing of this cluster, when the object is gone -/
def SettledAt (env : Env) (conn : Conn) (st : Ctl) (n : Str) : Prop :=
  match alookup n st.lister with
  | none => ∀ (id : Nat) (ci : CI), resolves st n = some (id, ci) → ci.cluster ≠ n
  | some o => ∃ id ci, resolves st n = some (id, ci) ∧ ci.cluster = n ∧ observe env ci = expected env conn o ∧
      ∀ ord', ∃ f, fresh env conn o ord' = .ok f ∧ observe env f = observe env ci

theorem settledAt_gone {st : Ctl} {n : Str} (h : alookup n st.lister = none) :
    SettledAt env conn st n ↔ ∀ (id : Nat) (ci : CI), resolves st n = some (id, ci) → ci.cluster ≠ n := by
  unfold SettledAt; rw [h]

theorem settledAt_some {st : Ctl} {n : Str} {o : Obj} (h : alookup n st.lister = some o) :
    SettledAt env conn st n ↔ ∃ id ci, resolves st n = some (id, ci) ∧ ci.cluster = n ∧
      observe env ci = expected env conn o ∧
      ∀ ord', ∃ f, fresh env conn o ord' = .ok f ∧ observe env f = observe env ci := by
  unfold SettledAt; rw [h]

/-- the sync handler for a queue item naming `X`: a requeue leaves `HandlerPost`; done, `X` is also settled, and if `X` had
    no `ClusterInfo` the installed cell is `fresh` of the lister's object, at index `heap.length`. Nothing is claimed when
    the process panics (`.crash`). -/
theorem handler_spec (hl : LowerIdem env) {st : Ctl} {X : Str} (ord : List Str)
    (hI : CInv env conn st) (hX : env.lower X = X) :
    match syncUpstreamCluster env conn st X ord with
    | .crash => True
    | .requeue st' => HandlerPost env conn st st' X
    | .done st' => HandlerPost env conn st st' X ∧ SettledAt env conn st' X ∧
        ∀ o, alookup X st.lister = some o → st.get env X = none →
          ∃ f, fresh env conn o ord = .ok f ∧ st'.get env X = some (st.heap.length, f) := by
  unfold syncUpstreamCluster
  simp only
  rw [hX]
  cases hlis : alookup X st.lister with
  | none =>
    obtain ⟨d1, d2⟩ := deleteForServerNames_spec hl hI hX
    exact ⟨d1, (settledAt_gone (by rw [d1.lister]; exact hlis)).2 d2, fun o ho => nomatch ho⟩
  | some cluster =>
    dsimp only
    have hname : env.lower cluster.name = X := by rw [hI.listerOK X cluster hlis, hX]
    by_cases hcf : checkUpstreamServerNameConflict env st cluster = true
    · rw [if_pos hcf]; exact HandlerPost.refl hI X
    · rw [if_neg hcf]
      have hcf' := Bool.eq_false_iff.2 hcf
      unfold checkUpstreamServerNameConflict at hcf'
      rw [hname] at hcf'
      dsimp only at hcf'
      -- a `ClusterInfo` that reflects the object has the names the pre-check was made with
      have hnames : ∀ info' : CI, observe env info' = expected env conn cluster →
          loadServerNames env info' = X :: cluster.secureServing.serverNames.map env.lower :=
        fun info' h => hname ▸ names_of_expected h
      cases hg : st.get env X with
      | none =>
        rw [hg] at hcf'
        dsimp only
        cases hf : fresh env conn cluster ord with
        | crash => trivial
        | fail e c => exact HandlerPost.refl hI X
        | ok info =>
          dsimp only
          obtain ⟨hk, hobs⟩ := sync_converges (empty_inv env conn cluster.name) rfl hf
          -- nothing points to the new cell yet, and nothing of this cluster is served
          have hnone : st.heap[st.heap.length]? = none := List.getElem?_eq_none (Nat.le_refl _)
          obtain ⟨st2, ha, hp, hr⟩ := rekey_spec hl hI (old := []) (getElem?_concat st.heap info)
            (hk.cell ⟨empty_inv env conn cluster.name, hl _, rfl⟩) (hk.cluster.trans hname)
            (fun k => ⟨fun hk => (by obtain ⟨ci, hci, _⟩ := hI.keysSub k _ hk; rw [hnone] at hci; cases hci),
              fun hk => (nomatch hk)⟩)
            (fun ci h => by rw [hnone] at h; cases h)
            (fun k id' c hr hc => by have := hI.own hr; rw [hc, ← hX, ← get_eq, hg] at this; cases this)
            (by rw [hnames info hobs.1]; exact hcf')
          rw [ha]
          exact ⟨hp, (settledAt_some (by rw [hp.lister]; exact hlis)).2 ⟨_, info, hr, hk.cluster.trans hname, hobs⟩,
            fun o ho _ => ⟨info, by cases ho; exact hf, by rw [get_eq, hX]; exact hr⟩⟩
      | some p =>
        obtain ⟨id, info⟩ := p
        rw [hg] at hcf'
        dsimp only at hcf' ⊢
        have hg' : resolves st X = some (id, info) := by rw [get_eq, hX] at hg; exact hg
        have hid := (resolves_some.1 hg').2
        -- the pre-check passed although the name is served: by a `ClusterInfo` of this cluster
        have hown : info.cluster = X := by
          by_cases he : loadServerNames env info = X :: cluster.secureServing.serverNames.map env.lower
          · exact (List.cons.inj he).1
          · exact ((conflict_false_iff he).1 hcf').1 X List.mem_cons_self id info (by rw [hX]; exact hg')
        have hcell0 := hI.heapOK id info hid
        -- every `Sync` that returns leaves a cell `AddOrUpdateForServerNames` can key
        have hr := fun (info' : CI) (hk : Kept env info info') =>
          rekey_spec hl hI (old := loadServerNames env info) (getElem?_set_of_some (b := info') hid)
            (hk.cell hcell0) (hk.cluster.trans hown) (hI.keys_eq_names hg')
            (fun ci hci => by rw [hid] at hci; cases hci; exact hown)
            (fun k id' c hr hc => hI.unique hr hg' (hc.trans hown.symm))
        have hsp := sync_spec ord hcell0.1 (hown.trans hname.symm)
        cases hs : sync env info cluster ord with
        | crash => trivial
        | fail e info' =>
          dsimp only
          rw [hs] at hsp
          -- the server names are those before: had they been keyed again, nothing would have changed
          have hsame : loadServerNames env info = loadServerNames env info' := (serving_congr hsp.2.1 hsp.1.cluster).2.2.symm
          obtain ⟨st2, ha, h, _⟩ := hr info' hsp.1 (hsame ▸ conflict_refl st X _)
          rw [addOrUpdate_same hsame] at ha
          cases ha
          exact h
        | ok info' =>
          dsimp only
          obtain ⟨hk, hobs⟩ := sync_converges hcell0.1 (hown.trans hname.symm) hs
          rw [hcell0.2.2] at hobs
          obtain ⟨st2, ha, hp, hr⟩ := hr info' hk (by rw [hnames info' hobs.1]; exact hcf')
          rw [ha]
          exact ⟨hp, (settledAt_some (by rw [hp.lister]; exact hlis)).2 ⟨id, info', hr, hk.cluster.trans hown, hobs⟩,
            fun _ _ h0 => nomatch h0⟩

/-! ## the controller: every sequence of writes, deletes and deliveries -/

/-- object names are DNS subdomains (`ValidateObjectMeta`): lower case -/
def ValidOp (env : Env) : COp → Prop
  | .write o => env.lower o.name = o.name
  | .delete n => env.lower n = n
  | .deliver _ _ => True

/-- what holds after every sequence of ops: every cluster is pending or settled -/
structure AllInv (env : Env) (conn : Conn) (st : Ctl) : Prop where
  cinv : CInv env conn st
  qfix : ∀ n ∈ st.queue, env.lower n = n
  settled : ∀ n, env.lower n = n → n ∈ st.queue ∨ SettledAt env conn st n

theorem AllInv_init (env : Env) (conn : Conn) : AllInv env conn Ctl.init := by
  refine ⟨CInv_init env conn, fun n h => (by cases h), fun n _ => Or.inr ((settledAt_gone rfl).2 fun id ci h => ?_)⟩
  simp [resolves, Ctl.init, alookup] at h

theorem SettledAt_frame {st st' : Ctl} {X m : Str} (hm : m ≠ X)
    (hlis : alookup m st'.lister = alookup m st.lister) (hf : Frame st st' X)
    (h : SettledAt env conn st m) : SettledAt env conn st' m := by
  cases hl : alookup m st.lister with
  | none =>
    rw [settledAt_gone hl] at h
    exact (settledAt_gone (hlis.trans hl)).2 fun id ci hr hc => h id ci ((hf m id ci (hc ▸ hm)).2 hr) hc
  | some o =>
    obtain ⟨id, ci, hr, hc, hrest⟩ := (settledAt_some hl).1 h
    exact (settledAt_some (hlis.trans hl)).2 ⟨id, ci, (hf m id ci (hc ▸ hm)).1 hr, hc, hrest⟩

/-- a step touches one cluster, `X`, which ends pending or settled; the others keep their place in the queue, their object
    and what resolves to them -/
theorem AllInv.step {st st' : Ctl} {X : Str} (h : AllInv env conn st) (hX : env.lower X = X) (hc : CInv env conn st')
    (hlis : ∀ m, m ≠ X → alookup m st'.lister = alookup m st.lister) (hf : Frame st st' X)
    (hq : ∀ n ∈ st'.queue, n = X ∨ n ∈ st.queue) (hkeep : ∀ n ∈ st.queue, n ≠ X → n ∈ st'.queue)
    (hdone : X ∈ st'.queue ∨ SettledAt env conn st' X) : AllInv env conn st' :=
  ⟨hc, fun n hn => (hq n hn).elim (fun e => e ▸ hX) (h.qfix n), fun n hn => by
    by_cases he : n = X
    · exact he ▸ hdone
    · exact (h.settled n hn).imp (fun hm => hkeep n hm he) (SettledAt_frame he (hlis n he) hf)⟩

/-- the API server writes or deletes object `n`: the lister changes at `n`, and `n` is enqueued -/
theorem enqueue_inv {st : Ctl} {n : Str} {lis : List (Str × Obj)} (h : AllInv env conn st)
    (hn : env.lower n = n) (hlis : ∀ m, n ≠ m → alookup m lis = alookup m st.lister)
    (hok : ∀ o, alookup n lis = some o → o.name = n) :
    AllInv env conn { st with lister := lis, queue := st.queue ++ [n] } :=
  h.step hn
    ⟨h.cinv.heapOK, h.cinv.keysSub, h.cinv.namesKeys, fun m o hm => by
      by_cases he : n = m
      · subst he; exact hok o hm
      · exact h.cinv.listerOK m o ((hlis m he).symm.trans hm)⟩
    (fun m he => hlis m (Ne.symm he)) (fun _ _ _ _ => Iff.rfl)
    (fun m hm => (List.mem_append.1 hm).symm.imp List.mem_singleton.1 id)
    (fun m hm _ => List.mem_append_left _ hm)
    (Or.inl (List.mem_append_right _ (List.mem_singleton_self n)))

theorem removeAt_eq (l : List Str) (i : Nat) : removeAt l i = l.eraseIdx i :=
  (List.eraseIdx_eq_take_drop_succ l i).symm

theorem mem_removeAt {l : List Str} {i : Nat} {x m : Str} (hi : l[i]? = some x) (hx : m ≠ x) (hm : m ∈ l) :
    m ∈ removeAt l i := by
  obtain ⟨j, hj⟩ := List.mem_iff_getElem?.1 hm
  rw [removeAt_eq, List.mem_eraseIdx_iff_getElem?]
  exact ⟨j, fun hc => hx (Option.some.inj ((hc ▸ hj).symm.trans hi)), hj⟩

theorem mem_of_mem_removeAt {l : List Str} {i : Nat} {m : Str} (hm : m ∈ removeAt l i) : m ∈ l :=
  List.mem_of_mem_eraseIdx (removeAt_eq l i ▸ hm)

theorem step_inv (hl : LowerIdem env) {st st' : Ctl} {op : COp}
    (h : AllInv env conn st) (hv : ValidOp env op) (hs : st.step env conn op = some st') : AllInv env conn st' := by
  cases op with
  | write o =>
    cases hs
    exact enqueue_inv h hv (fun m he => by rw [alookup_astore, if_neg he])
      (fun o' ho => by rw [alookup_astore, if_pos rfl] at ho; cases ho; rfl)
  | delete name =>
    cases hs
    exact enqueue_inv h hv (fun m he => by rw [alookup_aerase, if_neg he])
      (fun o' ho => by rw [alookup_aerase, if_pos rfl] at ho; cases ho)
  | deliver i ord =>
    simp only [Ctl.step] at hs
    cases hqi : st.queue[i]? with
    | none => rw [hqi] at hs; cases hs; exact h
    | some X =>
      rw [hqi] at hs
      dsimp only at hs
      have hXq : X ∈ st.queue := List.mem_iff_getElem?.2 ⟨i, hqi⟩
      have hX := h.qfix X hXq
      have hh := handler_spec (conn := conn) hl ord h.cinv hX
      cases hr : syncUpstreamCluster env conn st X ord with
      | crash => rw [hr] at hs; cases hs
      | requeue st1 =>
        rw [hr] at hs hh
        cases hs
        exact h.step hX hh.cinv (fun m _ => by rw [hh.lister]) hh.frame (fun n hn => Or.inr (hh.queue ▸ hn))
          (fun n hn _ => hh.queue ▸ hn) (Or.inl (hh.queue ▸ hXq))
      | done st1 =>
        rw [hr] at hs hh
        cases hs
        obtain ⟨hp, hset, _⟩ := hh
        exact h.step (st' := { st1 with queue := removeAt st1.queue i }) hX
          ⟨hp.cinv.heapOK, hp.cinv.keysSub, hp.cinv.namesKeys, hp.cinv.listerOK⟩ (fun m _ => by rw [← hp.lister]) hp.frame
          (fun n hn => Or.inr (hp.queue ▸ mem_of_mem_removeAt hn))
          (fun n hn he => mem_removeAt (hp.queue ▸ hqi) he (hp.queue ▸ hn)) (Or.inr hset)

theorem run_inv (hl : LowerIdem env) (ops : List COp) : ∀ (st st' : Ctl),
    AllInv env conn st → (∀ op ∈ ops, ValidOp env op) → Ctl.run env conn (some st) ops = some st' →
    AllInv env conn st' := by
  induction ops with
  | nil =>
    intro st st' h _ hr
    cases hr; exact h
  | cons op r ih =>
    intro st st' h hv hr
    simp only [Ctl.run] at hr
    cases hs : st.step env conn op with
    | none =>
      rw [hs] at hr
      cases r <;> cases hr
    | some st1 =>
      rw [hs] at hr
      exact ih st1 st' (step_inv hl h (hv op List.mem_cons_self) hs) (fun o ho => hv o (List.mem_cons_of_mem _ ho)) hr

theorem allInv_of_run (hl : LowerIdem env) {ops : List COp} {st : Ctl} (hv : ∀ op ∈ ops, ValidOp env op)
    (hrun : Ctl.run env conn (some Ctl.init) ops = some st) : AllInv env conn st :=
  run_inv hl ops Ctl.init st (AllInv_init env conn) hv hrun

theorem settled_of_not_pending (hl : LowerIdem env) {ops : List COp} {st : Ctl} (hv : ∀ op ∈ ops, ValidOp env op)
    (hrun : Ctl.run env conn (some Ctl.init) ops = some st) {n : Str} (hn : env.lower n = n) (hpend : n ∉ st.queue) :
    SettledAt env conn st n :=
  ((allInv_of_run hl hv hrun).settled n hn).resolve_left hpend

theorem names_of_settled {st : Ctl} {n : Str} {o : Obj} (hI : CInv env conn st)
    (hn : env.lower n = n) (hlis : alookup n st.lister = some o) (hs : SettledAt env conn st n) (h : Str) :
    (∃ id ci, st.get env h = some (id, ci) ∧ ci.cluster = n) ↔
    env.lower h ∈ n :: o.secureServing.serverNames.map env.lower := by
  obtain ⟨id, ci, hr, hc, hobs, _⟩ := (settledAt_some hlis).1 hs
  have hnames : loadServerNames env ci = n :: o.secureServing.serverNames.map env.lower := by
    rw [names_of_expected hobs, hI.listerOK n o hlis, hn]
  rw [get_eq, ← hnames, ← hI.keys_eq_names hr]
  constructor
  · intro ⟨id', ci', hr2, hc2⟩
    cases hI.unique hr2 hr (hc2.trans hc.symm)
    exact (resolves_some.1 hr2).1
  · intro hx
    exact ⟨id, ci, resolves_some.2 ⟨hx, (resolves_some.1 hr).2⟩, hc⟩

/-- `MatchAttributes` reads a `ClusterInfo` only through its policies, logging mode, flow-control lookups and SET of endpoints -/
theorem matchAttributes_congr {a b : CI} (hp : loadPolicies a = loadPolicies b) (hlg : loadLogging a = loadLogging b)
    (hfs : getFlowSchema a = getFlowSchema b) (hall : ∀ ep, ep ∈ allEndpoints a ↔ ep ∈ allEndpoints b)
    (q : KG.Model.Match.Attrs) :
    (matchAttributes a q).map (fun p => (p.index, p.flowControlName, p.flowControl, p.enableLog)) =
      (matchAttributes b q).map (fun p => (p.index, p.flowControlName, p.flowControl, p.enableLog)) ∧
    ∀ ep, (∃ p, matchAttributes a q = some p ∧ ep ∈ p.upstreams) ↔ (∃ p, matchAttributes b q = some p ∧ ep ∈ p.upstreams) := by
  unfold matchAttributes
  dsimp only
  rw [hp, hlg, hfs]
  cases KG.Model.Match.matchPolicies q ((loadPolicies b).map (·.rules)) with
  | none => exact ⟨rfl, fun _ => Iff.rfl⟩
  | some i =>
    dsimp only
    cases (loadPolicies b)[i]? with
    | none => exact ⟨rfl, fun _ => Iff.rfl⟩
    | some p =>
      refine ⟨rfl, fun ep => ?_⟩
      by_cases hsub : p.upstreamSubset.length ≠ 0
      · simp only [if_pos hsub]
      · simp only [if_neg hsub]
        exact ⟨fun ⟨_, e, hm⟩ => ⟨_, rfl, (hall ep).1 (by cases e; exact hm)⟩,
          fun ⟨_, e, hm⟩ => ⟨_, rfl, (hall ep).2 (by cases e; exact hm)⟩⟩

end KG.Lemmas.ClusterSync
