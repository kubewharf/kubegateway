import KG.Spec.TokenBucket
import KG.Lemmas.Lists
/-!
# Lemmas about the token bucket model (C06)

The bounds hold for any arithmetic `A` with `ArithOK A q D` (`q`: the deficit, in nanoseconds, that the duration conversion
forgives, `1` for `Arith.ns`, `0` for `Arith.ideal`; `D`: the largest representable duration): `potential_bound` carries the upper
one, `refusedAmong_zero` with `idle_level` the lower one. `exec_refines` (by `SysInv`) reduces the small-step system to sequential
runs, `judge_history` (by `SegInv`) covers histories with resizes, `ul_runOps_ok` (by `ULInv`) says which limiter is in force
after a history of `Sync`s.
-/
namespace KG.Lemmas.TokenBucket
open KG.Model.TokenBucket KG.Spec.TokenBucket

/-- What the proofs use of the two non-real operations. -/
structure ArithOK (A : Arith) (q D : Rat) : Prop where
  q_nonneg : 0 ≤ q
  tr_nonneg : ∀ x, 0 ≤ x → 0 ≤ A.tr x
  tr_le : ∀ x, 0 ≤ x → A.tr x ≤ x
  tr_mono : ∀ x y, 0 ≤ x → x ≤ y → A.tr x ≤ A.tr y
  /-- what truncation drops is itself truncated to nothing -/
  tr_resid : ∀ x, 0 ≤ x → A.tr (x - A.tr x) ≤ 0
  tr_slack : ∀ x, 0 ≤ x → A.tr x ≤ 0 → x ≤ q
  sat_nonneg : ∀ x, 0 ≤ x → 0 ≤ A.sat x
  sat_le : ∀ x, 0 ≤ x → A.sat x ≤ x
  sat_id : ∀ x, 0 ≤ x → x ≤ D → A.sat x = x
  sat_ge : ∀ x, D ≤ x → D ≤ A.sat x

/-- `Time.Sub` and `advance` (twice) cap with `if a > b then b else a` -/
theorem cap_le_left (a b : Rat) : (if a > b then b else a) ≤ a := by
  split
  · exact Rat.le_of_lt ‹_›
  · exact Rat.le_refl

theorem cap_le_right (a b : Rat) : (if a > b then b else a) ≤ b := by
  split
  · exact Rat.le_refl
  · exact Rat.not_lt.1 ‹_›

theorem le_cap {c a b : Rat} (ha : c ≤ a) (hb : c ≤ b) : c ≤ (if a > b then b else a) := by
  split <;> assumption

/-! ### the two instances -/

theorem tr_ns {x : Rat} (h : 0 ≤ x) : Arith.ns.tr x = (x.floor : Rat) := by
  show ((truncZ x : Int) : Rat) = _
  rw [truncZ, if_pos h]

theorem sat_ns {x : Rat} (h : 0 ≤ x) :
    Arith.ns.sat x = if x > (maxDuration : Rat) then (maxDuration : Rat) else x := by
  have : ¬ x < (minDuration : Rat) := Rat.not_lt.2 (Rat.le_trans (by decide) h)
  show satDur x = _
  rw [satDur, if_neg this]

theorem ns_ok : ArithOK Arith.ns 1 (maxDuration : Rat) where
  q_nonneg := by decide
  tr_nonneg x hx := by
    rw [tr_ns hx]
    exact Rat.intCast_nonneg.2 (Rat.le_floor_iff.2 hx)
  tr_le x hx := by
    rw [tr_ns hx]
    exact Rat.floor_le x
  tr_mono x y hx hxy := by
    rw [tr_ns hx, tr_ns (Rat.le_trans hx hxy)]
    exact Rat.intCast_le_intCast.2 (Rat.floor_monotone hxy)
  tr_resid x hx := by
    have h0 : 0 ≤ x - (x.floor : Rat) := by have := Rat.floor_le x; grind
    rw [tr_ns hx, tr_ns h0, Rat.sub_eq_add_neg, ← Rat.intCast_neg, Rat.floor_add_intCast, Int.add_right_neg]
    exact Rat.le_refl
  tr_slack x hx h := by
    rw [tr_ns hx] at h
    have := Rat.lt_floor_add_one x
    rw [Rat.intCast_add] at this
    grind
  sat_nonneg x hx := by
    rw [sat_ns hx]
    exact le_cap hx (by decide)
  sat_le x hx := by
    rw [sat_ns hx]
    exact cap_le_left _ _
  sat_id x hx hD := by
    rw [sat_ns hx, if_neg (Rat.not_lt.2 hD)]
  sat_ge x hD := by
    rw [sat_ns (Rat.le_trans (by decide) hD)]
    exact le_cap hD Rat.le_refl

theorem ideal_ok (D : Rat) : ArithOK Arith.ideal 0 D where
  q_nonneg := Rat.le_refl
  tr_nonneg := fun _ h => h
  tr_le := fun _ _ => Rat.le_refl
  tr_mono := fun _ _ _ h => h
  tr_resid := by intro x _; show x - x ≤ 0; grind_linarith
  tr_slack := fun _ _ h => h
  sat_nonneg := fun _ h => h
  sat_le := fun _ _ => Rat.le_refl
  sat_id := fun _ _ _ => rfl
  sat_ge := fun _ h => h

/-! ### units -/

/-- tokens per nanosecond -/
def K (p : Params) : Rat := p.limit / 1000000000
/-- nanoseconds per token -/
def Ki (p : Params) : Rat := 1000000000 / p.limit

theorem K_pos {p : Params} (h : 0 < p.limit) : 0 < K p := by
  unfold K; rw [Rat.div_def]
  exact Rat.mul_pos h (Rat.inv_pos.2 (by decide))

theorem Ki_pos {p : Params} (h : 0 < p.limit) : 0 < Ki p := by
  unfold Ki; rw [Rat.div_def]
  exact Rat.mul_pos (by decide) (Rat.inv_pos.2 h)

theorem Ki_mul_K {p : Params} (h : 0 < p.limit) : Ki p * K p = 1 := by
  have : p.limit ≠ 0 := by grind
  unfold K Ki; grind

theorem dft_eq (A : Arith) (p : Params) (x : Rat) : durationFromTokens A p x = A.tr (x * Ki p) := by
  unfold durationFromTokens Ki
  congr 1
  rw [Rat.div_def, Rat.div_def]; grind_linarith

theorem tfd_eq (p : Params) (d : Rat) : tokensFromDuration p d = d * K p := by
  unfold tokensFromDuration K
  rw [Rat.div_def, Rat.div_def]; grind_linarith

theorem mul_Ki_mul_K {p : Params} (h : 0 < p.limit) (x : Rat) : x * Ki p * K p = x := by
  rw [Rat.mul_assoc, Ki_mul_K h]; grind_linarith

theorem mul_K_mul_Ki {p : Params} (h : 0 < p.limit) (x : Rat) : x * K p * Ki p = x := by
  rw [Rat.mul_assoc, Rat.mul_comm (K p), Ki_mul_K h]; grind_linarith

theorem mul_le_mul_K {p : Params} (h : 0 < p.limit) {a b : Rat} (hab : a ≤ b) : a * K p ≤ b * K p :=
  Rat.mul_le_mul_of_nonneg_right hab (Rat.le_of_lt (K_pos h))

theorem mul_le_mul_Ki {p : Params} (h : 0 < p.limit) {a b : Rat} (hab : a ≤ b) : a * Ki p ≤ b * Ki p :=
  Rat.mul_le_mul_of_nonneg_right hab (Rat.le_of_lt (Ki_pos h))

theorem mul_Ki_nonneg {p : Params} (h : 0 < p.limit) {a : Rat} (ha : 0 ≤ a) : 0 ≤ a * Ki p :=
  Rat.mul_nonneg ha (Rat.le_of_lt (Ki_pos h))

theorem mul_K_nonneg {p : Params} (h : 0 < p.limit) {a : Rat} (ha : 0 ≤ a) : 0 ≤ a * K p :=
  Rat.mul_nonneg ha (Rat.le_of_lt (K_pos h))

/-! ### the admission test and the invariant -/

/-- the part of `reserveN`'s test that depends on the bucket: `waitDuration ≤ maxFutureReserve (= 0)` -/
def waitOK (A : Arith) (p : Params) (x : Rat) : Prop :=
  (if x < 0 then durationFromTokens A p (-x) else 0) ≤ 0

theorem waitOK_iff (A : Arith) (p : Params) (x : Rat) : waitOK A p x ↔ (x < 0 → A.tr (-x * Ki p) ≤ 0) := by
  by_cases h : x < 0 <;> simp [waitOK, dft_eq, h]

theorem waitOK_of_nonneg (A : Arith) (p : Params) {x : Rat} (h : 0 ≤ x) : waitOK A p x :=
  (waitOK_iff A p x).2 fun h' => absurd h' (Rat.not_lt.2 h)

theorem waitOK_mono {A : Arith} {q D : Rat} (hA : ArithOK A q D) {p : Params} (hL : 0 < p.limit)
    {x y : Rat} (hxy : x ≤ y) (hx : waitOK A p x) : waitOK A p y := by
  rw [waitOK_iff] at hx ⊢
  intro hy
  have h1 : 0 ≤ -y := Rat.neg_le_neg (Rat.le_of_lt hy)
  exact Rat.le_trans (hA.tr_mono _ _ (mul_Ki_nonneg hL h1) (mul_le_mul_Ki hL (Rat.neg_le_neg hxy)))
    (hx (Std.lt_of_le_of_lt hxy hy))

theorem waitOK_lower {A : Arith} {q D : Rat} (hA : ArithOK A q D) {p : Params} (hL : 0 < p.limit)
    {x : Rat} (hx : waitOK A p x) : -(q * K p) ≤ x := by
  by_cases h0 : 0 ≤ x
  · exact Rat.le_trans (Rat.neg_le_neg (mul_K_nonneg hL hA.q_nonneg)) h0
  · have hx0 : x < 0 := Rat.not_le.1 h0
    have h1 := hA.tr_slack _ (mul_Ki_nonneg hL (Rat.neg_le_neg (Rat.le_of_lt hx0))) ((waitOK_iff A p x).1 hx hx0)
    have h2 := Rat.neg_le_neg (mul_le_mul_K hL h1)
    rwa [mul_Ki_mul_K hL, Rat.neg_neg] at h2

theorem waitOK_neg {A : Arith} {p : Params} (hL : 0 < p.limit) {y : Rat} (h : A.tr y ≤ 0) :
    waitOK A p (-(y * K p)) := by
  rw [waitOK_iff, Rat.neg_neg, mul_K_mul_Ki hL]
  exact fun _ => h

/-- parameters a `rate.Limiter` is built with here; the burst is refilled within the largest representable duration (for
    every `int32` schema with `qps ≥ 1`: 2^31 s < 2^63 ns) -/
structure Valid (p : Params) (q D : Rat) : Prop where
  limit_pos : 0 < p.limit
  burst_nonneg : 0 ≤ p.burst
  refill_fits : (p.burst : Rat) * Ki p + q ≤ D

/-- `waitOK` and not `0 ≤ tokens`: an admission leaves the level it tested, which may be below zero by a deficit the conversion
    forgives, down to `-(q·K)` (`waitOK_lower`); the `+ q·K` of the bounds comes from there -/
def Inv (A : Arith) (p : Params) (s : State) : Prop :=
  s.tokens ≤ (p.burst : Rat) ∧ waitOK A p s.tokens

theorem burst_nonneg' {p : Params} (h : 0 ≤ p.burst) : (0 : Rat) ≤ (p.burst : Rat) :=
  Rat.intCast_nonneg.2 h

theorem inv_init (A : Arith) (p : Params) (h : 0 ≤ p.burst) : Inv A p State.init :=
  ⟨burst_nonneg' h, waitOK_of_nonneg A p Rat.le_refl⟩

/-! ### `advance` -/

def advLast (s : State) (now : Rat) : Rat := if now < s.last then now else s.last
def advMaxEl (A : Arith) (p : Params) (s : State) : Rat := A.tr (((p.burst : Rat) - s.tokens) * Ki p)
def advEl (A : Arith) (p : Params) (s : State) (now : Rat) : Rat :=
  if A.sat (now - advLast s now) > advMaxEl A p s then advMaxEl A p s else A.sat (now - advLast s now)
def advTok (A : Arith) (p : Params) (s : State) (now : Rat) : Rat :=
  if s.tokens + advEl A p s now * K p > (p.burst : Rat) then (p.burst : Rat) else s.tokens + advEl A p s now * K p

theorem advance_eq (A : Arith) (p : Params) (s : State) (now : Rat) :
    advance A p s now = (advLast s now, advTok A p s now) := by
  unfold advance advTok advEl advMaxEl advLast
  simp only [dft_eq, tfd_eq]

theorem advLast_le (s : State) (now : Rat) : advLast s now ≤ now := by
  unfold advLast
  split
  · exact Rat.le_refl
  · exact Rat.not_lt.1 ‹_›

theorem advLast_of_le {s : State} {now : Rat} (h : s.last ≤ now) : advLast s now = s.last :=
  if_neg (Rat.not_lt.2 h)

theorem elapsed_nonneg (s : State) (now : Rat) : 0 ≤ now - advLast s now :=
  (Rat.le_iff_sub_nonneg _ _).1 (advLast_le s now)

/-! ### `allow` (= `reserveN now 1 0`) -/

theorem allow_admit (A : Arith) (p : Params) (s : State) (now : Rat)
    (hb : 1 ≤ p.burst) (hw : waitOK A p (advTok A p s now - 1)) :
    allow A p s now = (true, { tokens := advTok A p s now - 1, last := now }) := by
  unfold waitOK at hw
  unfold allow reserveN
  rw [advance_eq]
  simp [hb, hw]

theorem allow_refuse (A : Arith) (p : Params) (s : State) (now : Rat)
    (h : ¬ (1 ≤ p.burst ∧ waitOK A p (advTok A p s now - 1))) :
    allow A p s now = (false, { tokens := s.tokens, last := advLast s now }) := by
  unfold waitOK at h
  unfold allow reserveN
  rw [advance_eq]
  simp only [Rat.intCast_one, ← Bool.decide_and, decide_eq_false h]
  rfl

theorem allow_cases (A : Arith) (p : Params) (s : State) (now : Rat) :
    (waitOK A p (advTok A p s now - 1) ∧
      allow A p s now = (true, { tokens := advTok A p s now - 1, last := now })) ∨
    (allow A p s now = (false, { tokens := s.tokens, last := advLast s now })) := by
  by_cases h : 1 ≤ p.burst ∧ waitOK A p (advTok A p s now - 1)
  · exact Or.inl ⟨h.2, allow_admit A p s now h.1 h.2⟩
  · exact Or.inr (allow_refuse A p s now h)

theorem state_eta (s : State) : ({ tokens := s.tokens, last := s.last } : State) = s := by
  cases s; rfl

theorem allow_last_le (A : Arith) (p : Params) (s : State) (now : Rat) : (allow A p s now).2.last ≤ now := by
  rcases allow_cases A p s now with ⟨_, he⟩ | he <;> rw [he]
  · exact Rat.le_refl
  · exact advLast_le s now

/-! ### traces -/

/-- the events of a run, `(clock reading, admitted)` (`trace_eq_zip`) -/
def trace (A : Arith) (p : Params) : State → List Rat → List Event
  | _, [] => []
  | s, now :: rest => (now, (allow A p s now).1) :: trace A p (allow A p s now).2 rest

theorem trace_eq_zip (A : Arith) (p : Params) (s : State) (nows : List Rat) :
    trace A p s nows = nows.zip (run A p s nows).1 := by
  induction nows generalizing s with
  | nil => simp [trace, run]
  | cons now rest ih => simp [trace, run, ih]

/-- the limiter state after a run -/
def fin (A : Arith) (p : Params) : State → List Rat → State
  | s, [] => s
  | s, now :: rest => fin A p (allow A p s now).2 rest

theorem fin_append (A : Arith) (p : Params) (now : Rat) :
    ∀ (l : List Rat) (s : State), fin A p s (l ++ [now]) = (allow A p (fin A p s l) now).2
  | [], _ => rfl
  | x :: l, _ => by simp only [List.cons_append, fin]; exact fin_append A p now l _

theorem trace_append (A : Arith) (p : Params) (now : Rat) :
    ∀ (l : List Rat) (s : State),
      trace A p s (l ++ [now]) = trace A p s l ++ [(now, (allow A p (fin A p s l) now).1)]
  | [], _ => rfl
  | _ :: l, _ => by
    simp only [List.cons_append, trace, fin]
    rw [trace_append A p now l _]

/-- non-decreasing, starting at or after `a` -/
def sortedFrom : Rat → List Rat → Prop
  | _, [] => True
  | a, b :: r => a ≤ b ∧ sortedFrom b r

theorem sortedFrom_mono {a a' : Rat} (h : a' ≤ a) : ∀ {l : List Rat}, sortedFrom a l → sortedFrom a' l
  | [], _ => trivial
  | _ :: _, ⟨h1, h2⟩ => ⟨Rat.le_trans h h1, h2⟩

theorem sortedFrom_mem_ge : ∀ {l : List Rat} {a : Rat}, sortedFrom a l → ∀ x ∈ l, a ≤ x
  | [], _, _, _, hx => by cases hx
  | y :: l, a, hs, x, hx => by
    rcases List.mem_cons.1 hx with h | h
    · rw [h]; exact hs.1
    · exact Rat.le_trans hs.1 (sortedFrom_mem_ge hs.2 x h)

theorem sortedFrom_snoc {b : Rat} : ∀ {l : List Rat} {a : Rat}, sortedFrom a l → (∀ x ∈ l, x ≤ b) → a ≤ b →
    sortedFrom a (l ++ [b])
  | [], _, _, _, hab => ⟨hab, trivial⟩
  | _ :: _, _, hs, hl, _ =>
    have ⟨hx, hl'⟩ := List.forall_mem_cons.1 hl
    ⟨hs.1, sortedFrom_snoc hs.2 hl' hx⟩

theorem countIn_zero_of_gt (A : Arith) (p : Params) (t0 t1 : Rat) :
    ∀ (nows : List Rat) (s : State) (a : Rat), t1 < a → sortedFrom a nows → countIn t0 t1 (trace A p s nows) = 0
  | [], _, _, _, _ => rfl
  | now :: rest, s, a, h, hs => by
    have h1 : t1 < now := Std.lt_of_lt_of_le h hs.1
    simp only [trace, countIn]
    rw [countIn_zero_of_gt A p t0 t1 rest _ now h1 hs.2, if_neg fun h => Rat.not_le.2 h1 h.2.2]

theorem refusedAmong_nil : ∀ m : Nat, refusedAmong m [] = 0
  | 0 => rfl
  | _ + 1 => rfl

theorem refusedAmong_admit (m : Nat) (now : Rat) (r : List Event) :
    refusedAmong (m + 1) ((now, true) :: r) = refusedAmong m r :=
  Nat.zero_add _

/-! ### the integer forms used by the run-time judges -/

theorem capacity_eq (p : Params) (T : Rat) : capacity p T = (p.burst : Rat) + T * K p := by
  unfold capacity K; rw [Rat.div_def, Rat.div_def]; grind

/-- the spec's own name for `K` -/
theorem nsWorth_eq (p : Params) : nsWorth p = K p := rfl

/-- with `q ≤ 1` (both arithmetics) the forgiven `q·K` is at most one nanosecond's worth, and an integer `n ≤ C + K` is at most
    `⌈C⌉ + ⌊K⌋`: `boundInt`'s second term -/
theorem le_boundInt {p : Params} (hL : 0 < p.limit) {q : Rat} (hq : q ≤ 1) {T : Rat} {n : Nat}
    (h : (n : Rat) ≤ (p.burst : Rat) + T * K p + q * K p) : (n : Int) ≤ boundInt p T := by
  have h1 : capacity p T ≤ ((capacity p T).ceil : Rat) := Rat.le_ceil
  have h2 : (((n : Int) - (capacity p T).ceil : Int) : Rat) ≤ nsWorth p := by
    have := mul_le_mul_K hL hq
    have := capacity_eq p T
    rw [Rat.intCast_sub, Rat.intCast_natCast, nsWorth_eq]
    grind_linarith
  have := Rat.le_floor_iff.2 h2
  unfold boundInt
  omega

theorem owed_le_burst (p : Params) (hb : 0 ≤ p.burst) (d : Rat) : ((owed p d : Nat) : Rat) ≤ (p.burst : Rat) := by
  have : ((owed p d : Nat) : Int) ≤ p.burst := by unfold owed; omega
  exact Rat.intCast_le_intCast.2 this

theorem owed_le_refill (p : Params) (d : Rat) (hd : 0 ≤ d * K p) : ((owed p d : Nat) : Rat) ≤ d * K p := by
  have hK : p.limit * d / 1000000000 = d * K p := by
    unfold K; rw [Rat.div_def, Rat.div_def, Rat.mul_comm p.limit, Rat.mul_assoc]
  have h0 : (0 : Int) ≤ (d * K p).floor := Rat.le_floor_iff.2 hd
  have : ((owed p d : Nat) : Int) ≤ (d * K p).floor := by unfold owed; rw [hK]; omega
  exact Rat.le_trans (Rat.intCast_le_intCast.2 this) (Rat.floor_le _)

/-! ### the arithmetic of the two inductions, on variables -/

theorem refill_shift {L L' C k now now' t1 : Rat} (h1 : L' ≤ L - 1 + (now' - now) * k) (h2 : L + (t1 - now) * k ≤ C) :
    L' + (t1 - now') * k ≤ C - 1 := by
  grind_linarith

theorem sub_le_sub_left {a b c : Rat} (h : b ≤ c) : a - c ≤ a - b := by
  grind

theorem add_le_of_le_sub {n C x : Rat} (h : n ≤ C - 1 + x) : ((1 : Nat) : Rat) + n ≤ C + x := by
  show (1 : Rat) + n ≤ C + x
  grind

/-- for `refusedAmong_zero`, `x` the level at a call that owes `m + 1` admissions and `B` the burst; in order: the burst admits one,
    `m` more fit it, this call passes the test if `m + 1` do, and from any later level `y`, not below `x - 1`, so do `m` -/
theorem owed_step {m B x : Rat} (h0 : 0 ≤ m) (hm : m + 1 ≤ B) :
    1 ≤ B ∧ m ≤ B ∧ x - (m + 1) ≤ x - 1 ∧ ∀ y, x - 1 ≤ y → x - (m + 1) ≤ y - m := by
  grind

/-! ### `advance` and `allow`: what holds of any arithmetic -/

theorem advTok_le_burst (A : Arith) (p : Params) (s : State) (now : Rat) : advTok A p s now ≤ (p.burst : Rat) :=
  cap_le_right _ _

theorem allow_inv {A : Arith} {p : Params} {s : State} (hI : Inv A p s) (now : Rat) :
    Inv A p (allow A p s now).2 := by
  rcases allow_cases A p s now with ⟨hw, he⟩ | he <;> rw [he]
  · have := advTok_le_burst A p s now
    exact ⟨by show advTok A p s now - 1 ≤ (p.burst : Rat); grind, hw⟩
  · exact hI

theorem fin_inv {A : Arith} {q D : Rat} (hA : ArithOK A q D) {p : Params} (hV : Valid p q D) :
    ∀ (l : List Rat) (s : State), Inv A p s → Inv A p (fin A p s l)
  | [], _, h => h
  | x :: l, _, h => fin_inv hA hV l _ (allow_inv h x)

theorem need_nonneg {A : Arith} {p : Params} (hL : 0 < p.limit) {s : State} (hI : Inv A p s) :
    0 ≤ ((p.burst : Rat) - s.tokens) * Ki p :=
  mul_Ki_nonneg hL ((Rat.le_iff_sub_nonneg _ _).1 hI.1)

section
variable {A : Arith} {q D : Rat} (hA : ArithOK A q D) {p : Params} (hV : Valid p q D)
include hA hV

/-! ### `advance` under `ArithOK` and `Valid` -/

/-- `maxElapsed` is out of reach of `Time.Sub`'s saturation: `(B - tokens)·Ki ≤ (B + q·K)·Ki = B·Ki + q` -/
theorem advMaxEl_le_D {s : State} (hI : Inv A p s) : advMaxEl A p s ≤ D := by
  have h1 := hA.tr_le _ (need_nonneg hV.limit_pos hI)
  have h2 := mul_le_mul_Ki hV.limit_pos (waitOK_lower hA hV.limit_pos hI.2)
  rw [Rat.neg_mul, mul_K_mul_Ki hV.limit_pos] at h2
  have := hV.refill_fits
  unfold advMaxEl
  grind_linarith

set_option linter.unusedSectionVars false in
theorem advEl_le_maxEl {s : State} (now : Rat) : advEl A p s now ≤ advMaxEl A p s :=
  cap_le_right _ _

theorem le_advTok {s : State} (hI : Inv A p s) (now : Rat) : s.tokens ≤ advTok A p s now := by
  have : 0 ≤ advEl A p s now :=
    le_cap (hA.sat_nonneg _ (elapsed_nonneg s now)) (hA.tr_nonneg _ (need_nonneg hV.limit_pos hI))
  have := mul_K_nonneg hV.limit_pos this
  exact le_cap (by grind) hI.1

theorem advTok_le_refill {s : State} {now : Rat} (h : s.last ≤ now) :
    advTok A p s now ≤ s.tokens + (now - s.last) * K p := by
  have h1 : advEl A p s now ≤ now - advLast s now :=
    Rat.le_trans (cap_le_left _ _) (hA.sat_le _ (elapsed_nonneg s now))
  rw [advLast_of_le h] at h1
  exact Rat.le_trans (cap_le_left _ _) (Rat.add_le_add_left.2 (mul_le_mul_K hV.limit_pos h1))

theorem advTok_waitOK {s : State} (hI : Inv A p s) (now : Rat) : waitOK A p (advTok A p s now) :=
  waitOK_mono hA hV.limit_pos (le_advTok hA hV hI now) hI.2

/-! ### upper bound -/

/-- potential argument: `advTok s now + (t1 - now)·K` is what a bucket left alone until `now` could still admit up to `t1`;
    an admitted call lowers it by one, a refused call leaves the state as it is. `a` is a floor for the readings still to come,
    `C` the budget: it bounds the potential from `a` on, and the induction goes on with `C - 1` after an admission -/
theorem potential_bound (t0 t1 : Rat) (nows : List Rat) :
    ∀ (s : State) (a C : Rat), Inv A p s → s.last ≤ a → t0 ≤ a → sortedFrom a nows → a ≤ t1 →
      (∀ now, a ≤ now → advTok A p s now + (t1 - now) * K p ≤ C) →
      (countIn t0 t1 (trace A p s nows) : Rat) ≤ C + q * K p := by
  have base : ∀ {s : State} {a C : Rat}, Inv A p s → a ≤ t1 → advTok A p s a + (t1 - a) * K p ≤ C →
      (0 : Rat) ≤ C + q * K p := by
    intro s a C hI hat hC
    have h1 := Rat.le_trans (waitOK_lower hA hV.limit_pos hI.2) (le_advTok hA hV hI a)
    have h2 := mul_K_nonneg hV.limit_pos ((Rat.le_iff_sub_nonneg _ _).1 hat)
    grind_linarith
  induction nows with
  | nil => exact fun s a C hI _ _ _ hat hC => base hI hat (hC a Rat.le_refl)
  | cons now rest ih =>
    intro s a C hI hla h0a hs hat hC
    by_cases hgt : t1 < now
    · rw [countIn_zero_of_gt A p t0 t1 (now :: rest) s now hgt ⟨Rat.le_refl, hs.2⟩]
      exact base hI hat (hC a Rat.le_refl)
    · have hle : now ≤ t1 := Rat.not_lt.1 hgt
      have h0 : t0 ≤ now := Rat.le_trans h0a hs.1
      simp only [trace, countIn]
      rcases allow_cases A p s now with ⟨_, he⟩ | he
      · have hI' := allow_inv hI now
        rw [he] at hI' ⊢
        have := ih _ now (C - 1) hI' Rat.le_refl h0 hs.2 hle
          (fun now' h => refill_shift (advTok_le_refill hA hV h) (hC now hs.1))
        rw [if_pos ⟨rfl, h0, hle⟩, Rat.natCast_add]
        exact add_le_of_le_sub this
      · replace he : allow A p s now = (false, s) := by rw [he, advLast_of_le (Rat.le_trans hla hs.1)]
        rw [he, if_neg (fun h => nomatch h.1), Nat.zero_add]
        exact ih s now C hI (Rat.le_trans hla hs.1) h0 hs.2 hle (fun now' h => hC now' (Rat.le_trans hs.1 h))

theorem countIn_bound (t0 t1 : Rat) (h01 : t0 ≤ t1) (nows : List Rat) :
    ∀ (s : State), Inv A p s → sortedFrom s.last nows →
      (countIn t0 t1 (trace A p s nows) : Rat) ≤ (p.burst : Rat) + (t1 - t0) * K p + q * K p := by
  have h0 : (0 : Rat) ≤ (p.burst : Rat) + (t1 - t0) * K p + q * K p :=
    Rat.add_nonneg (Rat.add_nonneg (burst_nonneg' hV.burst_nonneg)
      (mul_K_nonneg hV.limit_pos ((Rat.le_iff_sub_nonneg _ _).1 h01))) (mul_K_nonneg hV.limit_pos hA.q_nonneg)
  induction nows with
  | nil => exact fun _ _ _ => h0
  | cons now rest ih =>
    intro s hI hs
    by_cases hlt : now < t0
    · simp only [trace, countIn]
      rw [if_neg (fun h => Rat.not_le.2 hlt h.2.1), Nat.zero_add]
      exact ih _ (allow_inv hI now) (sortedFrom_mono (allow_last_le A p s now) hs.2)
    · -- the window has begun: from here on the level is at most `burst`
      by_cases hgt : t1 < now
      · rw [countIn_zero_of_gt A p t0 t1 (now :: rest) s now hgt ⟨Rat.le_refl, hs.2⟩]
        exact h0
      · refine potential_bound hA hV t0 t1 (now :: rest) s now _ hI hs.1 (Rat.not_lt.1 hlt) ⟨Rat.le_refl, hs.2⟩
          (Rat.not_lt.1 hgt) ?_
        intro now' h
        exact Rat.le_trans (Rat.add_le_add_right.2 (advTok_le_burst A p s now'))
          (Rat.add_le_add_left.2 (mul_le_mul_K hV.limit_pos (sub_le_sub_left (Rat.le_trans (Rat.not_lt.1 hlt) h))))

/-! ### lower bound -/

theorem refusedAmong_zero (m : Nat) : ∀ (now : Rat) (rest : List Rat) (s : State), Inv A p s →
    (m : Rat) ≤ (p.burst : Rat) → waitOK A p (advTok A p s now - (m : Rat)) →
    refusedAmong m (trace A p s (now :: rest)) = 0 := by
  induction m with
  | zero => exact fun _ _ _ _ _ _ => rfl
  | succ m ih =>
    intro now rest s hI hm hw
    rw [Rat.natCast_add, show ((1 : Nat) : Rat) = 1 from rfl] at hm hw
    obtain ⟨hone, hm', hthis, hnext⟩ := owed_step (x := advTok A p s now) Rat.natCast_nonneg hm
    have he := allow_admit A p s now (Rat.intCast_le_intCast.1 hone) (waitOK_mono hA hV.limit_pos hthis hw)
    have hI' := allow_inv hI now
    rw [he] at hI'
    rw [trace, he, refusedAmong_admit]
    cases rest with
    | nil => exact refusedAmong_nil m
    | cons now' rest' =>
      exact ih now' rest' _ hI' hm' (waitOK_mono hA hV.limit_pos (hnext _ (le_advTok hA hV hI' now')) hw)

/-- what truncation drops of the time to the brim truncates to nothing (`tr_resid`): the bucket is short of `burst` by no
    more than the test forgives -/
theorem waitOK_full {s : State} (hI : Inv A p s) :
    waitOK A p (s.tokens + advMaxEl A p s * K p - (p.burst : Rat)) := by
  have e := mul_Ki_mul_K hV.limit_pos ((p.burst : Rat) - s.tokens)
  exact waitOK_mono hA hV.limit_pos (by unfold advMaxEl; grind_linarith)
    (waitOK_neg hV.limit_pos (hA.tr_resid _ (need_nonneg hV.limit_pos hI)))

theorem advEl_cases {s : State} (hI : Inv A p s) {now : Rat} (h : s.last ≤ now) :
    advEl A p s now = advMaxEl A p s ∨ advEl A p s now = now - s.last := by
  have hx : 0 ≤ now - s.last := (Rat.le_iff_sub_nonneg _ _).1 h
  have hm := advMaxEl_le_D hA hV hI
  unfold advEl
  rw [advLast_of_le h]
  by_cases hD : now - s.last ≤ D
  · rw [hA.sat_id _ hx hD]
    split
    · exact Or.inl rfl
    · exact Or.inr rfl
  · have h1 := hA.sat_ge (now - s.last) (Rat.le_of_lt (Rat.not_le.1 hD))
    split
    · exact Or.inl rfl
    · exact Or.inl (Rat.le_antisymm (Rat.not_lt.1 ‹_›) (Rat.le_trans hm h1))

theorem idle_level {s : State} (hI : Inv A p s) {now : Rat} (h : s.last ≤ now) {k : Rat}
    (hkB : k ≤ (p.burst : Rat)) (hkT : k ≤ (now - s.last) * K p) :
    waitOK A p (advTok A p s now - k) := by
  unfold advTok
  split
  · exact waitOK_of_nonneg A p ((Rat.le_iff_sub_nonneg _ _).1 hkB)
  · rcases advEl_cases hA hV hI h with he | he <;> rw [he]
    · -- refilled to the brim, up to what truncation drops
      exact waitOK_mono hA hV.limit_pos (by grind) (waitOK_full hA hV hI)
    · -- everything that elapsed was credited
      exact waitOK_mono hA hV.limit_pos (by grind) hI.2

/-! ### the judges on traces -/

theorem upperOK_trace (hq : q ≤ 1) (s : State) (hI : Inv A p s) (nows : List Rat) (hs : sortedFrom s.last nows) :
    upperOK p (trace A p s nows) = true := by
  simp only [upperOK, List.all_eq_true, Bool.or_eq_true, Bool.not_eq_true', decide_eq_true_eq, decide_eq_false_iff_not]
  refine fun a _ => Or.inr fun b _ => ?_
  by_cases hab : a.1 ≤ b.1
  · exact Or.inr (le_boundInt hV.limit_pos hq (countIn_bound hA hV a.1 b.1 hab nows s hI hs))
  · exact Or.inl (Or.inr hab)

theorem lowerOK_trace (nows : List Rat) :
    ∀ (s : State) (prev : Rat), Inv A p s → s.last ≤ prev → sortedFrom prev nows →
      lowerOK p 0 prev (trace A p s nows) = true := by
  induction nows with
  | nil => exact fun _ _ _ _ _ => rfl
  | cons now rest ih =>
    intro s prev hI hp hs
    have hd : 0 ≤ (now - prev) * K p := mul_K_nonneg hV.limit_pos ((Rat.le_iff_sub_nonneg _ _).1 hs.1)
    have hk : (now - prev) * K p ≤ (now - s.last) * K p :=
      mul_le_mul_K hV.limit_pos (sub_le_sub_left hp)
    have hB := owed_le_burst p hV.burst_nonneg (now - prev)
    have h0 := refusedAmong_zero hA hV (owed p (now - prev)) now rest s hI hB
      (idle_level hA hV hI (Rat.le_trans hp hs.1) hB (Rat.le_trans (owed_le_refill p (now - prev) hd) hk))
    have ih := ih (allow A p s now).2 now (allow_inv hI now) (allow_last_le A p s now) hs.2
    simp only [trace] at h0
    simp only [trace, lowerOK]
    rw [h0, ih]
    rfl

end

/-! ### the small-step system: every execution is a sequential run with non-decreasing clock readings -/

theorem countIn_eq_countP (t0 t1 : Rat) (l : List Event) :
    countIn t0 t1 l = l.countP fun e => decide (e.2 = true ∧ t0 ≤ e.1 ∧ e.1 ≤ t1) := by
  induction l with
  | nil => rfl
  | cons e r ih => rw [countIn, ih, List.countP_cons, Nat.add_comm]; simp only [decide_eq_true_eq]

theorem admittedWithin_eq_countP (t0 t1 : Rat) (l : List Done) :
    admittedWithin t0 t1 l = l.countP fun d => decide (d.ok = true ∧ t0 ≤ d.start ∧ d.fin ≤ t1) := by
  induction l with
  | nil => rfl
  | cons d r ih => rw [admittedWithin, ih, List.countP_cons, Nat.add_comm]; simp only [decide_eq_true_eq]

def doneEv (d : Done) : Event := (d.now, d.ok)

/-- the event of the call that has updated the bucket but not returned yet -/
def critEv : Option (Nat × Phase) → List Event
  | some (_, .done _ now ok) => [(now, ok)]
  | _ => []

/-- all bucket updates so far, in order -/
def sysEvs (c : Sys) : List Event := (c.log.reverse.map doneEv) ++ critEv c.crit

/-- the `.read` clause is the serialisation argument: a reading taken under the mutex is not before any reading the bucket has
    seen, and stays so until `reserve` appends it, since only the holder appends -/
def critInv (s0 : State) (clock : Rat) (nows : List Rat) : Option (Nat × Phase) → Prop
  | none => True
  | some (_, .held st) => st ≤ clock
  | some (_, .read st now) => st ≤ now ∧ now ≤ clock ∧ (∀ x ∈ nows, x ≤ now) ∧ s0.last ≤ now
  | some (_, .done st now _) => st ≤ now ∧ now ≤ clock

/-- the configuration is the image of a sequential run over the clock readings `nows` -/
structure SysInv (A : Arith) (p : Params) (s0 : State) (c : Sys) (nows : List Rat) : Prop where
  lim : c.lim = fin A p s0 nows
  sorted : sortedFrom s0.last nows
  le_clock : ∀ x ∈ nows, x ≤ c.clock
  base : s0.last ≤ c.clock
  evs : sysEvs c = trace A p s0 nows
  log : ∀ d ∈ c.log, d.start ≤ d.now ∧ d.now ≤ d.fin
  crit : critInv s0 c.clock nows c.crit
  pend : ∀ x ∈ c.pending, x.2 ≤ c.clock

/-- general enough for `Sys.init` and for what a `Resize`, which holds the mutex itself, leaves behind -/
theorem sysInv_start (A : Arith) (p : Params) (c : Sys) (hc : c.crit = none) (hl : c.log = [])
    (h : c.lim.last ≤ c.clock) (hp : ∀ x ∈ c.pending, x.2 ≤ c.clock) :
    SysInv A p c.lim c [] where
  lim := rfl
  sorted := trivial
  le_clock := fun _ hx => nomatch hx
  base := h
  evs := by rw [sysEvs, hc, hl]; rfl
  log := fun _ hd => nomatch hl ▸ hd
  crit := hc ▸ trivial
  pend := hp

theorem removeFirst_eq_eraseP (i : Nat) (l : List (Nat × Rat)) :
    removeFirst i l = l.eraseP fun x => decide (x.1 = i) := by
  induction l with
  | nil => rfl
  | cons x r ih =>
    rw [removeFirst, ih, List.eraseP_cons]
    by_cases h : x.1 = i <;> simp only [h, decide_true, decide_false, if_true, if_false, cond_true, cond_false]

theorem critInv_mono {s0 : State} {c c' : Rat} {nows : List Rat} (h : c ≤ c') :
    ∀ {k : Option (Nat × Phase)}, critInv s0 c nows k → critInv s0 c' nows k
  | none, _ => trivial
  | some (_, .held _), hk => Rat.le_trans hk h
  | some (_, .read _ _), ⟨hst, hnow, hrest⟩ => ⟨hst, Rat.le_trans hnow h, hrest⟩
  | some (_, .done _ _ _), ⟨hst, hnow⟩ => ⟨hst, Rat.le_trans hnow h⟩

theorem SysInv.frame {A : Arith} {p : Params} {s0 : State} {c c' : Sys} {nows : List Rat} (hI : SysInv A p s0 c nows)
    (hlim : c'.lim = c.lim) (hlog : c'.log = c.log) (hev : critEv c'.crit = critEv c.crit)
    (hclock : c.clock ≤ c'.clock) (hcrit : critInv s0 c'.clock nows c'.crit)
    (hpend : ∀ x ∈ c'.pending, x.2 ≤ c'.clock) : SysInv A p s0 c' nows where
  lim := hlim ▸ hI.lim
  sorted := hI.sorted
  le_clock x hx := Rat.le_trans (hI.le_clock x hx) hclock
  base := Rat.le_trans hI.base hclock
  evs := by rw [sysEvs, hlog, hev]; exact hI.evs
  log := hlog ▸ hI.log
  crit := hcrit
  pend := hpend

theorem step_inv {A : Arith} {p : Params} {s0 : State} {c c' : Sys} {nows : List Rat}
    (hI : SysInv A p s0 c nows) (st : Step) (h : c.step A p st = some c') :
    ∃ nows', SysInv A p s0 c' nows' := by
  cases st <;> simp only [Sys.step] at h
  case tick d =>
    split at h
    · cases h
      have hc : c.clock ≤ c.clock + d := by grind
      exact ⟨nows, hI.frame rfl rfl rfl hc (critInv_mono hc hI.crit) fun x hx => Rat.le_trans (hI.pend x hx) hc⟩
    · cases h
  case call i =>
    cases h
    exact ⟨nows, hI.frame rfl rfl rfl Rat.le_refl hI.crit (List.forall_mem_cons.2 ⟨Rat.le_refl, hI.pend⟩)⟩
  case lock i =>
    split at h
    · rename_i stt hcrit hlook
      cases h
      exact ⟨nows, hI.frame rfl rfl (by rw [hcrit]; rfl) Rat.le_refl (hI.pend _ (mem_of_lookup hlook))
        fun x hx => hI.pend x (List.mem_of_mem_eraseP (removeFirst_eq_eraseP i _ ▸ hx))⟩
    · cases h
  case now =>
    split at h
    · rename_i i stt hcrit
      cases h
      have hst := hcrit ▸ hI.crit
      exact ⟨nows, hI.frame rfl rfl (by rw [hcrit]; rfl) Rat.le_refl ⟨hst, Rat.le_refl, hI.le_clock, hI.base⟩ hI.pend⟩
    · cases h
  case reserve =>
    split at h
    · rename_i i stt now hcrit
      cases h
      obtain ⟨hst, hclock, hlast, hbase⟩ := hcrit ▸ hI.crit
      refine ⟨nows ++ [now], { hI with
        lim := ?_
        sorted := sortedFrom_snoc hI.sorted hlast hbase
        le_clock := List.forall_mem_append.2 ⟨hI.le_clock, List.forall_mem_singleton.2 hclock⟩
        evs := ?_
        crit := ⟨hst, hclock⟩ }⟩
      · show (allow A p c.lim now).2 = fin A p s0 (nows ++ [now])
        rw [fin_append, hI.lim]
      · show c.log.reverse.map doneEv ++ [(now, (allow A p c.lim now).1)] = _
        rw [trace_append, ← hI.evs, sysEvs, hcrit, hI.lim]
        simp only [critEv, List.append_nil]
    · cases h
  case ret =>
    split at h
    · rename_i i stt now ok hcrit
      cases h
      have hk := hcrit ▸ hI.crit
      refine ⟨nows, { hI with evs := ?_, log := List.forall_mem_cons.2 ⟨hk, hI.log⟩, crit := trivial }⟩
      rw [← hI.evs, sysEvs, sysEvs, hcrit]
      simp [critEv, doneEv]
    · cases h

theorem exec_inv {A : Arith} {p : Params} {s0 : State} :
    ∀ (steps : List Step) {c c' : Sys} {nows : List Rat}, SysInv A p s0 c nows →
      Sys.exec A p c steps = some c' → ∃ nows', SysInv A p s0 c' nows'
  | [], c, c', nows, hI, h => by
    injection h with h
    exact ⟨nows, h ▸ hI⟩
  | st :: rest, c, c', nows, hI, h => by
    rw [Sys.exec] at h
    split at h
    · cases h
    · rename_i c1 hstep
      obtain ⟨nows1, hI1⟩ := step_inv hI st hstep
      exact exec_inv rest hI1 h

theorem admittedWithin_le_countIn (t0 t1 : Rat) (log : List Done)
    (h : ∀ d ∈ log, d.start ≤ d.now ∧ d.now ≤ d.fin) : admittedWithin t0 t1 log ≤ countIn t0 t1 (log.map doneEv) := by
  rw [admittedWithin_eq_countP, countIn_eq_countP, List.countP_map]
  refine List.countP_mono_left fun d hd hc => ?_
  have hc := of_decide_eq_true hc
  exact decide_eq_true ⟨hc.1, Rat.le_trans hc.2.1 (h d hd).1, Rat.le_trans (h d hd).2 hc.2.2⟩

theorem admittedWithin_le_trace {A : Arith} {p : Params} {s0 : State} {c : Sys} {nows : List Rat}
    (hI : SysInv A p s0 c nows) (t0 t1 : Rat) :
    admittedWithin t0 t1 c.log ≤ countIn t0 t1 (trace A p s0 nows) := by
  rw [← hI.evs, sysEvs, countIn_eq_countP, List.countP_append, List.map_reverse, List.countP_reverse, ← countIn_eq_countP]
  exact Nat.le_trans (admittedWithin_le_countIn t0 t1 c.log hI.log) (Nat.le_add_right _ _)

/-- nothing is asked of `A` or `p`: the mutex alone puts the readings in order, the arithmetic enters with `countIn_bound` -/
theorem exec_refines (A : Arith) (p : Params) (c0 : Sys) (hc : c0.crit = none) (hl : c0.log = [])
    (h0 : c0.lim.last ≤ c0.clock) (hp : ∀ x ∈ c0.pending, x.2 ≤ c0.clock)
    (steps : List Step) (c : Sys) (hex : Sys.exec A p c0 steps = some c) :
    ∃ nows, sortedFrom c0.lim.last nows ∧
      ∀ t0 t1, admittedWithin t0 t1 c.log ≤ countIn t0 t1 (trace A p c0.lim nows) := by
  obtain ⟨nows, hI⟩ := exec_inv steps (sysInv_start A p c0 hc hl h0 hp) hex
  exact ⟨nows, hI.sorted, admittedWithin_le_trace hI⟩

/-! ### parameters, `float32` -/

theorem f32_pos (n : Nat) (h : 1 ≤ n) : 1 ≤ f32 n := by
  unfold f32
  split
  · exact h
  · have h1 : 2 ^ n.log2 ≤ n := Nat.log2_self_le (by omega)
    have h2 : 2 ^ (n.log2 - 23) ≤ 2 ^ n.log2 := Nat.pow_le_pow_right (by decide) (Nat.sub_le _ _)
    have h3 : 0 < 2 ^ (n.log2 - 23) := Nat.two_pow_pos _
    have hq : 1 ≤ n >>> (n.log2 - 23) := by
      rw [Nat.shiftRight_eq_div_pow]
      exact Nat.div_pos (Nat.le_trans h2 h1) h3
    simp only []
    rw [Nat.shiftLeft_eq]
    refine Nat.mul_le_mul (?_ : 1 ≤ _) h3
    split <;> omega

theorem valid_of_one_le {p : Params} {q D : Rat} (hL : 1 ≤ p.limit) (hb : 0 ≤ p.burst)
    (hD : (p.burst : Rat) * 1000000000 + q ≤ D) : Valid p q D := by
  have hL0 : 0 < p.limit := Std.lt_of_lt_of_le (by decide) hL
  refine ⟨hL0, hb, Rat.le_trans (Rat.add_le_add_right.2 (Rat.mul_le_mul_of_nonneg_left ?_ (burst_nonneg' hb))) hD⟩
  have h1 : Ki p * p.limit = 1000000000 := by
    unfold Ki; rw [Rat.div_def, Rat.mul_assoc, Rat.inv_mul_cancel _ (Rat.ne_of_gt hL0), Rat.mul_one]
  have h2 := Rat.mul_le_mul_of_nonneg_left hL (Rat.le_of_lt (Ki_pos hL0))
  rwa [Rat.mul_one, h1] at h2

/-! ### `Bucket.resize`, `Bucket.tryAcquire` -/

theorem resize_same (b : Bucket) : b.resize b.qps b.burst = (false, b) := by
  simp [Bucket.resize]

theorem resize_changed (b : Bucket) (n burst : Nat) (h : b.qps ≠ n ∨ b.burst ≠ burst) :
    b.resize n burst = (true, Bucket.new n burst) := by
  simp [Bucket.resize, h]

theorem resize_params (x : Bucket) (q b : Nat) : (x.resize q b).2.qps = q ∧ (x.resize q b).2.burst = b := by
  by_cases h : x.qps ≠ q ∨ x.burst ≠ b
  · rw [resize_changed x q b h]
    exact ⟨rfl, rfl⟩
  · obtain ⟨rfl, rfl⟩ : x.qps = q ∧ x.burst = b := by omega
    rw [resize_same]
    exact ⟨rfl, rfl⟩

theorem tryAcquire_qps_zero (A : Arith) (b : Bucket) (h : b.qps = 0) (now : Rat) :
    b.tryAcquire A now = (false, b) := by
  simp [Bucket.tryAcquire, h]

theorem tryAcquire_params (A : Arith) (b : Bucket) (now : Rat) :
    (b.tryAcquire A now).2.qps = b.qps ∧ (b.tryAcquire A now).2.burst = b.burst := by
  unfold Bucket.tryAcquire
  split <;> exact ⟨rfl, rfl⟩

/-! ### whole histories -/

theorem upperOK_refused (p : Params) (ev : List Event) (h : ∀ e ∈ ev, e.2 = false) : upperOK p ev = true := by
  unfold upperOK
  rw [List.all_eq_true]
  intro a ha
  simp [h a ha]

theorem owed_qps_zero (burst : Nat) (d : Rat) : owed (paramsOf 0 burst) d = 0 := by
  have : (((paramsOf 0 burst).limit * d / 1000000000).floor) = 0 := by
    show ((((0 : Nat) : Rat)) * d / 1000000000).floor = 0
    rw [Rat.div_def, show ((0 : Nat) : Rat) = 0 from rfl, Rat.zero_mul, Rat.zero_mul]
    rfl
  unfold owed
  rw [this]
  omega

theorem lowerOK_qps_zero (burst : Nat) : ∀ (ev : List Event) (prev : Rat),
    lowerOK (paramsOf 0 burst) 0 prev ev = true
  | [], _ => rfl
  | e :: r, prev => by
    simp only [lowerOK, owed_qps_zero, refusedAmong, lowerOK_qps_zero burst r e.1]
    rfl

/-- the bucket and the judge's segment `seg` (newest first) describe a sequential run of the current limiter since its
    creation; `hi` bounds the readings so far, also those before a `Resize`, so that a reading from `hi` on extends `done` -/
def SegInv (A : Arith) (b : Bucket) (seg : List Event) (hi : Rat) : Prop :=
  (b.qps = 0 ∧ ∀ e ∈ seg, e.2 = false) ∨
  (b.qps ≠ 0 ∧ ∃ done : List Rat, seg = (trace A b.params State.init done).reverse ∧
      b.lim = fin A b.params State.init done ∧ sortedFrom 0 done ∧ ∀ x ∈ done, x ≤ hi)

theorem segInv_new (A : Arith) (qps burst : Nat) (hi : Rat) : SegInv A (Bucket.new qps burst) [] hi := by
  by_cases hz : qps = 0
  · exact Or.inl ⟨hz, fun _ he => nomatch he⟩
  · exact Or.inr ⟨hz, [], rfl, rfl, trivial, fun _ hx => nomatch hx⟩

theorem segInv_acquire {A : Arith} {b : Bucket} {seg : List Event} {hi now : Rat} (hS : SegInv A b seg hi)
    (h0 : 0 ≤ hi) (hnow : hi ≤ now) :
    SegInv A (b.tryAcquire A now).2 ((now, (b.tryAcquire A now).1) :: seg) now := by
  rcases hS with ⟨hz, hall⟩ | ⟨hnz, done, hseg, hlim, hsd, hle⟩
  · rw [tryAcquire_qps_zero A b hz now]
    exact Or.inl ⟨hz, List.forall_mem_cons.2 ⟨rfl, hall⟩⟩
  · have hle' : ∀ x ∈ done, x ≤ now := fun x hx => Rat.le_trans (hle x hx) hnow
    simp only [Bucket.tryAcquire, hnz, if_false]
    refine Or.inr ⟨hnz, done ++ [now], ?_, ?_, sortedFrom_snoc hsd hle' (Rat.le_trans h0 hnow),
      List.forall_mem_append.2 ⟨hle', List.forall_mem_singleton.2 Rat.le_refl⟩⟩
    · show (now, (allow A b.params b.lim now).1) :: seg = _
      rw [trace_append, List.reverse_append, hseg, hlim]
      rfl
    · show (allow A b.params b.lim now).2 = fin A b.params State.init (done ++ [now])
      rw [fin_append, hlim]

section
variable {A : Arith} {q D : Rat} (hA : ArithOK A q D) (hq : q ≤ 1)
  (hvalid : ∀ qps burst : Nat, 1 ≤ qps → burst < 4294967296 → Valid (paramsOf qps burst) q D)
include hA hq hvalid

theorem seg_judged {b : Bucket} {seg : List Event} {hi : Rat} (hb : b.burst < 4294967296)
    (h : SegInv A b seg hi) :
    upperOK (paramsOf b.qps b.burst) seg.reverse = true ∧ lowerOK (paramsOf b.qps b.burst) 0 0 seg.reverse = true := by
  rcases h with ⟨h0, hall⟩ | ⟨h0, done, hseg, _, hs, _⟩
  · rw [h0]
    exact ⟨upperOK_refused _ _ fun e he => hall e (List.mem_reverse.1 he), lowerOK_qps_zero _ _ _⟩
  · have hV := hvalid b.qps b.burst (by omega) hb
    have hI := inv_init A (paramsOf b.qps b.burst) hV.burst_nonneg
    rw [hseg, List.reverse_reverse]
    exact ⟨upperOK_trace hA hV hq State.init hI done hs, lowerOK_trace hA hV done State.init 0 hI Rat.le_refl hs⟩

/-- `sortedFrom hi (opTimes ops)`: the readings to come go on from `hi`; `0 ≤ hi`: every limiter, also one a `Resize` creates,
    starts at the zero time, and its first reading must not be before that -/
theorem judge_history (ops : List Op) : ∀ (b : Bucket) (seg : List Event) (hi : Rat),
    b.burst < 4294967296 → opsFit ops → 0 ≤ hi → sortedFrom hi (opTimes ops) → SegInv A b seg hi →
    judgeGo 0 b.qps b.burst seg allTrue (observe A b ops) = allTrue := by
  induction ops with
  | nil =>
    intro b seg hi hb _ _ _ hS
    have := seg_judged hA hq hvalid hb hS
    simp [observe, judgeGo, allTrue, this.1, this.2]
  | cons op r ih =>
    intro b seg hi hb hf h0 hs hS
    cases op with
    | acquire now =>
      have hqb := tryAcquire_params A b now
      have := ih (b.tryAcquire A now).2 _ now (hqb.2 ▸ hb) hf (Rat.le_trans h0 hs.1) hs.2 (segInv_acquire hS h0 hs.1)
      rw [hqb.1, hqb.2] at this
      exact this
    | resize qn bn =>
      simp only [observe, judgeGo]
      by_cases hch : b.qps ≠ qn ∨ b.burst ≠ bn
      · have hdec : decide (qn ≠ b.qps ∨ bn ≠ b.burst) = true :=
          decide_eq_true (hch.imp Ne.symm Ne.symm)
        have hj := seg_judged hA hq hvalid hb hS
        have ih := ih (Bucket.new qn bn) [] hi hf.1 hf.2 h0 hs (segInv_new A qn bn hi)
        rw [resize_changed b qn bn hch]
        simp only [hdec, if_true]
        simp only [hj.1, hj.2, allTrue, Bool.and_self, beq_self_eq_true] at ih ⊢
        exact ih
      · obtain ⟨rfl, rfl⟩ : b.qps = qn ∧ b.burst = bn := by omega
        have ih := ih b seg hi hb hf.2 h0 hs hS
        rw [resize_same b]
        simpa [allTrue] using ih

end

/-! ### which limiter is in force after a history of `Sync`s -/

/-- what the configuration path needs of a bucket implementation -/
structure BOpsOK {β : Type} (O : BOps β) : Prop where
  new_qps : ∀ q b, O.qps (O.new q b) = q
  new_burst : ∀ q b, O.burst (O.new q b) = b
  resize_qps : ∀ x q b, O.qps (O.resize x q b) = q
  resize_burst : ∀ x q b, O.burst (O.resize x q b) = b

theorem ratOps_ok : BOpsOK ratOps where
  new_qps := fun _ _ => rfl
  new_burst := fun _ _ => rfl
  resize_qps := fun x q b => (resize_params x q b).1
  resize_burst := fun x q b => (resize_params x q b).2

/-- the guessed type of a legal schema is that of the local member it carries -/
theorem legal_iff {s : Schema} (hl : schemaLegal s = true) :
    (guessType s = .maxInflight ↔ s.mi.isSome) ∧ (guessType s = .tokenBucket ↔ s.tb.isSome) := by
  rcases s with ⟨ex, mi, gmi, tb, gtb, st⟩
  cases ex <;> cases mi <;> cases tb <;> simp_all [schemaLegal, guessType]

theorem legal_mi {s : Schema} (hl : schemaLegal s = true) (ht : guessType s = .maxInflight) : ∃ m, s.mi = some m :=
  Option.isSome_iff_exists.1 ((legal_iff hl).1.mp ht)

theorem legal_tb {s : Schema} (hl : schemaLegal s = true) (ht : guessType s = .tokenBucket) : ∃ qb, s.tb = some qb :=
  Option.isSome_iff_exists.1 ((legal_iff hl).2.mp ht)

theorem legal_of_mem : ∀ (sp : Spec) (n : Nat) (s : Schema), specLegal sp = true → (n, s) ∈ sp → schemaLegal s = true
  | [], _, _, _, h => nomatch h
  | (n0, s0) :: r, n, s, hl, hm => by
    simp only [specLegal, Bool.and_eq_true] at hl
    rcases List.mem_cons.1 hm with h | h
    · cases h
      exact hl.1.2
    · exact legal_of_mem r n s hl.2 h

theorem inForce_exempt {s : Schema} (ht : guessType s = .exempt) : inForceOK s .exempt = true := by
  simp [inForceOK, ht]

theorem inForce_mi {s : Schema} (ht : guessType s = .maxInflight) {m : Nat} (h : s.mi = some m) :
    inForceOK s (.mi m) = true := by
  simp [inForceOK, ht, h]

theorem inForce_tb {β : Type} {O : BOps β} {s : Schema} (ht : guessType s = .tokenBucket) {qb : Nat × Nat}
    (h : s.tb = some qb) {x : β} (hq : O.qps x = qb.1) (hb : O.burst x = qb.2) :
    inForceOK s (see O (some (.tb x))) = true := by
  show inForceOK s (.tb (O.qps x) (O.burst x)) = true
  rw [hq, hb]
  simp [inForceOK, ht, h]

theorem tb_of_inForce {β : Type} {O : BOps β} {s : Schema} (hl : schemaLegal s = true) {q b : Nat}
    (htb : s.tb = some (q, b)) {x : Option (Limiter β)} (h : inForceOK s (see O x) = true) :
    ∃ bk, x = some (.tb bk) ∧ O.qps bk = q ∧ O.burst bk = b := by
  simp only [inForceOK, (legal_iff hl).2.mpr (htb ▸ rfl), htb, beq_iff_eq] at h
  match x, h with
  | some (.tb bk), h => exact ⟨bk, rfl, by injection h, by injection h⟩

/-- a wrapper serves its recorded configuration as configured -/
def WInv {β : Type} (O : BOps β) (w : LocalWrapper β) : Prop :=
  ∀ c, w.config = some c → inForceOK c (see O w.fc) = true

theorem wInv_of {β : Type} {O : BOps β} {l : Limiter β} {s : Schema}
    (h : inForceOK s (see O (some l)) = true) : WInv O { fc := some l, config := some s } := by
  intro c hc
  injection hc with e
  exact e ▸ h

section
variable {β : Type} {O : BOps β} (hO : BOpsOK O)
include hO

theorem newFlowControl_ok (s : Schema) (hl : schemaLegal s = true) :
    ∃ l, newFlowControl O s = some l ∧ inForceOK s (see O (some l)) = true := by
  unfold newFlowControl
  cases ht : guessType s
  · exact ⟨.exempt, rfl, inForce_exempt ht⟩
  · obtain ⟨m, hm⟩ := legal_mi hl ht
    exact ⟨.mi m, by rw [hm]; rfl, inForce_mi ht hm⟩
  · obtain ⟨qb, hq⟩ := legal_tb hl ht
    exact ⟨.tb (O.new qb.1 qb.2), by rw [hq]; rfl, inForce_tb ht hq (hO.new_qps _ _) (hO.new_burst _ _)⟩

theorem wrapper_sync_ok (w : LocalWrapper β) (s : Schema) (hl : schemaLegal s = true) (hw : WInv O w) :
    ∃ w', w.sync O s = some w' ∧ w'.config = some s ∧ WInv O w' := by
  unfold LocalWrapper.sync
  by_cases hc : w.config = some s
  · rw [if_pos hc]
    exact ⟨w, rfl, hc, hw⟩
  · rw [if_neg hc]
    have fresh : ∃ w', (newFlowControl O s).map (fun l => ({ fc := some l, config := some s } : LocalWrapper β)) = some w' ∧
        w'.config = some s ∧ WInv O w' := by
      obtain ⟨l, h1, h2⟩ := newFlowControl_ok hO s hl
      exact ⟨_, by rw [h1]; rfl, rfl, wInv_of h2⟩
    cases w.fc with
    | none => exact fresh
    | some l =>
      dsimp only
      split
      · exact fresh
      · -- same type: resized in place
        rename_i h
        have ht : guessType s = l.type := Eq.symm (Decidable.not_not.1 h)
        cases l with
        | exempt => exact ⟨_, rfl, rfl, wInv_of (inForce_exempt ht)⟩
        | mi _ =>
          obtain ⟨m, hm⟩ := legal_mi hl ht
          exact ⟨_, by rw [hm]; rfl, rfl, wInv_of (inForce_mi ht hm)⟩
        | tb b =>
          obtain ⟨qb, hq⟩ := legal_tb hl ht
          exact ⟨_, by rw [hq]; rfl, rfl, wInv_of (inForce_tb ht hq (hO.resize_qps b _ _) (hO.resize_burst b _ _))⟩

end

theorem lookup_setCache {β : Type} (n m : Nat) (w : LocalWrapper β) (cs : List (Nat × LocalWrapper β)) :
    (setCache n w cs).lookup m = if m = n then some w else cs.lookup m := by
  simp only [eq_comm (a := m)]
  induction cs with
  | nil => exact lookup_cons_ite n w [] m
  | cons x r ih =>
    obtain ⟨k, v⟩ := x
    rw [setCache]
    split
    · rename_i hx
      cases hx
      rw [lookup_cons_ite, lookup_cons_ite]
      split <;> rfl
    · rename_i hx
      rw [lookup_cons_ite, lookup_cons_ite, ih]
      split
      · rename_i hm
        rw [if_neg (fun h => hx (hm ▸ h.symm))]
      · rfl

theorem wInv_setCache {β : Type} {O : BOps β} {cs : List (Nat × LocalWrapper β)} {n0 : Nat} {w' : LocalWrapper β}
    (hall : ∀ n w, cs.lookup n = some w → WInv O w) (hw : WInv O w') :
    ∀ n w, (setCache n0 w' cs).lookup n = some w → WInv O w := by
  intro n w hlk
  rw [lookup_setCache] at hlk
  split at hlk
  · injection hlk with e
    exact e ▸ hw
  · exact hall n w hlk

section
variable {β : Type} {O : BOps β}

theorem syncLoop_ok (hO : BOpsOK O) (spec : Spec) : ∀ (cs : List (Nat × LocalWrapper β)), specLegal spec = true →
    (∀ n w, cs.lookup n = some w → WInv O w) →
    ∃ cs', syncLoop O cs spec = some cs' ∧ (∀ n w, cs'.lookup n = some w → WInv O w) ∧
      (∀ n s, (n, s) ∈ spec → ∃ w, cs'.lookup n = some w ∧ w.config = some s) ∧
      (∀ n, spec.lookup n = none → cs'.lookup n = cs.lookup n) := by
  induction spec with
  | nil => exact fun cs _ hall => ⟨cs, rfl, hall, fun _ _ h => (by cases h), fun _ _ => rfl⟩
  | cons x rest ih =>
    obtain ⟨n0, s0⟩ := x
    intro cs hl hall
    simp only [specLegal, Bool.and_eq_true] at hl
    obtain ⟨⟨hfresh, hl0⟩, hlrest⟩ := hl
    have hw0 : WInv O ((cs.lookup n0).getD LocalWrapper.empty) := by
      cases hc : cs.lookup n0 with
      | none => exact fun _ h => nomatch h
      | some w => exact hall n0 w hc
    obtain ⟨w', hs, hcfg, hw'⟩ := wrapper_sync_ok hO _ s0 hl0 hw0
    obtain ⟨cs', hrun, hall', hcur, hother⟩ := ih (setCache n0 w' cs) hlrest (wInv_setCache hall hw')
    refine ⟨cs', by rw [syncLoop, hs]; exact hrun, hall', ?_, ?_⟩
    · intro n s hm
      rcases List.mem_cons.1 hm with h | h
      · cases h
        rw [hother n0 (Option.isNone_iff_eq_none.1 hfresh), lookup_setCache, if_pos rfl]
        exact ⟨w', rfl, hcfg⟩
      · exact hcur n s h
    · intro n hlk
      rw [lookup_cons_ite] at hlk
      split at hlk
      · cases hlk
      · rename_i hne
        rw [hother n hlk, lookup_setCache, if_neg (Ne.symm hne)]

/-- invariant of the upstream limiter along a history of `Sync`s -/
structure ULInv (O : BOps β) (u : UL β) : Prop where
  legal : specLegal u.current = true
  all : ∀ n w, u.caches.lookup n = some w → WInv O w
  cur : ∀ n s, (n, s) ∈ u.current → ∃ w, u.caches.lookup n = some w ∧ w.config = some s

theorem ulInv_init : ULInv O (UL.init : UL β) where
  legal := rfl
  all := fun _ _ h => nomatch h
  cur := fun _ _ h => nomatch h

theorem ul_sync_ok (hO : BOpsOK O) (u : UL β) (spec : Spec) (hl : specLegal spec = true) (hu : ULInv O u) :
    ∃ u', u.sync O spec = some u' ∧ ULInv O u' ∧ u'.current = spec := by
  unfold UL.sync
  by_cases hc : u.current = spec
  · rw [if_pos hc]
    exact ⟨u, rfl, hu, hc⟩
  · rw [if_neg hc]
    obtain ⟨cs', hrun, hall', hcur, _⟩ := syncLoop_ok hO spec u.caches hl hu.all
    rw [hrun]
    have hf := lookup_filter_key cs' (fun k => !((u.current.lookup k).isSome && (spec.lookup k).isNone))
    refine ⟨_, rfl, ⟨hl, ?_, ?_⟩, rfl⟩
    · intro n w hlk
      simp only [] at hlk
      rw [hf n] at hlk
      split at hlk
      · exact hall' n w hlk
      · cases hlk
    · intro n s hm
      obtain ⟨w, h1, h2⟩ := hcur n s hm
      have : (spec.lookup n).isSome = true := List.lookup_isSome_iff.2 ⟨_, hm, beq_self_eq_true n⟩
      refine ⟨w, (hf n).trans ?_, h2⟩
      simp [this, h1]

theorem ul_setBucket_ok (u : UL β) (n : Nat) (b b' : β) (hu : ULInv O u)
    (hload : u.load n = some (.tb b)) (hq : O.qps b' = O.qps b) (hb : O.burst b' = O.burst b) :
    ULInv O (u.setBucket n b') ∧ (u.setBucket n b').current = u.current := by
  unfold UL.load at hload
  cases hc : u.caches.lookup n with
  | none => rw [hc] at hload; cases hload
  | some w =>
    rw [hc] at hload
    have hfc : w.fc = some (.tb b) := hload
    unfold UL.setBucket
    simp only [hc]
    refine ⟨⟨hu.legal, wInv_setCache hu.all fun c hcc => ?_, ?_⟩, trivial⟩
    · have := hu.all n w hc c hcc
      rw [hfc] at this
      show inForceOK c (.tb (O.qps b') (O.burst b')) = true
      rw [hq, hb]
      exact this
    · intro m s hlk
      obtain ⟨w2, h1, h2⟩ := hu.cur m s hlk
      rw [lookup_setCache]
      split
      · rename_i hm
        rw [hm, hc] at h1
        injection h1 with e
        exact ⟨_, rfl, e ▸ h2⟩
      · exact ⟨w2, h1, h2⟩

theorem ul_acquire_ok (f : β → Bool × β) (hf : ∀ b, O.qps (f b).2 = O.qps b ∧ O.burst (f b).2 = O.burst b)
    (u : UL β) (n : Nat) (hu : ULInv O u) {r : Bool × UL β} (h : u.acquireWith f n = some r) :
    ULInv O r.2 ∧ r.2.current = u.current := by
  unfold UL.acquireWith at h
  split at h
  · rename_i b hload
    injection h with e
    subst e
    exact ul_setBucket_ok u n b _ hu hload (hf b).1 (hf b).2
  · cases h

theorem served_of_inv {u : UL β} (hu : ULInv O u) {n : Nat} {s : Schema} (hm : (n, s) ∈ u.current) :
    schemaLegal s = true ∧ inForceOK s (see O (u.load n)) = true := by
  obtain ⟨w, h1, h2⟩ := hu.cur n s hm
  refine ⟨legal_of_mem u.current n s hu.legal hm, ?_⟩
  rw [UL.load, h1]
  exact hu.all n w h1 s h2

theorem allInForce_of_inv (u : UL β) (hu : ULInv O u) : allInForce O u = true :=
  List.all_eq_true.2 fun _ hx => (served_of_inv hu hx).2

end

theorem ul_runOps_ok (A : Arith) (ops : List ULOp) : ∀ (u : UL Bucket), opsLegal ops = true →
    ULInv ratOps u →
    ∃ u', UL.runOps A u ops = some u' ∧ ULInv ratOps u' ∧ u'.current = lastSpec u.current ops := by
  induction ops with
  | nil => exact fun u _ hu => ⟨u, rfl, hu, rfl⟩
  | cons op rest ih =>
    intro u hl hu
    cases op with
    | sync sp =>
      simp only [opsLegal, Bool.and_eq_true] at hl
      obtain ⟨u1, hsync, hu1, hcur1⟩ := ul_sync_ok ratOps_ok u sp hl.1 hu
      obtain ⟨u', hrun, hu', hcur'⟩ := ih u1 hl.2 hu1
      refine ⟨u', ?_, hu', ?_⟩
      · simp only [UL.runOps, hsync]; exact hrun
      · rw [hcur', hcur1]; rfl
    | acquire n now =>
      simp only [opsLegal] at hl
      simp only [UL.runOps, lastSpec]
      cases hacq : u.acquireWith (fun b => b.tryAcquire A now) n with
      | none => exact ih u hl hu
      | some r =>
        obtain ⟨hur, hcur⟩ := ul_acquire_ok _ (fun b => tryAcquire_params A b now) u n hu hacq
        obtain ⟨u', hrun, hu', hcur'⟩ := ih r.2 hl hur
        exact ⟨u', hrun, hu', by rw [hcur', hcur]⟩

end KG.Lemmas.TokenBucket
