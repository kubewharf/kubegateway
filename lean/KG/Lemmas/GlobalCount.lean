import KG.Spec.GlobalCount
/-!
Lemmas for C08 (global count).  One `SetState` is brought into three forms, each one equation that the property theorems
case on: `setState_shape` (whatever the numbers), `setState_fresh` (not stale; the code's wrapping `int32` arithmetic),
`setState_spec` (plain integers, under `Pre`).  The bucket's rate bound is the relation `Pays`, which composes along a
history.  Fine-grained system: `PcInv` is the proof outline of the critical section `Crit` (`crit_inv`), `SimPc` its
forward simulation onto `setState` (`crit_sim`); under the lock discipline `Disc` every step is an `HStep` of the pair
(shared state, pc of the lock holder) (`step_hstep`); the property theorems read off `fine_refines`, `fine_transport`.
-/
namespace KG.Lemmas.GlobalCount
open KG KG.Model.GlobalCount KG.Spec.GlobalCount

theorem wrap32_id {x : Int} (h : InI32 x) : wrap32 x = x := by
  unfold InI32 at h; unfold wrap32; omega

theorem wrap32_in (x : Int) : InI32 (wrap32 x) := by
  unfold InI32 wrap32; omega

theorem wrap32_add_wrap32 (a b : Int) : wrap32 (a + wrap32 b) = wrap32 (a + b) := by
  unfold wrap32; omega

theorem wrap32_wrap32_add (a b : Int) : wrap32 (wrap32 a + b) = wrap32 (a + b) := by
  unfold wrap32; omega

/-- the difference of two counts is an `int32`, so `delta := current - old` does not wrap -/
theorem wrap32_delta {c old : Int} (hc : okCount c) (ho : okCount old) : wrap32 (c - old) = c - old :=
  wrap32_id (by unfold okCount at hc ho; unfold InI32; omega)

/-- the rollback `AddInt32(&state.count, -delta)` restores the old count -/
theorem wrap32_undo (c : Int) {old : Int} (ho : okCount old) : wrap32 (c + wrap32 (-(c - old))) = old := by
  rw [wrap32_add_wrap32, show c + -(c - old) = old by omega]
  exact wrap32_id (by unfold okCount at ho; unfold InI32; omega)

theorem G_ext {a b : G} (h1 : a.max = b.max) (h2 : a.count = b.count) (h3 : a.states = b.states) : a = b := by
  cases a; cases b; simp only at h1 h2 h3; subst h1; subst h2; subst h3; rfl

/-! ### association lists -/

theorem find_put_self (k : Str) (v : Inst) (l : States) : find k (put k v l) = some v := by
  fun_induction put k v l <;> simp [find, *]

theorem find_put_other {k k' : Str} (v : Inst) (l : States) (h : k' ≠ k) : find k' (put k v l) = find k' l := by
  fun_induction put k v l <;> simp_all [find, Ne.symm h]

theorem put_put (k : Str) (v w : Inst) (l : States) : put k w (put k v l) = put k w l := by
  fun_induction put k v l <;> simp [put, *]

theorem put_same {k : Str} {v : Inst} {l : States} (h : find k l = some v) : put k v l = l := by
  fun_induction find k l <;> simp_all [put]

theorem find_erase_other {k k' : Str} (l : States) (h : k' ≠ k) : find k' (erase k l) = find k' l := by
  fun_induction erase k l <;> simp_all [find, Ne.symm h]

theorem keys_cons (k : Str) (v : Inst) (l : States) : keys ((k, v) :: l) = k :: keys l := rfl

theorem find_none_of_not_mem_keys {k : Str} {l : States} (h : k ∉ keys l) : find k l = none := by
  fun_induction find k l <;> simp_all [keys_cons]

theorem mem_keys_of_find {k : Str} {s : Inst} {l : States} (h : find k l = some s) : k ∈ keys l := by
  fun_induction find k l <;> simp_all [keys_cons]

theorem mem_of_find {k : Str} {s : Inst} {l : States} (h : find k l = some s) : (k, s) ∈ l := by
  fun_induction find k l <;> simp_all

theorem keys_erase_subset (k : Str) (l : States) : ∀ x, x ∈ keys (erase k l) → x ∈ keys l := by
  fun_induction erase k l <;> simp_all [keys_cons]

theorem nodup_erase {k : Str} {l : States} (h : (keys l).Nodup) : (keys (erase k l)).Nodup := by
  fun_induction erase k l <;> simp_all [keys_cons]
  exact fun hm => h.1 (keys_erase_subset _ _ _ hm)

theorem find_erase_self {k : Str} {l : States} (h : (keys l).Nodup) : find k (erase k l) = none := by
  fun_induction erase k l <;> simp_all [keys_cons, find]
  exact find_none_of_not_mem_keys h.1

theorem erase_of_find_none {k : Str} {l : States} (h : find k l = none) : erase k l = l := by
  fun_induction erase k l <;> simp_all [find]

theorem keys_put (k : Str) (v : Inst) (l : States) :
    keys (put k v l) = if k ∈ keys l then keys l else keys l ++ [k] := by
  induction l with
  | nil => simp [put, keys]
  | cons p r ih =>
    obtain ⟨k2, v2⟩ := p
    by_cases h2 : k2 = k
    · simp [put, keys, h2]
    · have h3 : ¬ k = k2 := fun e => h2 e.symm
      simp only [put, h2, if_false, keys, List.map_cons, List.mem_cons, h3, false_or]
      simp only [keys] at ih
      rw [ih]
      split <;> simp [*]

theorem nodup_put {k : Str} {v : Inst} {l : States} (h : (keys l).Nodup) : (keys (put k v l)).Nodup := by
  rw [keys_put]
  split
  · exact h
  · rename_i hk
    rw [List.nodup_append]
    refine ⟨h, by simp, ?_⟩
    intro a ha b hb
    simp only [List.mem_singleton] at hb
    subst hb
    intro e; subst e; exact hk ha

theorem allOk_cons (p : Str × Inst) (l : States) :
    AllOk (p :: l) ↔ (0 ≤ p.2.count ∧ p.2.count ≤ 2147483647) ∧ AllOk l := List.forall_mem_cons

theorem allOk_put {k : Str} {v : Inst} {l : States} (h : AllOk l) (hv : 0 ≤ v.count ∧ v.count ≤ 2147483647) :
    AllOk (put k v l) := by
  fun_induction put k v l <;> simp_all [allOk_cons]

theorem allOk_erase {k : Str} {l : States} (h : AllOk l) : AllOk (erase k l) := by
  fun_induction erase k l <;> simp_all [allOk_cons]

theorem allOk_find {k : Str} {s : Inst} {l : States} (h : AllOk l) (hf : find k l = some s) :
    0 ≤ s.count ∧ s.count ≤ 2147483647 := h _ (mem_of_find hf)

theorem sum_nonneg {l : States} (h : AllOk l) : 0 ≤ sumStates l := by
  fun_induction sumStates l <;> simp_all [allOk_cons] <;> omega

theorem find_le_sum {k : Str} {s : Inst} {l : States} (h : AllOk l) (hf : find k l = some s) :
    s.count ≤ sumStates l := by
  induction l with
  | nil => simp [find] at hf
  | cons p r ih =>
    obtain ⟨k2, v2⟩ := p
    have hr : AllOk r := fun q hq => h q (List.mem_cons_of_mem _ hq)
    have h0 : 0 ≤ v2.count ∧ v2.count ≤ 2147483647 := h (k2, v2) (List.mem_cons_self ..)
    have hs := sum_nonneg hr
    by_cases h2 : k2 = k
    · simp only [find, h2, if_true, Option.some.injEq] at hf
      subst hf
      simp only [sumStates]; omega
    · simp only [find, h2, if_false] at hf
      have := ih hr hf
      simp only [sumStates]; omega

/-! ### the specification's `oldCount`, `stateOf`, `ensure` and `stale` -/

theorem stateOf_of_find {g : G} {i : Str} {st : Inst} (h : find i g.states = some st) : stateOf g i = st := by
  unfold stateOf; rw [h]

theorem stateOf_count (g : G) (inst : Str) : (stateOf g inst).count = oldCount g inst := by
  unfold stateOf oldCount; cases find inst g.states <;> rfl

theorem oldCount_of_find {g : G} {i : Str} {s : Inst} (h : find i g.states = some s) : oldCount g i = s.count := by
  unfold oldCount; rw [h]

theorem oldCount_none {g : G} {i : Str} (h : find i g.states = none) : oldCount g i = 0 := by
  unfold oldCount; rw [h]

theorem oldCount_of_map {g : G} {i : Str} {c : Int} (h : (find i g.states).map (·.count) = some c) :
    oldCount g i = c := by
  unfold oldCount
  cases hf : find i g.states with
  | none => rw [hf] at h; cases h
  | some s => rw [hf] at h; simpa using h

theorem oldCount_ok {g : G} (inst : Str) (h : WF g) : 0 ≤ oldCount g inst ∧ oldCount g inst ≤ 2147483647 := by
  unfold oldCount
  cases hf : find inst g.states
  · simp
  · exact allOk_find h.states hf

theorem stateOf_le_sum {g : G} (inst : Str) (h : WF g) : (stateOf g inst).count ≤ sumStates g.states := by
  unfold stateOf
  cases hf : find inst g.states
  · exact sum_nonneg h.states
  · exact find_le_sum h.states hf

theorem sum_put (g : G) (inst : Str) (v : Inst) :
    sumStates (put inst v g.states) = sumStates g.states - oldCount g inst + v.count := by
  unfold oldCount
  generalize g.states = l
  fun_induction put inst v l <;> simp_all [find, sumStates] <;> omega

theorem sum_erase (g : G) (inst : Str) : sumStates (erase inst g.states) = sumStates g.states - oldCount g inst := by
  unfold oldCount
  generalize g.states = l
  fun_induction erase inst l <;> simp_all [find, sumStates] <;> omega

theorem ensure_find (g : G) (inst : Str) : find inst (ensure g inst).states = some (stateOf g inst) := by
  unfold ensure stateOf
  cases hf : find inst g.states
  · simp only [find_put_self]
  · simp only [hf]

theorem ensure_eq_of_find {g : G} {i : Str} {st : Inst} (h : find i g.states = some st) : ensure g i = g := by
  unfold ensure; rw [h]

theorem ensure_max (g : G) (inst : Str) : (ensure g inst).max = g.max := by
  unfold ensure; cases find inst g.states <;> rfl

theorem ensure_count (g : G) (inst : Str) : (ensure g inst).count = g.count := by
  unfold ensure; cases find inst g.states <;> rfl

theorem put_ensure (g : G) (inst : Str) (v : Inst) : put inst v (ensure g inst).states = put inst v g.states := by
  unfold ensure
  cases find inst g.states with
  | none => exact put_put ..
  | some _ => rfl

theorem ensure_states_max (a : G) (m : Int) (i : Str) : (ensure { a with max := m } i).states = (ensure a i).states := by
  unfold ensure
  show G.states (match find i a.states with | some _ => _ | none => _) = _
  cases find i a.states <;> rfl

theorem stale_iff (g : G) (i : Str) (r : Int) :
    stale g i r = true ↔ ∃ s, find i g.states = some s ∧ 0 < r ∧ r ≤ s.requestId := by
  unfold stale
  cases hf : find i g.states with
  | none => simp
  | some s => simp

theorem stale_stateOf (g : G) (i : Str) (r : Int) :
    stale g i r = true ↔ r > 0 ∧ r ≤ (stateOf g i).requestId := by
  unfold stale stateOf
  cases find i g.states with
  | none => exact ⟨nofun, fun h => absurd h.2 (Int.not_le.2 h.1)⟩
  | some s => exact decide_eq_true_iff

/-! ### one `SetState` -/

/-- `report` with its `let`s flattened -/
theorem report_eq (g : G) (inst : Str) (state : Inst) (rid cur : Int) :
    report g inst state rid cur =
      if rid > 0 ∧ rid ≤ state.requestId then (g, ⟨false, cur, .requestIDTooOld⟩)
      else
        let delta := wrap32 (cur - state.count)
        let cnt := wrap32 (g.count + delta)
        let ov := wrap32 (cnt - g.max)
        if ov > 0 ∧ delta > 0 then
          ({ g with count := wrap32 (cnt + wrap32 (-delta)),
                    states := put inst ⟨wrap32 (cur + wrap32 (-delta)), newId state rid⟩ g.states },
           ⟨false, state.count, .none⟩)
        else if ov > 0 ∨ (ov = 0 ∧ cur > 0) then
          ({ g with count := cnt, states := put inst ⟨cur, newId state rid⟩ g.states }, ⟨false, cur, .none⟩)
        else
          ({ g with count := cnt, states := put inst ⟨cur, newId state rid⟩ g.states }, ⟨true, cur, .none⟩) := by
  unfold report add newId
  by_cases h : rid > 0 <;> simp only [h] <;> rfl

theorem report_stale (g : G) (inst : Str) (state : Inst) (rid cur : Int)
    (hs : rid > 0 ∧ rid ≤ state.requestId) :
    report g inst state rid cur = (g, ⟨false, cur, .requestIDTooOld⟩) := by
  rw [report_eq, if_pos hs]

theorem report_shape (g : G) (inst : Str) (state : Inst) (rid cur : Int) :
    ∃ cnt k a l, report g inst state rid cur =
      if rid > 0 ∧ rid ≤ state.requestId then (g, ⟨false, cur, .requestIDTooOld⟩)
      else ({ g with count := cnt, states := put inst ⟨k, newId state rid⟩ g.states }, ⟨a, l, .none⟩) := by
  by_cases hs : rid > 0 ∧ rid ≤ state.requestId
  · exact ⟨0, 0, false, 0, by rw [report_stale _ _ _ _ _ hs, if_pos hs]⟩
  · rw [report_eq]
    simp only [if_neg hs]
    split
    · exact ⟨_, _, _, _, rfl⟩
    · split <;> exact ⟨_, _, _, _, rfl⟩

/-- registering the fresh `instanceState{}` first makes no difference: `report` stores the entry anyway -/
theorem setState_report (g : G) (inst : Str) (rid : Int) {cur : Int} (h : 0 ≤ cur) :
    setState g inst rid cur = report g inst (stateOf g inst) rid cur := by
  have hn : ¬ cur < 0 := by omega
  unfold setState stateOf
  cases hf : find inst g.states with
  | some s => simp only [hn, if_false]
  | none =>
    have hns : ¬ (rid > 0 ∧ rid ≤ (⟨0, 0⟩ : Inst).requestId) := fun hh => absurd hh.2 (Int.not_le.2 hh.1)
    simp only [hn, if_false]
    rw [report_eq, report_eq]
    simp only [if_neg hns, put_put]

theorem setState_remove_none {g : G} {inst : Str} (rid : Int) {cur : Int} (h : cur < 0) (hf : find inst g.states = none) :
    setState g inst rid cur = (g, ⟨false, -1, .none⟩) := by
  unfold setState; simp only [hf, h, if_true]

theorem setState_remove_some {g : G} {inst : Str} (rid : Int) {cur : Int} {s : Inst} (h : cur < 0)
    (hf : find inst g.states = some s) :
    setState g inst rid cur =
      ({ g with states := erase inst g.states, count := wrap32 (g.count + wrap32 (-s.count)) }, ⟨false, -1, .none⟩) := by
  unfold setState add; simp only [hf, h, if_true]

theorem setState_remove {g : G} (inst : Str) (rid : Int) {cur : Int} (h : cur < 0) (hc : InI32 g.count) :
    setState g inst rid cur =
      ({ g with count := wrap32 (g.count - oldCount g inst), states := erase inst g.states }, ⟨false, -1, .none⟩) := by
  cases hf : find inst g.states with
  | none =>
    rw [setState_remove_none rid h hf, erase_of_find_none hf, oldCount_none hf, Int.sub_zero, wrap32_id hc]
  | some s =>
    rw [setState_remove_some rid h hf, wrap32_add_wrap32, oldCount_of_find hf]
    rfl

theorem setState_stale {g : G} {inst : Str} {rid cur : Int} (h0 : 0 ≤ cur) (hs : stale g inst rid = true) :
    setState g inst rid cur = (g, ⟨false, cur, .requestIDTooOld⟩) := by
  rw [setState_report g inst rid h0, report_stale _ _ _ _ _ ((stale_stateOf g inst rid).1 hs)]

theorem setState_shape (g : G) (inst : Str) (rid cur : Int) :
    ∃ cnt k a l, setState g inst rid cur =
      if cur < 0 then ({ g with count := cnt, states := erase inst g.states }, ⟨false, -1, .none⟩)
      else if stale g inst rid = true then (g, ⟨false, cur, .requestIDTooOld⟩)
      else ({ g with count := cnt, states := put inst ⟨k, newId (stateOf g inst) rid⟩ g.states }, ⟨a, l, .none⟩) := by
  by_cases hneg : cur < 0
  · cases hf : find inst g.states with
    | none =>
      refine ⟨g.count, 0, false, 0, ?_⟩
      rw [if_pos hneg, setState_remove_none rid hneg hf, erase_of_find_none hf]
    | some s =>
      refine ⟨wrap32 (g.count + wrap32 (-s.count)), 0, false, 0, ?_⟩
      rw [if_pos hneg, setState_remove_some rid hneg hf]
  · obtain ⟨cnt, k, a, l, e⟩ := report_shape g inst (stateOf g inst) rid cur
    refine ⟨cnt, k, a, l, ?_⟩
    rw [if_neg hneg, setState_report g inst rid (Int.not_lt.1 hneg), e]
    by_cases hs : stale g inst rid = true
    · rw [if_pos hs, if_pos ((stale_stateOf g inst rid).1 hs)]
    · rw [if_neg hs, if_neg (mt (stale_stateOf g inst rid).2 hs)]

theorem setState_processed {g : G} {inst : Str} {rid cur : Int} (h0 : 0 ≤ cur)
    (he : (setState g inst rid cur).2.err = .none) :
    ¬ stale g inst rid = true ∧
    ∃ k, find inst (setState g inst rid cur).1.states = some ⟨k, newId (stateOf g inst) rid⟩ := by
  obtain ⟨cnt, k, a, l, e⟩ := setState_shape g inst rid cur
  rw [e, if_neg (Int.not_lt.2 h0)] at he ⊢
  by_cases hs : stale g inst rid = true
  · rw [if_pos hs] at he; cases he
  · rw [if_neg hs]; exact ⟨hs, k, find_put_self _ _ _⟩

theorem setState_max (g : G) (inst : Str) (rid cur : Int) : (setState g inst rid cur).1.max = g.max := by
  obtain ⟨cnt, k, a, l, e⟩ := setState_shape g inst rid cur
  rw [e]
  split
  · rfl
  · split <;> rfl

theorem setState_find_other (g : G) (inst j : Str) (rid cur : Int) (h : j ≠ inst) :
    find j (setState g inst rid cur).1.states = find j g.states := by
  obtain ⟨cnt, k, a, l, e⟩ := setState_shape g inst rid cur
  rw [e]
  split
  · exact find_erase_other _ h
  · split
    · rfl
    · exact find_put_other _ _ h

/-- the overflow `report` computes (as the code does, in wrapping `int32` arithmetic) -/
def ovf (count max old cur : Int) : Int := wrap32 (wrap32 (count + (cur - old)) - max)

/-- The requested total `S - old + cur` can pass `2^31 - 1` only while `S ≤ max`; then it exceeds `max` by at most
    `cur - old`, an `int32`, and the two wraps cancel. -/
theorem ovf_eq {S max old cur : Int} (hS : 0 ≤ S ∧ S ≤ 2147483647)
    (ho : 0 ≤ old ∧ old ≤ S) (hcur : 0 ≤ cur ∧ cur ≤ 2147483647) (hm : 0 ≤ max ∧ max ≤ 2147483647)
    (hpre : S ≤ max ∨ S - old + cur ≤ 2147483647) : ovf S max old cur = S - old + cur - max := by
  unfold ovf wrap32
  omega

/-- the count a report that is not stale leaves registered (the old one if it is rolled back) -/
def kept (g : G) (inst : Str) (cur : Int) : Int :=
  if ovf g.count g.max (oldCount g inst) cur > 0 ∧ cur > oldCount g inst then oldCount g inst else cur

theorem kept_ok {g : G} (inst : Str) {cur : Int} (h : WF g) (hcur : 0 ≤ cur ∧ cur ≤ 2147483647) :
    0 ≤ kept g inst cur ∧ kept g inst cur ≤ 2147483647 := by
  unfold kept; split
  · exact oldCount_ok inst h
  · exact hcur

theorem setState_fresh {g : G} (inst : Str) {rid cur : Int} (h : WF g) (hcur : 0 ≤ cur ∧ cur ≤ 2147483647)
    (hns : ¬ stale g inst rid = true) :
    setState g inst rid cur =
      ({ g with count := wrap32 (g.count + (kept g inst cur - oldCount g inst)),
                states := put inst ⟨kept g inst cur, newId (stateOf g inst) rid⟩ g.states },
       ⟨decide (¬ (ovf g.count g.max (oldCount g inst) cur > 0 ∨ (ovf g.count g.max (oldCount g inst) cur = 0 ∧ cur > 0))),
        kept g inst cur, .none⟩) := by
  have ho := oldCount_ok inst h
  have hd := wrap32_delta hcur ho
  rw [setState_report g inst rid hcur.1, report_eq, if_neg (mt (stale_stateOf g inst rid).2 hns)]
  simp only [stateOf_count, hd]
  show (if ovf g.count g.max (oldCount g inst) cur > 0 ∧ cur - oldCount g inst > 0 then _ else _) = _
  unfold kept
  by_cases hdec : ovf g.count g.max (oldCount g inst) cur > 0 ∧ cur > oldCount g inst
  · have e1 : wrap32 (wrap32 (g.count + (cur - oldCount g inst)) + wrap32 (-(cur - oldCount g inst))) =
        wrap32 (g.count + (oldCount g inst - oldCount g inst)) := by
      rw [wrap32_add_wrap32, wrap32_wrap32_add]; congr 1; omega
    rw [if_pos hdec, if_pos ⟨hdec.1, by omega⟩, e1, wrap32_undo cur ho]
    simp [hdec.1]
  · rw [if_neg hdec, if_neg fun hh => hdec ⟨hh.1, by omega⟩]
    unfold ovf
    split <;> simp [*]

theorem setState_modInv {g : G} (inst : Str) (rid cur : Int) (h : ModInv g) (hcur : InI32 cur) :
    ModInv (setState g inst rid cur).1 := by
  by_cases hneg : cur < 0
  · obtain ⟨wf, hcnt⟩ := h
    rw [setState_remove inst rid hneg wf.count]
    refine ⟨⟨wf.max, wrap32_in _, allOk_erase wf.states, nodup_erase wf.nodup⟩, ?_⟩
    show wrap32 (g.count - oldCount g inst) = wrap32 (sumStates (erase inst g.states))
    rw [sum_erase, hcnt, Int.sub_eq_add_neg, wrap32_wrap32_add, ← Int.sub_eq_add_neg]
  · have h0 : 0 ≤ cur := by omega
    by_cases hs : stale g inst rid = true
    · rw [setState_stale h0 hs]; exact h
    · rw [setState_fresh inst h.1 ⟨h0, hcur.2⟩ hs]
      refine ⟨⟨h.1.max, wrap32_in _, allOk_put h.1.states (kept_ok inst h.1 ⟨h0, hcur.2⟩), nodup_put h.1.nodup⟩, ?_⟩
      show wrap32 (g.count + (kept g inst cur - oldCount g inst)) = wrap32 (sumStates (put inst _ g.states))
      rw [sum_put, h.2, wrap32_wrap32_add]
      show _ = wrap32 (sumStates g.states - oldCount g inst + kept g inst cur)
      congr 1; omega

theorem setState_latest (g : G) (i : Str) (r c : Int) (h : WF g) (hc : InI32 c) (h0 : 0 ≤ c)
    (he : (setState g i r c).2.err = .none) :
    (find i (setState g i r c).1.states).map (·.count) = some (setState g i r c).2.latest := by
  by_cases hs : stale g i r = true
  · rw [setState_stale h0 hs] at he; cases he
  · rw [setState_fresh i h ⟨h0, hc.2⟩ hs]
    show (find i (put i _ _)).map _ = _
    rw [find_put_self]; rfl

theorem setState_decrease {g : G} (inst : Str) {rid cur : Int} (h : WF g) (h0 : 0 ≤ cur) (hle : cur ≤ oldCount g inst)
    (hns : ¬ stale g inst rid = true) :
    find inst (setState g inst rid cur).1.states = some ⟨cur, newId (stateOf g inst) rid⟩ ∧
    (setState g inst rid cur).2.latest = cur ∧ (setState g inst rid cur).2.err = .none ∧
    (setState g inst rid cur).1.count = wrap32 (g.count - (oldCount g inst - cur)) := by
  have ho := oldCount_ok inst h
  rw [setState_fresh inst h ⟨h0, by omega⟩ hns, show kept g inst cur = cur from if_neg fun hh => by omega]
  refine ⟨find_put_self _ _ _, rfl, rfl, ?_⟩
  show wrap32 _ = wrap32 _
  congr 1; omega

/-- `setState_fresh` with `ovf_eq`: under `Pre` the wraps go -/
theorem setState_spec {g : G} (inst : Str) (rid : Int) {cur : Int} (h : Inv g) (hc : InI32 cur)
    (hpre : 0 ≤ cur → Pre g inst cur) :
    setState g inst rid cur =
      if cur < 0 then
        ({ g with count := g.count - oldCount g inst, states := erase inst g.states }, ⟨false, -1, .none⟩)
      else if stale g inst rid = true then (g, ⟨false, cur, .requestIDTooOld⟩)
      else if g.count - oldCount g inst + cur > g.max ∧ cur > oldCount g inst then
        ({ g with states := put inst ⟨oldCount g inst, newId (stateOf g inst) rid⟩ g.states },
         ⟨false, oldCount g inst, .none⟩)
      else
        ({ g with count := g.count - oldCount g inst + cur,
                  states := put inst ⟨cur, newId (stateOf g inst) rid⟩ g.states },
         ⟨decide (g.count - oldCount g inst + cur < g.max ∨ (g.count - oldCount g inst + cur = g.max ∧ cur = 0)),
          cur, .none⟩) := by
  obtain ⟨wf, hcnt⟩ := h
  have ho := oldCount_ok inst wf
  have hle := stateOf_le_sum inst wf
  have hSm := wf.count.2
  rw [stateOf_count, ← hcnt] at hle
  by_cases hneg : cur < 0
  · rw [if_pos hneg, setState_remove inst rid hneg wf.count, wrap32_id (by unfold InI32; omega)]
  · have h0 : 0 ≤ cur := by omega
    obtain ⟨hm0, hp⟩ := hpre h0
    have hmax := wf.max.2
    rw [if_neg hneg]
    by_cases hs : stale g inst rid = true
    · rw [if_pos hs, setState_stale h0 hs]
    · rw [if_neg hs, setState_fresh inst wf ⟨h0, hc.2⟩ hs]
      unfold kept
      rw [ovf_eq ⟨by omega, hSm⟩ ⟨ho.1, hle⟩ ⟨h0, hc.2⟩ ⟨hm0, hmax⟩ (hcnt ▸ hp)]
      by_cases hroll : g.count - oldCount g inst + cur > g.max ∧ cur > oldCount g inst
      · rw [if_pos hroll, if_pos ⟨by omega, hroll.2⟩, Int.sub_self, Int.add_zero, wrap32_id wf.count,
          decide_eq_false fun hn => hn (Or.inl (by omega))]
      · rw [if_neg hroll, if_neg fun hh => hroll ⟨by omega, hh.2⟩,
          wrap32_id (x := g.count + (cur - oldCount g inst)) (by unfold InI32; omega)]
        congr 2
        · omega
        · exact decide_eq_decide.2 (by omega)

/-! ### the server token bucket -/

theorem tfn_add (q a b : Int) : tokensFromNs q (a + b) = tokensFromNs q a + tokensFromNs q b := by
  unfold tokensFromNs nsPerSec
  grind

theorem tfn_nonneg (q d : Int) (hq : 0 ≤ q) (hd : 0 ≤ d) : 0 ≤ tokensFromNs q d := by
  unfold tokensFromNs nsPerSec
  have h1 : (0 : Rat) ≤ (d : Rat) := by exact_mod_cast hd
  have h2 : (0 : Rat) ≤ (q : Rat) := by exact_mod_cast hq
  have := Rat.mul_nonneg h1 h2
  grind

theorem tfn_split (q t0 now t : Int) : tokensFromNs q (t - t0) = tokensFromNs q (t - now) + tokensFromNs q (now - t0) := by
  rw [← tfn_add]; congr 1; omega

theorem ratMin_le_left (a b : Rat) : ratMin a b ≤ a := by
  unfold ratMin; split <;> grind

theorem ratMin_le_right (a b : Rat) : ratMin a b ≤ b := by
  unfold ratMin; split <;> grind

theorem le_ratMin {a b c : Rat} (ha : c ≤ a) (hb : c ≤ b) : c ≤ ratMin a b := by
  unfold ratMin; split <;> assumption

theorem ratMin_add_le (a x d : Rat) (hd : 0 ≤ d) : ratMin a (x + d) ≤ ratMin a x + d := by
  have h1 := ratMin_le_left a (x + d)
  have h2 := ratMin_le_right a (x + d)
  show _ ≤ (if x < a then x else a) + d
  split <;> grind

theorem avail_none {b : Bucket} (t : Int) (h : b.last = none) : avail b t = b.burst := by
  unfold avail advance; rw [h]

theorem avail_some {b : Bucket} {l t : Int} (h : b.last = some l) (hl : l ≤ t) :
    avail b t = ratMin b.burst (b.tokens + tokensFromNs b.qps (t - l)) := by
  unfold avail advance; rw [h]; simp only [if_neg (Int.not_lt.2 hl)]

theorem advance_last {b : Bucket} {t : Int} (hm : Mono b t) : (advance b t).1 = b.last := by
  unfold advance
  cases hl : b.last with
  | none => rfl
  | some l => simp only [if_neg (Int.not_lt.2 (hm l hl))]

theorem avail_le_burst (b : Bucket) (t : Int) : avail b t ≤ (b.burst : Rat) := by
  unfold avail advance
  cases b.last with
  | none => exact Rat.le_refl
  | some l => exact ratMin_le_left _ _

theorem avail_nonneg (b : Bucket) (t : Int) (hq : 0 ≤ b.qps) (hb : 0 ≤ b.burst) (htok : 0 ≤ b.tokens) (hm : Mono b t) :
    0 ≤ avail b t := by
  have hbr : (0 : Rat) ≤ (b.burst : Rat) := by exact_mod_cast hb
  cases hl : b.last with
  | none => rw [avail_none t hl]; exact hbr
  | some l =>
    rw [avail_some hl (hm l hl)]
    have := tfn_nonneg b.qps (t - l) hq (by have := hm l hl; omega)
    exact le_ratMin hbr (by grind)

theorem avail_step (b : Bucket) (t0 t : Int) (hq : 0 ≤ b.qps) (hm : Mono b t0) (ht : t0 ≤ t) :
    avail b t ≤ avail b t0 + tokensFromNs b.qps (t - t0) := by
  have hF := tfn_nonneg b.qps (t - t0) hq (by omega)
  cases hl : b.last with
  | none => rw [avail_none t hl, avail_none t0 hl]; grind
  | some l =>
    have hle := hm l hl
    rw [avail_some hl hle, avail_some hl (by omega), tfn_split b.qps l t0 t, Rat.add_comm (tokensFromNs _ _), ← Rat.add_assoc]
    exact ratMin_add_le _ _ _ hF

theorem mono_init (qps burst t : Int) : Mono (Bucket.init qps burst) t := fun _ hl => nomatch hl

/-- The potential of the bucket: over a stretch from `b` at `t0` to `b'` at `t` that hands out `g` tokens, `avail` pays
    for the grants; stretches compose (`pays_trans`). -/
structure Pays (b : Bucket) (t0 : Int) (b' : Bucket) (t : Int) (g : Int) : Prop where
  le : (g : Rat) + avail b' t ≤ avail b t0 + tokensFromNs b.qps (t - t0)
  mono : Mono b' t
  qps : b'.qps = b.qps
  burst : b'.burst = b.burst
  tokens : 0 ≤ b.tokens → 0 ≤ b'.tokens

theorem pays_wait {b : Bucket} {t0 t : Int} (hq : 0 ≤ b.qps) (hm : Mono b t0) (ht : t0 ≤ t) : Pays b t0 b t 0 :=
  ⟨by rw [Rat.intCast_zero, Rat.zero_add]; exact avail_step b t0 t hq hm ht, fun l hl => Int.le_trans (hm l hl) ht, rfl, rfl, id⟩

theorem pays_trans {b b1 b2 : Bucket} {t0 t1 t2 g1 g2 g : Int} (h1 : Pays b t0 b1 t1 g1) (h2 : Pays b1 t1 b2 t2 g2)
    (hg : g = g1 + g2) : Pays b t0 b2 t2 g := by
  refine ⟨?_, h2.mono, h2.qps.trans h1.qps, h2.burst.trans h1.burst, fun h => h2.tokens (h1.tokens h)⟩
  have e1 := h1.le
  have e2 := h2.le
  rw [h1.qps] at e2
  rw [hg, Rat.intCast_add, tfn_split b.qps t0 t1 t2]
  grind

theorem pays_bound {b b' : Bucket} {t0 t g : Int} (h : Pays b t0 b' t g) (hq : 0 ≤ b.qps) (hb : 0 ≤ b.burst)
    (htok : 0 ≤ b.tokens) : (g : Rat) ≤ (b.burst : Rat) + tokensFromNs b.qps (t - t0) := by
  have := h.le
  have := avail_le_burst b t0
  have := avail_nonneg b' t (h.qps ▸ hq) (h.burst ▸ hb) (h.tokens htok) h.mono
  grind

theorem allowN_eq (b : Bucket) (now n : Int) :
    allowN b now n =
      if n ≤ b.burst ∧ 0 ≤ avail b now - (n : Rat) then ({ b with last := some now, tokens := avail b now - (n : Rat) }, true)
      else ({ b with last := (advance b now).1 }, false) := by
  unfold allowN avail
  simp only [Bool.and_eq_true, decide_eq_true_eq]

theorem allowN_pays {b b' : Bucket} {now n : Int} {ok : Bool} (h : allowN b now n = (b', ok)) {t0 t : Int}
    (hq : 0 ≤ b.qps) (hm : Mono b t0) (h0 : t0 ≤ now) (ht : now ≤ t) : Pays b t0 b' t (granted ok n) := by
  have hw := pays_wait hq hm h0
  have core : Pays b now b' now (granted ok n) := by
    rw [allowN_eq] at h
    split at h <;> cases h
    · rename_i hc
      refine ⟨?_, fun l hl => by cases hl; exact Int.le_refl _, rfl, rfl, fun _ => hc.2⟩
      have := ratMin_le_right (b.burst : Rat) (avail b now - (n : Rat) + tokensFromNs b.qps (now - now))
      rw [avail_some (b := { b with last := some now, tokens := avail b now - (n : Rat) }) rfl (Int.le_refl now)]
      simp only [granted, if_true]
      grind
    · rw [advance_last hw.mono]
      exact pays_wait hq hw.mono (Int.le_refl _)
  exact pays_trans (pays_trans hw core (Int.zero_add _).symm) (pays_wait (core.qps ▸ hq) core.mono ht) (Int.add_zero _).symm

theorem allowN_params {b b' : Bucket} {now n : Int} {ok : Bool} (h : allowN b now n = (b', ok)) :
    b'.qps = b.qps ∧ b'.burst = b.burst := by
  rw [allowN_eq] at h
  split at h <;> cases h <;> exact ⟨rfl, rfl⟩

theorem chain_le_last (t0 : Int) (l : List Int) (h : Chain t0 l) : t0 ≤ lastFrom t0 l := by
  induction l generalizing t0 with
  | nil => exact Int.le_refl _
  | cons x r ih => have := ih x h.2; have := h.1; unfold lastFrom; omega

theorem tbLoop_params (nows : List Int) (b : Bucket) (t : Int) :
    (tbLoop b t nows).1.qps = b.qps ∧ (tbLoop b t nows).1.burst = b.burst := by
  fun_induction tbLoop b t nows with
  | case1 => exact ⟨rfl, rfl⟩
  | case2 _ _ _ _ _ h => exact allowN_params h
  | case3 _ _ _ _ _ _ h => exact allowN_params h
  | case4 _ _ _ _ _ _ h _ _ _ ih => exact ⟨ih.1.trans (allowN_params h).1, ih.2.trans (allowN_params h).2⟩

theorem tbLoop_range (nows : List Int) (b : Bucket) (t : Int) (ht : 0 ≤ t) :
    0 ≤ (tbLoop b t nows).2.2 ∧ (tbLoop b t nows).2.2 ≤ t ∧
    ((tbLoop b t nows).2.1 = false → (tbLoop b t nows).2.2 = 0) := by
  fun_induction tbLoop b t nows with
  | case1 => exact ⟨Int.le_refl _, ht, fun _ => rfl⟩
  | case2 => exact ⟨ht, Int.le_refl _, nofun⟩
  | case3 => exact ⟨Int.le_refl _, ht, fun _ => rfl⟩
  | case4 _ t _ _ _ _ _ _ t' _ ih =>
    have ht' : t' = t / 2 := rfl   -- `KG.Gen.C08.tbDivisor`, as a numeral for `omega`
    obtain ⟨a1, a2, a3⟩ := ih (by omega)
    exact ⟨a1, by omega, a3⟩

theorem tbLoop_accept_halving (nows : List Int) (b : Bucket) (t : Int)
    (h : (tbLoop b t nows).2.1 = true) : ∃ k, k < nows.length ∧ (tbLoop b t nows).2.2 = halve t k := by
  fun_induction tbLoop b t nows with
  | case1 => cases h
  | case2 => exact ⟨0, Nat.zero_lt_succ _, rfl⟩
  | case3 => cases h
  | case4 _ _ _ _ _ _ _ _ _ _ ih =>
    obtain ⟨k, hk, e⟩ := ih h
    exact ⟨k + 1, Nat.succ_lt_succ hk, e⟩

theorem tbLoop_pays (nows : List Int) (b : Bucket) (token t0 : Int) (hq : 0 ≤ b.qps) (hm : Mono b t0)
    (hc : Chain t0 nows) :
    Pays b t0 (tbLoop b token nows).1 (lastFrom t0 nows) (tbLoop b token nows).2.2 := by
  fun_induction tbLoop b token nows generalizing t0 with
  | case1 => exact pays_wait hq hm (Int.le_refl _)
  | case2 _ _ now rest _ h => exact allowN_pays h hq hm hc.1 (chain_le_last now rest hc.2)
  | case3 _ _ now rest _ ok h hok =>
    rw [Bool.not_eq_true] at hok
    subst hok
    exact allowN_pays h hq hm hc.1 (chain_le_last now rest hc.2)
  | case4 _ _ now _ _ ok h hok _ _ ih =>
    rw [Bool.not_eq_true] at hok
    subst hok
    have hn := allowN_pays h hq hm hc.1 (Int.le_refl _)
    exact pays_trans hn (ih now (hn.qps ▸ hq) hn.mono hc.2) (Int.zero_add _).symm

theorem runAcq_pays (reqs : List (List Int × Int)) (b : Bucket) (t0 : Int) (hq : 0 ≤ b.qps) (hm : Mono b t0)
    (hok : TimesOk t0 reqs) : Pays b t0 (runAcq b reqs).1 (endTime t0 reqs) (runAcq b reqs).2 := by
  induction reqs generalizing b t0 with
  | nil => exact pays_wait hq hm (Int.le_refl _)
  | cons rq rest ih =>
    have h1 := tbLoop_pays rq.1 b rq.2 t0 hq hm hok.2.1
    exact pays_trans h1 (ih _ _ (h1.qps ▸ hq) h1.mono hok.2.2) rfl

theorem bucketResize_same (b : Bucket) : bucketResize b b.qps b.burst = (b, false) := by
  unfold bucketResize; simp

theorem tbStep_pays (s : TBSys) (st : TBStep) (hq : 0 ≤ s.b.qps) (hm : Mono s.b s.clock)
    (hres : SameParams s.b.qps s.b.burst st) :
    Pays s.b s.clock (tbStep s st).b (tbStep s st).clock ((tbStep s st).granted - s.granted) := by
  cases st with
  | tick d =>
    show Pays s.b s.clock s.b (s.clock + d) (s.granted - s.granted)
    rw [Int.sub_self]; exact pays_wait hq hm (by omega)
  | tryAcquire n =>
    show Pays s.b s.clock (allowN s.b s.clock n).1 s.clock (s.granted + granted (allowN s.b s.clock n).2 n - s.granted)
    rw [show ∀ x y : Int, x + y - x = y by omega]
    exact allowN_pays rfl hq hm (Int.le_refl _) (Int.le_refl _)
  | resize q bu =>
    obtain ⟨rfl, rfl⟩ := hres
    simp only [tbStep, bucketResize_same, Int.sub_self]
    exact pays_wait hq hm (Int.le_refl _)

theorem tbRun_pays (steps : List TBStep) (s : TBSys) (hq : 0 ≤ s.b.qps) (hm : Mono s.b s.clock)
    (hres : ∀ st ∈ steps, SameParams s.b.qps s.b.burst st) :
    Pays s.b s.clock (tbRun s steps).b (tbRun s steps).clock ((tbRun s steps).granted - s.granted) := by
  induction steps generalizing s with
  | nil => simp only [tbRun, List.foldl_nil, Int.sub_self]; exact pays_wait hq hm (Int.le_refl _)
  | cons st rest ih =>
    have h1 := tbStep_pays s st hq hm (hres st (List.mem_cons_self ..))
    refine pays_trans h1 (ih (tbStep s st) (h1.qps ▸ hq) h1.mono ?_) (by simp only [tbRun, List.foldl_cons]; omega)
    rw [h1.qps, h1.burst]
    exact fun st hst => hres st (List.mem_cons_of_mem _ hst)

/-! ### runs, interleavings and the judge -/

theorem init_modInv (m : Int) (hm : InI32 m) : ModInv (G.init m) :=
  ⟨⟨hm, by unfold G.init InI32; simp, fun _ hp => by simp [G.init] at hp, by simp [G.init, keys]⟩, by
    simp [G.init, sumStates, wrap32]⟩

theorem init_inv (m : Int) (hm : InI32 m) : Inv (G.init m) :=
  ⟨(init_modInv m hm).1, by simp [G.init, sumStates]⟩

theorem resize_fst (g : G) (n : Int) : (resize g n).1 = { g with max := n } := by
  unfold resize
  split
  · rfl
  · exact G_ext (Decidable.of_not_not ‹¬ g.max ≠ n›) rfl rfl

theorem step_set (g : G) (i : Str) (r c : Int) : step g (.set i r c) = (setState g i r c).1 := rfl

theorem step_resize (g : G) (n : Int) : step g (.resize n) = { g with max := n } := resize_fst g n

theorem bounded_opI32 {op : Op} (h : Bounded op) : OpI32 op := by
  cases op with
  | set i r c => exact h.1
  | resize n => have := h.1; have := h.2; unfold OpI32 InI32; omega

theorem run_inv {P : G → Prop} {ops : List Op} (hstep : ∀ g, ∀ op ∈ ops, P g → P (step g op)) {g : G} (h : P g) :
    P (run g ops) := by
  induction ops generalizing g with
  | nil => exact h
  | cons op rest ih =>
    exact ih (fun g o ho => hstep g o (List.mem_cons_of_mem _ ho)) (hstep g op (List.mem_cons_self ..) h)

theorem safeRun_inv {P : G → Prop} {ops : List Op} (hstep : ∀ g, ∀ op ∈ ops, P g → OpOk g op ∧ P (step g op))
    {g : G} (h : P g) : P (run g ops) ∧ SafeRun g ops := by
  induction ops generalizing g with
  | nil => exact ⟨h, trivial⟩
  | cons op rest ih =>
    obtain ⟨hok, h1⟩ := hstep g op (List.mem_cons_self ..) h
    obtain ⟨a, b⟩ := ih (fun g o ho => hstep g o (List.mem_cons_of_mem _ ho)) h1
    exact ⟨a, hok, b⟩

theorem interleave_mem {ts : List (List Op)} {l : List Op} (h : Interleave ts l) :
    ∀ op ∈ l, ∃ t ∈ ts, op ∈ t := by
  induction h with
  | done => intro op hop; cases hop
  | step ts i op rest l hi _ ih =>
    intro o ho
    have hmem : (op :: rest) ∈ ts := List.mem_of_getElem? hi
    cases ho with
    | head => exact ⟨_, hmem, List.mem_cons_self ..⟩
    | tail _ ho =>
      obtain ⟨t, ht, hot⟩ := ih o ho
      rcases List.mem_or_eq_of_mem_set ht with h1 | h1
      · exact ⟨t, h1, hot⟩
      · subst h1; exact ⟨_, hmem, List.mem_cons_of_mem _ hot⟩

theorem interleave_take {ts : List (List Op)} {l : List Op} {P : Op → Prop} (hl : Interleave ts l)
    (hts : ∀ t ∈ ts, ∀ op ∈ t, P op) (k : Nat) : ∀ op ∈ l.take k, P op := fun op hop =>
  let ⟨t, ht, hot⟩ := interleave_mem hl op (List.mem_of_mem_take hop)
  hts t ht op hot

/-- the shape of `judgeViolations`: no name is listed when every check holds -/
theorem failed_nil {l : List (String × Bool)} (h : ∀ p ∈ l, p.2 = true) :
    (l.filterMap fun (n, ok) => if ok then none else some n) = [] := by
  rw [List.filterMap_eq_nil_iff]
  intro p hp
  simp only [h p hp, if_true]

/-- the shape of the clauses `clOthers` and `jcOthers` -/
theorem others_all {i : Str} {p : Str → Bool} (others : List Str) (h : ∀ j, j ≠ i → p j = true) :
    (others.all fun j => decide (j = i) || p j) = true := by
  rw [List.all_eq_true]
  intro j _
  by_cases hj : j = i
  · simp [hj]
  · simp only [hj, decide_false, Bool.false_or]
    exact h j hj

/-! ### the fine-grained system: what a step does -/

/-- The lock holder's program as a relation: the branches of `fineStep` inside the critical section (`Unlock` excluded),
    each with its condition. -/
inductive Crit (g : G) : Pc → G → Pc → Prop
  | remove {i r c st} : find i g.states = some st → c < 0 →
      Crit g (.locked i r c) { g with states := erase i g.states } (.rmDeleted st)
  | found {i r c st} : find i g.states = some st → ¬ c < 0 → Crit g (.locked i r c) g (.haveState i r c)
  | absent {i r c} : find i g.states = none → c < 0 → Crit g (.locked i r c) g (.unlocking ⟨false, -1, .none⟩)
  | create {i r c} : find i g.states = none → ¬ c < 0 →
      Crit g (.locked i r c) { g with states := put i ⟨0, 0⟩ g.states } (.haveState i r c)
  | removed {st} :
      Crit g (.rmDeleted st) { g with count := wrap32 (g.count + wrap32 (-st.count)) } (.unlocking ⟨false, -1, .none⟩)
  | stale {i r c st} : r > 0 → find i g.states = some st → r ≤ st.requestId →
      Crit g (.haveState i r c) g (.unlocking ⟨false, c, .requestIDTooOld⟩)
  | fresh {i r c st} : r > 0 → find i g.states = some st → ¬ r ≤ st.requestId →
      Crit g (.haveState i r c) g (.idChecked i r c)
  | noId {i r c} : ¬ r > 0 → Crit g (.haveState i r c) g (.idStored i r c)
  | storeId {i r c st} : find i g.states = some st →
      Crit g (.idChecked i r c) { g with states := put i { st with requestId := r } g.states } (.idStored i r c)
  | swap {i r c st} : find i g.states = some st →
      Crit g (.idStored i r c) { g with states := put i { st with count := c } g.states } (.swapped i r c st.count)
  | add {i r c old} :
      Crit g (.swapped i r c old) { g with count := wrap32 (g.count + wrap32 (c - old)) }
        (.added i r c old (wrap32 (c - old)) (wrap32 (g.count + wrap32 (c - old))))
  | over {i r c old delta cnt} : wrap32 (cnt - g.max) > 0 ∧ delta > 0 →
      Crit g (.added i r c old delta cnt) g (.rollback1 i old delta)
  | full {i r c old delta cnt} : ¬ (wrap32 (cnt - g.max) > 0 ∧ delta > 0) →
      wrap32 (cnt - g.max) > 0 ∨ (wrap32 (cnt - g.max) = 0 ∧ c > 0) →
      Crit g (.added i r c old delta cnt) g (.unlocking ⟨false, c, .none⟩)
  | accept {i r c old delta cnt} : ¬ (wrap32 (cnt - g.max) > 0 ∧ delta > 0) →
      ¬ (wrap32 (cnt - g.max) > 0 ∨ (wrap32 (cnt - g.max) = 0 ∧ c > 0)) →
      Crit g (.added i r c old delta cnt) g (.unlocking ⟨true, c, .none⟩)
  | undoState {i old delta st} : find i g.states = some st →
      Crit g (.rollback1 i old delta)
        { g with states := put i { st with count := wrap32 (st.count + wrap32 (-delta)) } g.states } (.rollback2 old delta)
  | undoCount {old delta} :
      Crit g (.rollback2 old delta) { g with count := wrap32 (g.count + wrap32 (-delta)) } (.unlocking ⟨false, old, .none⟩)

/-- what thread `t` at `pc` can do; `o`: the lock owner -/
inductive Step (g : G) (o : Option Nat) (t : Nat) (call : Option Op) : Pc → G → Option Nat → Pc → Prop
  | crit {pc g' p'} : Crit g pc g' p' → Step g o t call pc g' o p'
  | lock {i r c} : o = none → Step g o t call (.wantLock i r c) g (some t) (.locked i r c)
  | unlock {rep} : Step g o t call (.unlocking rep) g none .idle
  | callSet {i r c} : call = some (.set i r c) → Step g o t call .idle g o (.wantLock i r c)
  | callResize {n} : call = some (.resize n) → g.max ≠ n → Step g o t call .idle g o (.resizeStore n)
  -- `fineStep` takes this branch only when `g.max = n`; nothing needs that, so `Step` is wider here
  | callNoResize {n} : call = some (.resize n) → Step g o t call .idle g o .idle
  | store {n} : Step g o t call (.resizeStore n) { g with max := n } o .idle

theorem fineStep_cases {s s' : Fine} {t : Nat} {call : Option Op} (hs : fineStep s t call = some s') :
    ∃ pc g' o' p', s.pcs[t]? = some pc ∧ Step s.g s.owner t call pc g' o' p' ∧ s' = ⟨g', o', s.pcs.set t p'⟩ := by
  revert hs
  -- one goal per branch of `fineStep`, in its order; those that answer `none` go at once
  fun_cases fineStep s t call <;> intro hs <;> cases hs
  · exact ⟨_, _, _, _, ‹_›, .callSet rfl, rfl⟩
  · exact ⟨_, _, _, _, ‹_›, .callResize rfl ‹_›, rfl⟩
  · exact ⟨_, _, _, _, ‹_›, .callNoResize rfl, rfl⟩
  · exact ⟨_, _, _, _, ‹_›, .store, rfl⟩
  · exact ⟨_, _, _, _, ‹_›, .lock ‹_›, rfl⟩
  · exact ⟨_, _, _, _, ‹_›, .crit (.remove ‹_› ‹_›), rfl⟩
  · exact ⟨_, _, _, _, ‹_›, .crit (.found ‹_› ‹_›), rfl⟩
  · exact ⟨_, _, _, _, ‹_›, .crit (.absent ‹_› ‹_›), rfl⟩
  · exact ⟨_, _, _, _, ‹_›, .crit (.create ‹_› ‹_›), rfl⟩
  · exact ⟨_, _, _, _, ‹_›, .crit .removed, rfl⟩
  · exact ⟨_, _, _, _, ‹_›, .crit (.stale ‹_› ‹_› ‹_›), rfl⟩
  · exact ⟨_, _, _, _, ‹_›, .crit (.fresh ‹_› ‹_› ‹_›), rfl⟩
  · exact ⟨_, _, _, _, ‹_›, .crit (.noId ‹_›), rfl⟩
  · exact ⟨_, _, _, _, ‹_›, .crit (.storeId ‹_›), rfl⟩
  · exact ⟨_, _, _, _, ‹_›, .crit (.swap ‹_›), rfl⟩
  · exact ⟨_, _, _, _, ‹_›, .crit .add, rfl⟩
  · exact ⟨_, _, _, _, ‹_›, .crit (.over ‹_›), rfl⟩
  · exact ⟨_, _, _, _, ‹_›, .crit (.full ‹_› ‹_›), rfl⟩
  · exact ⟨_, _, _, _, ‹_›, .crit (.accept ‹_› ‹_›), rfl⟩
  · exact ⟨_, _, _, _, ‹_›, .crit (.undoState ‹_›), rfl⟩
  · exact ⟨_, _, _, _, ‹_›, .crit .undoCount, rfl⟩
  · exact ⟨_, _, _, _, ‹_›, .unlock, rfl⟩

theorem crit_inside {g g' : G} {pc p' : Pc} (h : Crit g pc g' p') : inside pc = true ∧ inside p' = true := by
  cases h <;> exact ⟨rfl, rfl⟩

theorem crit_pending {g g' : G} {pc p' : Pc} (h : Crit g pc g' p') :
    pendingOp p' = none ∨ pendingOp p' = pendingOp pc := by
  cases h <;> simp [pendingOp]

/-! ### the critical section: `PcInv` is its proof outline, `SimPc` its forward simulation onto `setState` -/

theorem pcInv_max (g : G) (m : Int) (pc : Pc) : PcInv { g with max := m } pc ↔ PcInv g pc := by
  cases pc <;> exact Iff.rfl

theorem crit_inv {g g' : G} {pc p' : Pc} (h : Crit g pc g' p') (hall : AllOk g.states) (hnd : (keys g.states).Nodup)
    (hinv : PcInv g pc) : AllOk g'.states ∧ (keys g'.states).Nodup ∧ PcInv g' p' := by
  cases h with
  | @remove i r c st hf hneg =>
    refine ⟨allOk_erase hall, nodup_erase hnd, ?_, allOk_find hall hf⟩
    show g.count = wrap32 (sumStates (erase i g.states) + st.count)
    rw [sum_erase, oldCount_of_find hf, hinv.1]; congr 1; omega
  | found hf hneg => exact ⟨hall, hnd, hinv.1, ⟨by omega, hinv.2.2⟩, by rw [hf]; rfl⟩
  | absent hf hneg => exact ⟨hall, hnd, hinv.1⟩
  | @create i r c hf hneg =>
    refine ⟨allOk_put hall (by simp), nodup_put hnd, ?_, ⟨by omega, hinv.2.2⟩, ?_⟩
    · show g.count = wrap32 (sumStates (put i _ g.states))
      rw [sum_put, oldCount_none hf, hinv.1]; congr 1; simp
    · show (find i (put i _ g.states)).isSome = true
      rw [find_put_self]; rfl
  | @removed st =>
    refine ⟨hall, hnd, ?_⟩
    show wrap32 (g.count + wrap32 (-st.count)) = wrap32 (sumStates g.states)
    rw [hinv.1, wrap32_add_wrap32, wrap32_wrap32_add]; congr 1; omega
  | stale _ _ _ => exact ⟨hall, hnd, hinv.1⟩
  | fresh _ _ _ => exact ⟨hall, hnd, hinv⟩
  | noId _ => exact ⟨hall, hnd, hinv⟩
  | @storeId i r c st hf =>
    have hst := allOk_find hall hf
    refine ⟨allOk_put hall hst, nodup_put hnd, ?_, hinv.2.1, ?_⟩
    · show g.count = wrap32 (sumStates (put i _ g.states))
      rw [sum_put, oldCount_of_find hf, hinv.1]; congr 1; simp
    · show (find i (put i _ g.states)).isSome = true
      rw [find_put_self]; rfl
  | @swap i r c st hf =>
    refine ⟨allOk_put hall hinv.2.1, nodup_put hnd, ?_, hinv.2.1, allOk_find hall hf, st.requestId, find_put_self _ _ _⟩
    show g.count = wrap32 (sumStates (put i _ g.states) - c + st.count)
    rw [sum_put, oldCount_of_find hf, hinv.1]; congr 1; simp
  | @add i r c old =>
    obtain ⟨hcnt, hc, hold, hid⟩ := hinv
    have hd := wrap32_delta hc hold
    refine ⟨hall, hnd, rfl, ?_, hd, hc, hold, hid⟩
    show wrap32 (g.count + wrap32 (c - old)) = wrap32 (sumStates g.states)
    rw [hd, hcnt, wrap32_wrap32_add]; congr 1; omega
  | over _ =>
    obtain ⟨hg, hcnt, hdelta, hc, hold, id, hf⟩ := hinv
    exact ⟨hall, hnd, hg.trans hcnt, hold, _, id, hf, hdelta, hc⟩
  | full _ _ => exact ⟨hall, hnd, hinv.1.trans hinv.2.1⟩
  | accept _ _ => exact ⟨hall, hnd, hinv.1.trans hinv.2.1⟩
  | @undoState i old delta st hf =>
    obtain ⟨hcnt, hold, c, id, hf', hdelta, hc⟩ := hinv
    cases hf.symm.trans hf'
    subst hdelta
    have hback := wrap32_undo c hold
    refine ⟨allOk_put hall (by show okCount (wrap32 _); rw [hback]; exact hold), nodup_put hnd, ?_,
      by unfold okCount at hc hold; unfold InI32; omega⟩
    show g.count = wrap32 (sumStates (put i ⟨wrap32 _, id⟩ g.states) + (c - old))
    rw [sum_put, oldCount_of_find hf, hcnt, hback]
    congr 1; show _ = sumStates g.states - c + old + (c - old); omega
  | @undoCount old delta =>
    refine ⟨hall, hnd, ?_⟩
    show wrap32 (g.count + wrap32 (-delta)) = wrap32 (sumStates g.states)
    rw [hinv.1, wrap32_add_wrap32, wrap32_wrap32_add]; congr 1; omega

theorem simPc_max (g a : G) (m m' : Int) (pc : Pc) : SimPc { g with max := m } { a with max := m' } pc ↔ SimPc g a pc := by
  cases pc <;> simp only [SimPc, ensure_states_max] <;> exact Iff.rfl

/-- the atomic system `a` answers a step of the holder from `pc` to `p'` (shared state then `g'`) by calls pending at `pc` -/
def Matched (pc : Pc) (a g' : G) (p' : Pc) : Prop :=
  ∃ ops : List Op, (∀ op ∈ ops, pendingOp pc = some op) ∧ (run a ops).max = g'.max ∧ SimPc g' (run a ops) p'

theorem sim_stay {g' a : G} {pc p' : Pc} (hm : a.max = g'.max) (h : SimPc g' a p') :
    Matched pc a g' p' :=
  ⟨[], nofun, hm, h⟩

theorem sim_set {g' a : G} {pc p' : Pc} {i : Str} {r c : Int} (hp : pendingOp pc = some (.set i r c))
    (hm : a.max = g'.max) (h : SimPc g' (setState a i r c).1 p') :
    Matched pc a g' p' :=
  ⟨[.set i r c], fun _ hm => List.mem_singleton.1 hm ▸ hp, (setState_max a i r c).trans hm, h⟩

/-- the step that decides the call is matched by the atomic `setState`, every other step by nothing -/
theorem crit_sim {g g' a : G} {pc p' : Pc} (h : Crit g pc g' p') (hsim : SimPc g a pc) (hmax : a.max = g.max) :
    Matched pc a g' p' := by
  cases h with
  | @remove i r c st hf hneg =>
    obtain ⟨hc, hst⟩ := hsim
    refine sim_set rfl hmax ?_
    rw [setState_remove_some r hneg (hst ▸ hf)]
    exact ⟨congrArg (erase i) hst, by show wrap32 (a.count + _) = wrap32 (g.count + _); rw [hc]⟩
  | found hf hneg =>
    obtain ⟨hc, hst⟩ := hsim
    exact sim_stay hmax ⟨by omega, hc.symm, by rw [ensure_eq_of_find (by rw [hst]; exact hf), hst]⟩
  | @absent i r c hf hneg =>
    obtain ⟨hc, hst⟩ := hsim
    refine sim_set rfl hmax ?_
    rw [setState_remove_none r hneg (hst ▸ hf)]
    exact ⟨hc, hst⟩
  | @create i r c hf hneg =>
    obtain ⟨hc, hst⟩ := hsim
    refine sim_stay hmax ⟨by omega, hc.symm, ?_⟩
    show put i _ g.states = (ensure a i).states
    unfold ensure; rw [hst, hf]
  | removed => exact sim_stay hmax ⟨hsim.2, hsim.1⟩
  | @stale i r c st hr hf hle =>
    obtain ⟨h0, hc, hst⟩ := hsim
    cases hf.symm.trans (hst ▸ ensure_find a i)
    have hs := (stale_stateOf a i r).2 ⟨hr, hle⟩
    obtain ⟨s, hfa, _⟩ := (stale_iff a i r).1 hs
    refine sim_set rfl hmax ?_
    rw [setState_stale h0 hs]
    exact ⟨hc.symm, (ensure_eq_of_find hfa ▸ hst).symm⟩
  | @fresh i r c st hr hf hle =>
    obtain ⟨h0, hc, hst⟩ := hsim
    cases hf.symm.trans (hst ▸ ensure_find a i)
    exact sim_stay hmax ⟨h0, hc, hst, hr, hle⟩
  | @noId i r c hr =>
    obtain ⟨h0, hc, hst⟩ := hsim
    refine sim_stay hmax ⟨h0, hc, fun hh => hr hh.1, ?_⟩
    rw [hst, show newId (stateOf a i) r = (stateOf a i).requestId from if_neg hr]
    exact (put_same (ensure_find a i)).symm
  | @storeId i r c st hf =>
    obtain ⟨h0, hc, hst, hr, hle⟩ := hsim
    cases hf.symm.trans (hst ▸ ensure_find a i)
    refine sim_stay hmax ⟨h0, hc, fun hh => hle hh.2, ?_⟩
    show put i _ g.states = _
    rw [show newId (stateOf a i) r = r from if_pos hr, hst]
  | @swap i r c st hf =>
    obtain ⟨h0, hc, hns, hst⟩ := hsim
    cases hf.symm.trans (hst ▸ find_put_self _ _ _)
    refine sim_stay hmax ⟨h0, hc, hns, rfl, ?_⟩
    show put i _ g.states = _
    rw [hst, put_put]
  | add =>
    obtain ⟨h0, hc, hns, hold, hst⟩ := hsim
    exact sim_stay hmax ⟨h0, hns, hold, rfl, by rw [hc], rfl, hst⟩
  | @over i r c old delta cnt hdec =>
    obtain ⟨h0, hns, rfl, rfl, rfl, hgc, hst⟩ := hsim
    refine sim_set rfl hmax ?_
    rw [setState_report a i r h0, report_eq, if_neg hns]
    simp only [hmax, if_pos hdec]
    refine ⟨c, newId (stateOf a i) r, by rw [hst]; exact find_put_self _ _ _, ?_, ?_⟩
    · show put i _ a.states = put i _ g.states
      rw [hst, put_put, put_ensure]
    · show wrap32 (_ + _) = wrap32 (g.count + _)
      rw [hgc]
  | @full i r c old delta cnt hdec h2 =>
    obtain ⟨h0, hns, rfl, rfl, rfl, hgc, hst⟩ := hsim
    refine sim_set rfl hmax ?_
    rw [setState_report a i r h0, report_eq, if_neg hns]
    simp only [hmax, if_neg hdec, if_pos h2]
    exact ⟨hgc.symm, (hst.trans (put_ensure a i _)).symm⟩
  | @accept i r c old delta cnt hdec h2 =>
    obtain ⟨h0, hns, rfl, rfl, rfl, hgc, hst⟩ := hsim
    refine sim_set rfl hmax ?_
    rw [setState_report a i r h0, report_eq, if_neg hns]
    simp only [hmax, if_neg hdec, if_neg h2]
    exact ⟨hgc.symm, (hst.trans (put_ensure a i _)).symm⟩
  | @undoState i old delta st hf =>
    obtain ⟨c, id, hf', hst, hc⟩ := hsim
    cases hf.symm.trans hf'
    exact sim_stay hmax ⟨hst, hc⟩
  | undoCount => exact sim_stay hmax ⟨hsim.2, hsim.1⟩

/-! ### threads: the lock discipline, and the system as shared memory sees it (shared state, pc of the lock holder) -/

theorem pcs_set_self {l : List Pc} {t : Nat} {pc p' : Pc} (h : l[t]? = some pc) : (l.set t p')[t]? = some p' := by
  rw [List.getElem?_set_self', h]; rfl

theorem pcs_set_other {l : List Pc} {t t' : Nat} {p' : Pc} (h : t' ≠ t) : (l.set t p')[t']? = l[t']? := by
  rw [List.getElem?_set_ne (fun e => h e.symm)]

/-- the pc of the thread that owns `f.lock` -/
def holder (s : Fine) : Option Pc := s.owner.bind fun t => s.pcs[t]?

theorem holder_free {s : Fine} (ho : s.owner = none) : holder s = none := by
  unfold holder; rw [ho]; rfl

theorem holder_owner {s : Fine} {t : Nat} {pc : Pc} (ho : s.owner = some t) (hp : s.pcs[t]? = some pc) :
    holder s = some pc := by
  unfold holder; rw [ho]; exact hp

theorem holder_set_self {g' : G} {o' : Option Nat} {l : List Pc} {t : Nat} {pc p' : Pc} (ho : o' = some t)
    (hp : l[t]? = some pc) : holder ⟨g', o', l.set t p'⟩ = some p' := holder_owner ho (pcs_set_self hp)

theorem holder_set_other {s : Fine} {t : Nat} (g' : G) (p' : Pc) (h : s.owner ≠ some t) :
    holder ⟨g', s.owner, s.pcs.set t p'⟩ = holder s := by
  unfold holder
  cases ho : s.owner with
  | none => rfl
  | some to => exact pcs_set_other fun e => h (ho ▸ e ▸ rfl)

/-- the lock discipline; `P`: whatever is known of the calls that are issued -/
structure Disc (P : Op → Prop) (s : Fine) : Prop where
  excl : ∀ (t : Nat) (pc : Pc), s.pcs[t]? = some pc → (inside pc = true ↔ s.owner = some t)
  owner : ∀ (t : Nat), s.owner = some t → ∃ pc, s.pcs[t]? = some pc
  pend : ∀ (t : Nat) (pc : Pc) (op : Op), s.pcs[t]? = some pc → pendingOp pc = some op → P op

/-- Thread `t` moves to `p'`, the owner becomes `o'`: `hin`, `hpend` are the discipline for `t` at `p'`; `hoth`: no other
    thread gains or loses the lock. -/
theorem disc_set {P : Op → Prop} {s : Fine} {t : Nat} {pc : Pc} (hd : Disc P s) (hp : s.pcs[t]? = some pc) (g' : G)
    (o' : Option Nat) (p' : Pc) (hin : inside p' = true ↔ o' = some t) (hpend : ∀ op, pendingOp p' = some op → P op)
    (hoth : ∀ t', t' ≠ t → (o' = some t' ↔ s.owner = some t')) : Disc P ⟨g', o', s.pcs.set t p'⟩ := by
  refine ⟨fun t' pc' hp' => ?_, fun t' ho => ?_, fun t' pc' op hp' => ?_⟩
  · by_cases ht : t' = t
    · subst ht; rw [pcs_set_self hp] at hp'; cases hp'; exact hin
    · rw [pcs_set_other ht] at hp'; exact (hd.excl t' pc' hp').trans (hoth t' ht).symm
  · by_cases ht : t' = t
    · subst ht; exact ⟨p', pcs_set_self hp⟩
    · rw [pcs_set_other ht]; exact hd.owner t' ((hoth t' ht).1 ho)
  · by_cases ht : t' = t
    · subst ht; rw [pcs_set_self hp] at hp'; cases hp'; exact hpend op
    · rw [pcs_set_other ht] at hp'; exact hd.pend t' pc' op hp'

/-- what a step of any thread does to the shared state and the pc of the lock holder (`step_hstep`) -/
inductive HStep (P : Op → Prop) (g : G) : Option Pc → G → Option Pc → Prop
  | crit {pc g' p'} : Crit g pc g' p' → (∀ op, pendingOp pc = some op → P op) → HStep P g (some pc) g' (some p')
  | lock {i r c} : P (.set i r c) → HStep P g none g (some (.locked i r c))
  | unlock {rep} : HStep P g (some (.unlocking rep)) g none
  | store {h} (n : Int) : P (.resize n) → HStep P g h { g with max := n } h
  | skip {h} : HStep P g h g h

/-- A step of thread `t` keeps `Disc`; seen from shared memory it is `skip` or `store` unless `t` is or becomes the holder. -/
theorem step_hstep {P : Op → Prop} {s : Fine} {t : Nat} {call : Option Op} {pc p' : Pc} {g' : G} {o' : Option Nat}
    (hd : Disc P s) (hp : s.pcs[t]? = some pc) (hcall : ∀ op, call = some op → P op)
    (hst : Step s.g s.owner t call pc g' o' p') :
    Disc P ⟨g', o', s.pcs.set t p'⟩ ∧ HStep P s.g (holder s) g' (holder ⟨g', o', s.pcs.set t p'⟩) := by
  have hout : inside pc = false → s.owner ≠ some t := fun h ho => by
    rw [(hd.excl t pc hp).2 ho] at h; cases h
  have hown : inside pc = true → holder s = some pc := fun h => holder_owner ((hd.excl t pc hp).1 h) hp
  cases hst with
  | crit hc =>
    obtain ⟨hin, hin'⟩ := crit_inside hc
    have ho := (hd.excl t pc hp).1 hin
    refine ⟨disc_set hd hp g' _ p' (iff_of_true hin' ho) (fun op h => ?_) fun _ _ => Iff.rfl, ?_⟩
    · rcases crit_pending hc with e | e
      · rw [e] at h; cases h
      · exact hd.pend t pc op hp (e ▸ h)
    · rw [hown hin, holder_set_self ho hp]
      exact .crit hc (hd.pend t pc · hp)
  | @lock i r c ho =>
    refine ⟨disc_set hd hp _ _ _ (iff_of_true rfl rfl) (fun op h => hd.pend t _ op hp h) fun t' ht => ?_, ?_⟩
    · rw [ho]; exact ⟨fun e => absurd (Option.some.inj e).symm ht, nofun⟩
    · rw [holder_set_self rfl hp, holder_free ho]
      exact .lock (hd.pend t _ _ hp rfl)
  | unlock =>
    have ho := (hd.excl t _ hp).1 rfl
    refine ⟨disc_set hd hp _ _ _ (iff_of_false nofun nofun) nofun fun t' ht => ?_, ?_⟩
    · rw [ho]; exact ⟨nofun, fun e => absurd (Option.some.inj e).symm ht⟩
    · rw [hown rfl]; exact .unlock
  | callSet hc =>
    refine ⟨disc_set hd hp _ _ _ (iff_of_false nofun (hout rfl)) (fun op h => hcall op (hc.trans h)) fun _ _ => Iff.rfl, ?_⟩
    rw [holder_set_other _ _ (hout rfl)]; exact .skip
  | callResize hc _ =>
    refine ⟨disc_set hd hp _ _ _ (iff_of_false nofun (hout rfl)) (fun op h => hcall op (hc.trans h)) fun _ _ => Iff.rfl, ?_⟩
    rw [holder_set_other _ _ (hout rfl)]; exact .skip
  | callNoResize _ =>
    refine ⟨disc_set hd hp _ _ _ (iff_of_false nofun (hout rfl)) nofun fun _ _ => Iff.rfl, ?_⟩
    rw [holder_set_other _ _ (hout rfl)]; exact .skip
  | @store n =>
    refine ⟨disc_set hd hp _ _ _ (iff_of_false nofun (hout rfl)) nofun fun _ _ => Iff.rfl, ?_⟩
    rw [holder_set_other _ _ (hout rfl)]; exact .store n (hd.pend t _ _ hp rfl)

/-- `PcInv` at the holder's pc -/
def HInv (g : G) (h : Option Pc) : Prop :=
  AllOk g.states ∧ (keys g.states).Nodup ∧
  match h with
  | none => g.count = wrap32 (sumStates g.states)
  | some pc => PcInv g pc

/-- `SimPc` at the holder's pc -/
def HSim (g : G) (h : Option Pc) (a : G) : Prop :=
  a.max = g.max ∧
  match h with
  | none => a.count = g.count ∧ a.states = g.states
  | some pc => SimPc g a pc

theorem hstep_inv {P : Op → Prop} {g g' : G} {h h' : Option Pc} (hP : ∀ op, P op → OpI32 op) (hst : HStep P g h g' h')
    (hi : HInv g h) : HInv g' h' := by
  obtain ⟨hall, hnd, hi⟩ := hi
  cases hst with
  | crit hc _ => exact crit_inv hc hall hnd hi
  | lock hp => exact ⟨hall, hnd, hi, hP _ hp⟩
  | unlock => exact ⟨hall, hnd, hi⟩
  | store n _ =>
    refine ⟨hall, hnd, ?_⟩
    cases h with
    | none => exact hi
    | some pc => exact (pcInv_max g n pc).2 hi
  | skip => exact ⟨hall, hnd, hi⟩

theorem hstep_sim {P : Op → Prop} {g g' a : G} {h h' : Option Pc} (hst : HStep P g h g' h') (hs : HSim g h a) :
    ∃ ops : List Op, (∀ op ∈ ops, P op) ∧ HSim g' h' (run a ops) := by
  cases hst with
  | crit hc hp =>
    obtain ⟨ops, hops, hm, hsp⟩ := crit_sim hc hs.2 hs.1
    exact ⟨ops, fun op ho => hp op (hops op ho), hm, hsp⟩
  | lock _ => exact ⟨[], nofun, hs⟩
  | unlock => exact ⟨[], nofun, hs⟩
  | store n hp =>
    refine ⟨[.resize n], fun _ hm => List.mem_singleton.1 hm ▸ hp, ?_⟩
    show HSim _ h (step a (.resize n))
    rw [step_resize]
    refine ⟨rfl, ?_⟩
    cases h with
    | none => exact hs.2
    | some pc => exact (simPc_max g a n n pc).2 hs.2
  | skip => exact ⟨[], nofun, hs⟩

/-- `a`: the atomic system after the calls decided so far -/
structure Reach (P : Op → Prop) (s : Fine) (a : G) : Prop where
  disc : Disc P s
  inv : HInv s.g (holder s)
  sim : HSim s.g (holder s) a

theorem fineInit_reach (P : Op → Prop) (m : Int) (n : Nat) : Reach P (fineInit m n) (G.init m) := by
  have hidle : ∀ (t : Nat) (pc : Pc), (fineInit m n).pcs[t]? = some pc → pc = .idle := fun t pc hp =>
    (List.mem_replicate.1 (List.mem_of_getElem? hp)).2
  refine ⟨⟨fun t pc hp => ?_, nofun, fun t pc op hp h => ?_⟩, ?_, rfl, rfl, rfl⟩
  · rw [hidle t pc hp]; exact iff_of_false nofun nofun
  · rw [hidle t pc hp] at h; cases h
  · exact ⟨fun _ hp => (nomatch hp), List.nodup_nil, (by decide : (0 : Int) = wrap32 0)⟩

theorem fineRun_reach {P : Op → Prop} (hP : ∀ op, P op → OpI32 op) (sched : List (Nat × Option Op)) (s s' : Fine) (a : G)
    (h : Reach P s a) (hcalls : ∀ e ∈ sched, ∀ op, e.2 = some op → P op) (hr : fineRun s sched = some s') :
    ∃ lin : List Op, (∀ op ∈ lin, P op) ∧ Reach P s' (run a lin) := by
  fun_induction fineRun s sched generalizing a with
  | case1 => cases hr; exact ⟨[], nofun, h⟩
  | case2 => cases hr
  | case3 s t call rest s1 hst ih =>
    obtain ⟨pc, g', o', p', hp, hstep, rfl⟩ := fineStep_cases hst
    obtain ⟨hd, hh⟩ := step_hstep h.disc hp (hcalls (t, call) (List.mem_cons_self ..)) hstep
    obtain ⟨ops, hops, hsim⟩ := hstep_sim hh h.sim
    obtain ⟨lin, hlin, hre⟩ := ih (run a ops) ⟨hd, hstep_inv hP hh h.inv, hsim⟩
      (fun e he => hcalls e (List.mem_cons_of_mem _ he)) hr
    refine ⟨ops ++ lin, fun op hm => (List.mem_append.1 hm).elim (hops op) (hlin op), ?_⟩
    rw [show run a (ops ++ lin) = run (run a ops) lin from List.foldl_append ..]
    exact hre

theorem reach_finv {P : Op → Prop} {s : Fine} {a : G} (hP : ∀ op, P op → OpI32 op) (h : Reach P s a) : FInv s := by
  obtain ⟨hd, ⟨hall, hnd, hi⟩, _⟩ := h
  refine ⟨hall, hnd, fun t pc hp hin => (hd.excl t pc hp).1 hin, fun t ho => ?_, fun ho => ?_,
    fun t i r c hp => hP _ (hd.pend t _ _ hp rfl)⟩
  · obtain ⟨pc, hp⟩ := hd.owner t ho
    rw [holder_owner ho hp] at hi
    exact ⟨pc, hp, (hd.excl t pc hp).2 ho, hi⟩
  · rw [holder_free ho] at hi
    exact hi

theorem reach_sim {P : Op → Prop} {s : Fine} {a : G} (h : Reach P s a) : Sim s a := by
  obtain ⟨hd, _, hm, hs⟩ := h
  refine ⟨hm, ?_⟩
  cases ho : s.owner with
  | none =>
    rw [holder_free ho] at hs
    exact hs
  | some t =>
    obtain ⟨pc, hp⟩ := hd.owner t ho
    rw [holder_owner ho hp] at hs
    exact ⟨pc, hp, hs⟩

theorem sim_free {s : Fine} {a : G} (h : Sim s a) (ho : s.owner = none) : a = s.g := by
  obtain ⟨hm, hrest⟩ := h
  rw [ho] at hrest
  exact G_ext hm hrest.1 hrest.2

/-- `P`: anything that holds of the calls in the schedule -/
theorem fine_refines {P : Op → Prop} (hP : ∀ op, P op → OpI32 op) (m : Int) (threads : Nat)
    (sched : List (Nat × Option Op)) (s : Fine) (hcalls : ∀ e ∈ sched, ∀ op, e.2 = some op → P op)
    (hr : fineRun (fineInit m threads) sched = some s) :
    FInv s ∧ ∃ lin : List Op, (∀ op ∈ lin, P op) ∧ Sim s (run (G.init m) lin) :=
  let ⟨lin, hlin, h⟩ := fineRun_reach hP sched _ s _ (fineInit_reach P m threads) hcalls hr
  ⟨reach_finv hP h, lin, hlin, reach_sim h⟩

/-- what holds after every atomic run of such calls holds in every lock-free state of every fine-grained run -/
theorem fine_transport {P : Op → Prop} {Q : G → Prop} (hP : ∀ op, P op → OpI32 op) {m : Int} {threads : Nat}
    {sched : List (Nat × Option Op)} {s : Fine} (hQ : ∀ lin : List Op, (∀ op ∈ lin, P op) → Q (run (G.init m) lin))
    (hcalls : ∀ e ∈ sched, ∀ op, e.2 = some op → P op) (hr : fineRun (fineInit m threads) sched = some s)
    (hfree : s.owner = none) : Q s.g :=
  let ⟨_, lin, hlin, hsim⟩ := fine_refines hP m threads sched s hcalls hr
  sim_free hsim hfree ▸ hQ lin hlin

end KG.Lemmas.GlobalCount

