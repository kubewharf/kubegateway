/-! Facts about folds, lookups on association lists and `getElem?` that belong to no one model. -/
namespace KG.Lemmas

/-- the step may use that its element is in the list -/
theorem foldl_inv {σ β : Type} (P : σ → Prop) (f : σ → β → σ) (l : List β)
    (h : ∀ s x, x ∈ l → P s → P (f s x)) (s : σ) (hs : P s) : P (l.foldl f s) := by
  induction l generalizing s with
  | nil => exact hs
  | cons x xs ih =>
    exact ih (fun s y hy => h s y (List.mem_cons_of_mem _ hy)) _ (h s x List.mem_cons_self hs)

-- needs no `DecidableEq`, so it stands before the section
theorem mem_of_lookup {κ β : Type} [BEq κ] [LawfulBEq κ] {l : List (κ × β)} {a : κ} {v : β} (h : l.lookup a = some v) : (a, v) ∈ l := by
  obtain ⟨l₁, l₂, rfl, _⟩ := List.lookup_eq_some_iff.1 h
  exact List.mem_append_right _ List.mem_cons_self

/-- for any lookup `get` in which the first entry of a key wins: `List.lookup` (`lookup_filter_key`) or a model's own -/
theorem get_filter_key {κ β : Type} [DecidableEq κ] (get : List (κ × β) → κ → Option β) (hnil : ∀ k, get [] k = none)
    (hcons : ∀ a v l k, get ((a, v) :: l) k = if a = k then some v else get l k) (l : List (κ × β)) (f : κ → Bool) (a : κ) :
    get (l.filter fun p => f p.1) a = if f a then get l a else none := by
  induction l with
  | nil => rw [List.filter_nil, hnil, ite_self]
  | cons p rest ih =>
    obtain ⟨k, v⟩ := p
    rw [List.filter_cons]
    by_cases hk : k = a
    · subst k
      cases hf : f a
      · simp only [Bool.false_eq_true, if_false, ih, hf]
      · simp only [if_true, hcons]
    · cases hf : f k
      · simp only [Bool.false_eq_true, if_false, ih, hcons, hk]
      · simp only [if_true, hcons, hk, if_false, ih]

/-- the key `n` removed -/
theorem get_filter_ne {κ β : Type} [DecidableEq κ] (get : List (κ × β) → κ → Option β) (hnil : ∀ k, get [] k = none)
    (hcons : ∀ a v l k, get ((a, v) :: l) k = if a = k then some v else get l k) (l : List (κ × β)) (n k : κ) :
    get (l.filter (fun e => decide (e.1 ≠ n))) k = if n = k then none else get l k := by
  refine (get_filter_key get hnil hcons l (fun x => decide (x ≠ n)) k).trans ?_
  by_cases h : n = k
  · rw [if_pos h, if_neg (by simp [h])]
  · rw [if_neg h, if_pos (by simpa using fun e : k = n => h e.symm)]

section lookup
variable {κ β : Type} [BEq κ] [LawfulBEq κ] [DecidableEq κ]

theorem lookup_cons_ite (k : κ) (v : β) (l : List (κ × β)) (a : κ) :
    ((k, v) :: l).lookup a = if k = a then some v else l.lookup a := by
  rw [List.lookup_cons]
  by_cases h : k = a
  · rw [if_pos h, h, beq_self_eq_true]
  · rw [if_neg h, beq_false_of_ne (Ne.symm h)]

theorem lookup_filter_key (l : List (κ × β)) (f : κ → Bool) (a : κ) :
    (l.filter fun p => f p.1).lookup a = if f a then l.lookup a else none :=
  get_filter_key (fun l a => l.lookup a) (fun _ => rfl) lookup_cons_ite l f a

end lookup

/-! ## positions in a list -/

theorem lt_of_getElem?_some {α : Type} {l : List α} {q : Nat} {a : α} (h : l[q]? = some a) : q < l.length :=
  (List.getElem?_eq_some_iff.1 h).1

theorem getElem?_concat {α : Type} (l : List α) (a : α) (q : Nat) :
    (l ++ [a])[q]? = if q = l.length then some a else l[q]? := by
  split
  · next h => rw [h, List.getElem?_concat_length]
  · next h =>
    rw [List.getElem?_append]
    split
    · rfl
    · rw [List.getElem?_eq_none (by simp; omega), List.getElem?_eq_none (by omega)]

theorem getElem?_set_of_some {α : Type} {l : List α} {i : Nat} {a b : α} (h : l[i]? = some a) (j : Nat) :
    (l.set i b)[j]? = if j = i then some b else l[j]? := by
  rw [List.getElem?_set]
  by_cases hi : i = j
  · subst hi; simp [lt_of_getElem?_some h]
  · rw [if_neg hi, if_neg (Ne.symm hi)]

end KG.Lemmas
