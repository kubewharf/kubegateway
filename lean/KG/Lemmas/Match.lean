import KG.Spec.Match
/-! The loops of `KG.Model.Match` (matchers, admission normaliser) and the declarative `KG.Spec.Match` meet in the `reading`
    of an entry list: each is one equation over it. -/
namespace KG.Lemmas.Match
open KG KG.Model.Match KG.Spec.Match

theorem star_not_inverted : inverted star = false := rfl

/-- `by_cases` would synthesise (slowly) the decision procedure for membership in a list of byte strings each time -/
theorem star_mem_or_not (E : List Str) : star ∈ E ∨ star ∉ E := Classical.em _

theorem not_contains_star {E : List Str} (h : star ∉ E) : E.contains star = false := by
  simpa using h

theorem positives_cons (x : Str) (xs : List Str) :
    positives (x :: xs) = if inverted x then positives xs else x :: positives xs := by
  cases h : inverted x <;> simp [positives, h]

theorem negatives_cons (x : Str) (xs : List Str) :
    negatives (x :: xs) = if inverted x then strip x :: negatives xs else negatives xs := by
  cases h : inverted x <;> simp [negatives, h]

theorem star_not_mem_positives {E : List Str} (h : star ∉ E) : star ∉ positives E :=
  fun hm => h (List.mem_filter.1 hm).1

theorem positives_idem (E : List Str) : positives (positives E) = positives E := by
  simp [positives, List.filter_filter]

/-! ## The reading of an entry list -/

/-- everything (a `"*"` entry), else the positive entries if there are any, else the `-` entries as written -/
inductive Reading
  | all
  | pos (P : List Str)
  | neg (R : List Str)

def reading (E : List Str) : Reading :=
  if E.contains star then .all else if (positives E).isEmpty then .neg (E.filter inverted) else .pos (positives E)

theorem reading_star {E : List Str} (h : star ∈ E) : reading E = .all := by
  rw [reading, List.contains_iff_mem.2 h, if_pos rfl]

theorem reading_nostar {E : List Str} (h : star ∉ E) :
    reading E = if (positives E).isEmpty then .neg (E.filter inverted) else .pos (positives E) := by
  rw [reading, not_contains_star h, if_neg Bool.false_ne_true]

theorem fieldSpec_reading (o : Bool) (pos : Str → Bool) (E : List Str) :
    fieldSpec o pos E = match reading E with
      | .all => true
      | .pos P => P.any pos
      | .neg R => if R.isEmpty then o else !(R.map strip).any pos := by
  unfold fieldSpec reading negatives
  cases E.contains star
  · cases positives E <;> cases E.filter inverted <;> rfl
  · rfl

theorem urlSpec_reading (E : List Str) (q : Str) :
    urlSpec E q = match reading E with
      | .all => true
      | .pos P => P.any (posGlob q)
      | .neg _ => false := by
  unfold urlSpec reading
  cases E.contains star
  · cases positives E <;> rfl
  · rfl

theorem isEmpty_reading (E : List Str) : E.isEmpty = match reading E with | .neg [] => true | _ => false := by
  cases E with
  | nil => rfl
  | cons x xs =>
    obtain hs | hs := star_mem_or_not (x :: xs)
    · rw [reading_star hs]; rfl
    · rw [reading_nostar hs, positives_cons, List.filter_cons]
      cases inverted x
      · rfl
      · cases positives xs <;> rfl

/-! ## `fieldSpec` by cases -/

theorem fieldSpec_star {E : List Str} (h : star ∈ E) (o : Bool) (pos : Str → Bool) : fieldSpec o pos E = true := by
  rw [fieldSpec_reading, reading_star h]

theorem fieldSpec_nostar {E : List Str} (h : star ∉ E) (o : Bool) (pos : Str → Bool) :
    fieldSpec o pos E =
      if !(positives E).isEmpty then (positives E).any pos
      else if !(negatives E).isEmpty then !(negatives E).any pos
      else o := by
  rw [fieldSpec, not_contains_star h, if_neg Bool.false_ne_true]

theorem fieldSpec_of_ne_nil {E : List Str} (h : E ≠ []) (o o' : Bool) (pos : Str → Bool) :
    fieldSpec o pos E = fieldSpec o' pos E := by
  have := isEmpty_reading E
  rw [fieldSpec_reading, fieldSpec_reading]
  cases hr : reading E with
  | neg R =>
    cases R with
    | nil => rw [hr] at this; exact absurd (List.isEmpty_iff.1 this) h
    | cons r rs => rfl
  | _ => rfl

theorem fieldSpec_singleton {x : Str} (hx : x ≠ star) (hi : inverted x = false) (o : Bool) (pos : Str → Bool) :
    fieldSpec o pos [x] = pos x := by
  have hs : star ∉ [x] := fun h => hx (List.mem_singleton.1 h).symm
  rw [fieldSpec_nostar hs, positives_cons, hi]
  exact Bool.or_false _

/-! ## The loop of `filterRules`, with and without a `"*"` entry -/

theorem filterLoop_star (E : List Str) (f r : List Matcher) (h : star ∈ E) :
    (filterLoop E f r).2.2 = true := by
  induction E generalizing f r with
  | nil => cases h
  | cons x xs ih =>
    unfold filterLoop
    by_cases hx : x = star
    · rw [if_pos hx]
    · rw [if_neg hx]
      have hm : star ∈ xs := (List.mem_cons.1 h).resolve_left (Ne.symm hx)
      split <;> exact ih _ _ hm

theorem filterLoop_nostar (E : List Str) (f r : List Matcher) (h : star ∉ E) :
    filterLoop E f r =
      (f ++ (positives E).map (fun v => ⟨false, v⟩), r ++ (negatives E).map (fun v => ⟨true, v⟩), false) := by
  induction E generalizing f r with
  | nil => simp [filterLoop, positives, negatives]
  | cons x xs ih =>
    have hx : x ≠ star := fun e => h (e ▸ List.mem_cons_self)
    have hxs : star ∉ xs := fun e => h (List.mem_cons_of_mem _ e)
    rw [filterLoop, if_neg hx, positives_cons, negatives_cons]
    cases inverted x <;> simp [ih _ _ hxs]

/-- With a `"*"` the kept list is whatever was accumulated before the `break`; no caller reads it once the flag is true,
    so the `.all` case leaves it as it is. -/
theorem filterRules_reading (E : List Str) :
    filterRules E = match reading E with
      | .all => ((filterRules E).1, true)
      | .pos P => (P.map (⟨false, ·⟩), false)
      | .neg R => (R.map (⟨true, strip ·⟩), false) := by
  unfold filterRules
  obtain hs | hs := star_mem_or_not E
  · have := filterLoop_star E [] [] hs
    rw [reading_star hs]
    split
    next f r all heq =>
      rw [heq] at this
      subst this
      split <;> rfl
  · rw [reading_nostar hs, filterLoop_nostar E [] [] hs]
    cases positives E
    · simp [negatives]
    · rfl

theorem simpleMatches_spec (E reqs : List Str) (extra : Str → Bool) :
    simpleMatches E reqs extra =
      fieldSpec false (fun p => reqs.any (fun q => p == q) || extra p) E := by
  unfold simpleMatches
  rw [filterRules_reading, fieldSpec_reading]
  -- the first entry's `reverse` tells which of the two lists was kept
  cases reading E with
  | all => rfl
  | pos P =>
    cases P with
    | nil => rfl
    | cons p ps =>
      simp only [List.any_map, Function.comp_def, Bool.false_eq_true, if_false]
      cases List.any (p :: ps) _ <;> rfl
  | neg R =>
    cases R with
    | nil => rfl
    | cons r rs =>
      simp only [List.any_map, Function.comp_def, Bool.false_eq_true, if_false, List.isEmpty_cons]
      cases List.any (r :: rs) _ <;> rfl

theorem simpleMatches_eq_fieldSpec {reqs : List Str} {extra pos : Str → Bool}
    (h : ∀ p, (reqs.any (fun q => p == q) || extra p) = pos p) (E : List Str) :
    simpleMatches E reqs extra = fieldSpec false pos E := by
  rw [simpleMatches_spec, funext h]

/-! ## Trailing-`*` globs -/

theorem hasSuffix_append_star (p : Str) : hasSuffix (p ++ star) star = true := by
  simp [hasSuffix, star, hasPrefix]

theorem trimRightStar_append_star {p : Str} (h : 42 ∉ p) : trimRightStar (p ++ star) = p := by
  have hd : p.reverse.dropWhile (· == 42) = p.reverse := by
    cases hr : p.reverse with
    | nil => rfl
    | cons c cs =>
      have hc : c ≠ 42 := fun e => h (List.mem_reverse.1 (hr ▸ e ▸ List.mem_cons_self))
      rw [List.dropWhile_cons_of_neg (by simpa using hc)]
  rw [trimRightStar, List.reverse_append]
  show (List.dropWhile (· == 42) p.reverse).reverse = p
  rw [hd, List.reverse_reverse]

theorem globMatch_append_star {p : Str} (h : 42 ∉ p) (q : Str) : globMatch (p ++ star) q = hasPrefix q p := by
  rw [globMatch, hasSuffix_append_star, trimRightStar_append_star h, Bool.true_and]

end KG.Lemmas.Match
