import KG.Model.Gateway
import KG.Spec.Gateway
import KG.Lemmas.Lists
import KG.Lemmas.LocalLimiter
import KG.Lemmas.Identity
import KG.Lemmas.Endpoints
import KG.Props.C04
import KG.Props.C01
/-!
# Lemmas about the composed model

`arrive_cases` is the one statement about `arrive`: per outcome, what C04's chain model answered on the computed flags, what the
stages had established (the records `Front`, `Done`, `Forwards`) and the state. The state moves by three kinds of steps only
(`step_preserves`), so an invariant of one part of it (`Inv`, `ClusterWF`) is three facts about that part's own model. `reaches`
(no filter in front answers) is when C04's table is the dispatcher's (`table_of_reaches`); `table_spec_eq` equates the table on
the specification's flags with the table on the model's, stage by stage, each by its area's theorem.
-/
namespace KG.Lemmas.Gateway
open KG KG.Model.Gateway

variable {env : Env} {s : State} {r : Request} {b : Bound} {x : Dispatched}

/-! ## the stages in front of the dispatcher -/

theorem resolve_some {p : Nat} {cl : Cluster} (h : resolveCluster s r = some (p, cl)) :
    (∃ ci, Model.Names.resolve lower s.mgr r.host = some (p, ci)) ∧ s.clusters[p]? = some cl := by
  unfold resolveCluster at h
  split at h
  · cases h
  · rename_i p' ci hres
    split at h
    · cases h
    · rename_i cl' hcl
      cases h
      exact ⟨⟨ci, hres⟩, hcl⟩

/-- what the filters in front of the dispatcher established of a request they bound to `b` -/
structure Front (env : Env) (s : State) (r : Request) (b : Bound) : Prop where
  info : r.info = some b.ri
  proxied : r.hostIsIP = false
  resolved : resolveCluster s r = some (b.p, b.cl)
  named : ∃ ci, Model.Names.resolve lower s.mgr r.host = some (b.p, ci)
  cluster : s.clusters[b.p]? = some b.cl
  notDenied : b.cl.cfg.denyAll = false
  authn : authenticate env (some b.p) r = some b.requestor
  imp : ∃ h1, impersonation env (some b.p) r b.requestor = .pass h1 b.ctxUser

theorem front_of_bound (h : bound? env s r = some b) : Front env s r b := by
  unfold bound? at h
  split at h
  · cases h
  rename_i ri hri
  split at h
  · cases h
  rename_i hip
  split at h
  · cases h
  rename_i p cl hres
  split at h
  · cases h
  rename_i hd
  split at h
  · cases h
  rename_i u hau
  split at h
  · rename_i h1 ctx himp
    cases h
    exact ⟨hri, Bool.not_eq_true _ ▸ hip, hres, (resolve_some hres).1, (resolve_some hres).2, Bool.not_eq_true _ ▸ hd, hau,
      h1, himp⟩
  · cases h

/-! ## the dispatcher -/

theorem dispatch_cases {d : Disp} (h : dispatch env s r = d) :
    match (generalizing := false) d with
    | .notReached => bound? env s r = none
    | .noPolicy b => bound? env s r = some b ∧ route b.cl r b.ri b.ctxUser = none
    | .panic e => ∃ b pk, bound? env s r = some b ∧ route b.cl r b.ri b.ctxUser = some pk ∧
        tryAcquire s.lim s.buckets b.cl.cfg.name (schemaNameOf b.cl pk) r.now = .error e
    | .done x => bound? env s r = some x.b ∧ route x.b.cl r x.b.ri x.b.ctxUser = some x.pk ∧
        tryAcquire s.lim s.buckets x.b.cl.cfg.name (schemaNameOf x.b.cl x.pk) r.now = .ok x.acq ∧
        x.pop = (if x.acq.admitted then Model.Endpoints.pop x.b.cl.ep.eps x.b.cl.ep.lb x.pk.upstreams else (.noReady, x.b.cl.ep.lb)) := by
  subst h
  unfold dispatch
  cases bound? env s r with
  | none => rfl
  | some b =>
    dsimp only
    cases hr : route b.cl r b.ri b.ctxUser with
    | none => exact ⟨rfl, hr⟩
    | some pk =>
      dsimp only
      cases ha : tryAcquire s.lim s.buckets b.cl.cfg.name (schemaNameOf b.cl pk) r.now with
      | error e => exact ⟨b, pk, rfl, hr, ha⟩
      | ok acq => exact ⟨rfl, hr, ha, rfl⟩

theorem dispatch_noPolicy {env : Env} {s : State} {r : Request} {b : Bound} (h : dispatch env s r = .noPolicy b) :
    bound? env s r = some b ∧ route b.cl r b.ri b.ctxUser = none := dispatch_cases h

theorem tryAcquire_ok {lim : Model.LocalLimiter.World} {bs : List (Nat × Model.TokenBucket.Bucket)} {c n : Str} {now : Rat}
    {a : Acquired} (h : tryAcquire lim bs c n now = .ok a) :
    Model.LocalLimiter.acquire lim c n (bucketAnswer lim bs c n now).1 = .ok (a.lim, a.admitted) ∧
    a.handle = lim.reqs.length ∧ a.buckets = (bucketAnswer lim bs c n now).2 := by
  unfold tryAcquire at h
  split at h
  · cases h
  · rename_i w b hacq
    cases h
    exact ⟨hacq, rfl, rfl⟩

theorem route_some {cl : Cluster} {r : Request} {ri : ReqInfo} {u : Model.Identity.Identity} {pk : Model.Match.Picker}
    (h : route cl r ri u = some pk) :
    ∃ pol, cl.cfg.policies[pk.policy]? = some pol ∧ KG.Spec.Match.policySpec (attrsOf ri u) pol.rules = true ∧
      (∀ j, j < pk.policy → ∀ q, cl.cfg.policies[j]? = some q → KG.Spec.Match.policySpec (attrsOf ri u) q.rules = false) ∧
      schemaNameOf cl pk = pol.flowControlSchemaName ∧
      pk.upstreams = (if pol.upstreamSubset = [] then allEndpoints cl r else pol.upstreamSubset) := by
  obtain ⟨pol, hpol, hm, hfirst, _, hups, _⟩ := KG.Props.C01.c01_match_attributes_some _ _ _ _ _ h
  exact ⟨pol, hpol, hm, hfirst, by rw [schemaNameOf, hpol], hups⟩

/-- what the dispatcher did for a request it got to work on -/
structure Done (env : Env) (s : State) (r : Request) (x : Dispatched) : Prop extends Front env s r x.b where
  bound : bound? env s r = some x.b
  routed : route x.b.cl r x.b.ri x.b.ctxUser = some x.pk
  acquire : Model.LocalLimiter.acquire s.lim x.b.cl.cfg.name (schemaNameOf x.b.cl x.pk)
      (bucketAnswer s.lim s.buckets x.b.cl.cfg.name (schemaNameOf x.b.cl x.pk) r.now).1 = .ok (x.acq.lim, x.acq.admitted)
  handle : x.acq.handle = s.lim.reqs.length
  buckets : x.acq.buckets = (bucketAnswer s.lim s.buckets x.b.cl.cfg.name (schemaNameOf x.b.cl x.pk) r.now).2
  pop : x.pop = (if x.acq.admitted then Model.Endpoints.pop x.b.cl.ep.eps x.b.cl.ep.lb x.pk.upstreams else (.noReady, x.b.cl.ep.lb))

theorem done_of_dispatch (hx : dispatch env s r = .done x) : Done env s r x :=
  have ⟨hb, hr, ha, hp⟩ := dispatch_cases hx
  have ⟨h1, h2, h3⟩ := tryAcquire_ok ha
  { front_of_bound hb with bound := hb, routed := hr, acquire := h1, handle := h2, buckets := h3, pop := hp }

theorem Done.popped (d : Done env s r x) (ha : x.acq.admitted = true) :
    x.pop = Model.Endpoints.pop x.b.cl.ep.eps x.b.cl.ep.lb x.pk.upstreams := by
  rw [d.pop, if_pos ha]

/-! ## the flags of the scenario, read off the stages -/

theorem scenario_info (env : Env) (s : State) (r : Request) : (scenario env s r).requestInfoOK = r.info.isSome := rfl
theorem scenario_ip (env : Env) (s : State) (r : Request) : (scenario env s r).hostIsIP = r.hostIsIP := rfl
theorem scenario_known (env : Env) (s : State) (r : Request) :
    (scenario env s r).clusterKnown = (resolveCluster s r).isSome := rfl

theorem scenario_noPolicy (h : dispatch env s r = .noPolicy b) :
    (scenario env s r).policyMatches = false ∧ (scenario env s r).acquireOK = true ∧ (scenario env s r).popOK = true := by
  simp only [scenario, h, and_self]

theorem scenario_done (h : dispatch env s r = .done x) :
    (scenario env s r).policyMatches = true ∧ (scenario env s r).acquireOK = x.acq.admitted ∧
    (scenario env s r).popOK = (match x.pop.1 with | .picked _ _ => true | _ => false) := by
  simp only [scenario, h, true_and]
  rfl

/-- every filter in front of the dispatcher lets the request pass -/
def reaches (sc : Model.Forward.Scenario) : Bool :=
  sc.requestInfoOK && !sc.hostIsIP && sc.clusterKnown && !sc.denyAll && sc.authOK &&
    (sc.imp == Model.Forward.Imp.none || sc.imp == Model.Forward.Imp.allowed)

theorem reaches_iff {sc : Model.Forward.Scenario} :
    reaches sc = true ↔ sc.requestInfoOK = true ∧ sc.hostIsIP = false ∧ sc.clusterKnown = true ∧ sc.denyAll = false ∧
      sc.authOK = true ∧ (sc.imp = .none ∨ sc.imp = .allowed) := by
  simp only [reaches, Bool.and_eq_true, Bool.or_eq_true, Bool.not_eq_true', beq_iff_eq, and_assoc]

/-- `reaches` in the form of the gates of `serve_eq` -/
theorem reaches_eq_gates (sc : Model.Forward.Scenario) :
    reaches sc = (!(!sc.requestInfoOK) && !(!sc.hostIsIP && !sc.clusterKnown) && !(!sc.hostIsIP && sc.denyAll) &&
      !(!sc.authOK) && !(sc.imp == .malformed) && !(sc.imp == .refused) && !sc.hostIsIP) := by
  unfold reaches
  cases sc.hostIsIP <;> cases sc.imp <;>
    simp only [Bool.not_not, Bool.not_true, Bool.not_false, Bool.true_and, Bool.false_and, Bool.and_true, Bool.and_false,
      Bool.and_assoc] <;> rfl

theorem table_of_reaches {sc : Model.Forward.Scenario} (h : reaches sc = true) :
    KG.Spec.Forward.table sc = KG.Spec.Forward.tableDispatch sc := by
  obtain ⟨h1, h2, h3, h4, h5, h6⟩ := reaches_iff.1 h
  unfold KG.Spec.Forward.table
  rcases h6 with h6 | h6 <;> simp only [h1, h2, h3, h4, h5, h6, Bool.not_true, Bool.false_eq_true, if_false]

theorem reaches_scenario (env : Env) (s : State) (r : Request) :
    reaches (scenario env s r) = (bound? env s r).isSome := by
  unfold bound?
  simp only [reaches, scenario]
  cases r.info with
  | none => rfl
  | some ri =>
    cases r.hostIsIP with
    | true => rfl
    | false =>
      cases resolveCluster s r with
      | none => rfl
      | some pc =>
        simp only [Option.map_some, Bool.false_eq_true, if_false]
        cases pc.2.cfg.denyAll with
        | true => rfl
        | false =>
          cases authenticate env (some pc.1) r with
          | none => rfl
          | some u =>
            simp only [Bool.false_eq_true, if_false]
            cases impersonation env (some pc.1) r u with
            | pass h ctx => simp only [impKind]; split <;> rfl
            | internalError => rfl
            | forbidden => rfl

theorem reaches_of_bound (h : bound? env s r = some b) : reaches (scenario env s r) = true := by
  rw [reaches_scenario, h]; rfl

theorem forward_flags {sc : Model.Forward.Scenario} (h : Model.Forward.serve sc = .forward) :
    reaches sc = true ∧ sc.policyMatches = true ∧ sc.acquireOK = true ∧ sc.popOK = true := by
  obtain ⟨h1, h2, h3, h4, h5, h6, h7⟩ := (KG.Props.C04.c04_forward_iff sc).1 h
  exact ⟨reaches_iff.2 ⟨h1, h2, h3, h4, h5, h6⟩, h7⟩

theorem forward_done (h : Model.Forward.serve (scenario env s r) = .forward) (hx : dispatch env s r = .done x) :
    x.acq.admitted = true ∧ ∃ n g, x.pop.1 = .picked n g := by
  obtain ⟨_, _, h8, h9⟩ := forward_flags h
  obtain ⟨_, e8, e9⟩ := scenario_done hx
  rw [e8] at h8
  rw [e9] at h9
  refine ⟨h8, ?_⟩
  cases hp : x.pop.1 with
  | picked n g => exact ⟨n, g, rfl⟩
  | noReady => rw [hp] at h9; cases h9
  | panic => rw [hp] at h9; cases h9

/-! ## the limiter invariant: the simulation relation of C05 -/

theorem done_rel {σ : KG.Spec.LocalLimiter.SState}
    (h : KG.Lemmas.LocalLimiter.Rel s.lim σ) (hx : dispatch env s r = .done x) :
    KG.Lemmas.LocalLimiter.Rel x.acq.lim
      (KG.Spec.LocalLimiter.specAcquire σ x.b.cl.cfg.name (schemaNameOf x.b.cl x.pk) x.acq.admitted) := by
  obtain ⟨w', b, ha, _, hrel⟩ := KG.Lemmas.LocalLimiter.acquire_step h x.b.cl.cfg.name (schemaNameOf x.b.cl x.pk)
    (bucketAnswer s.lim s.buckets x.b.cl.cfg.name (schemaNameOf x.b.cl x.pk) r.now).1
  cases (done_of_dispatch hx).acquire.symm.trans ha
  exact hrel

/-- the state's limiters are related to some bookkeeping of C05's judge -/
def Inv (s : State) : Prop := ∃ σ, KG.Lemmas.LocalLimiter.Rel s.lim σ

/-- related limiters never hand out a nil or dangling limiter (C05) -/
theorem tryAcquire_never_panics (h : Inv s) (c n : Str) (now : Rat) :
    ∃ a, tryAcquire s.lim s.buckets c n now = .ok a := by
  obtain ⟨σ, hr⟩ := h
  obtain ⟨w', b, ha, _, _⟩ := KG.Lemmas.LocalLimiter.acquire_step hr c n (bucketAnswer s.lim s.buckets c n now).1
  unfold tryAcquire
  rw [ha]
  exact ⟨_, rfl⟩

theorem dispatch_never_panics (h : Inv s) (r : Request) (e : String) : dispatch env s r ≠ .panic e := by
  intro hp
  obtain ⟨b, pk, _, _, herr⟩ := dispatch_cases hp
  obtain ⟨a, ha⟩ := tryAcquire_never_panics h b.cl.cfg.name (schemaNameOf b.cl pk) r.now
  rw [ha] at herr; cases herr

theorem forward_dispatch (hinv : Inv s) (h : Model.Forward.serve (scenario env s r) = .forward) :
    ∃ x, dispatch env s r = .done x := by
  obtain ⟨hr, h7, _⟩ := forward_flags h
  rw [reaches_scenario] at hr
  cases hd : dispatch env s r with
  | notReached => rw [dispatch_cases hd] at hr; cases hr
  | noPolicy b' => rw [(scenario_noPolicy hd).1] at h7; cases h7
  | panic e => exact absurd hd (dispatch_never_panics hinv r e)
  | done x => exact ⟨x, rfl⟩

/-! ## C02: what the specification expects of a bound request, and what the upstream receives -/

theorem headersOf_eq (hv : KG.Lemmas.Identity.rawValid r.lines = true) :
    headersOf r = KG.Lemmas.Identity.parsed r.lines := by
  unfold headersOf
  rw [KG.Lemmas.Identity.parse_eq]
  simp [hv]

theorem imp_expected {p : Option Nat} (hv : KG.Lemmas.Identity.rawValid r.lines = true)
    (u : Model.Identity.Identity) :
    KG.Spec.Identity.expected r.lines u (env.authz p u) =
      (match impersonation env p r u with
       | .pass _ id => .forward id
       | .internalError => .answered 500
       | .forbidden => .answered 403) := by
  unfold impersonation KG.Spec.Identity.expected
  rw [headersOf_eq hv, KG.Lemmas.Identity.impersonate_spec r.lines hv]
  cases KG.Spec.Identity.impersonationRequested r.lines <;> cases KG.Spec.Identity.malformed r.lines <;>
    cases KG.Spec.Identity.allAllowed (env.authz p u) r.lines <;> rfl

theorem expected_bound (hv : KG.Lemmas.Identity.rawValid r.lines = true) (f : Front env s r b) :
    KG.Spec.Identity.expected r.lines b.requestor (env.authz (some b.p) b.requestor) = .forward b.ctxUser := by
  obtain ⟨h1, himp⟩ := f.imp
  rw [imp_expected hv, himp]

/-- C02 (`serve_forwarded`) on the request the dispatcher hands on -/
theorem identity_forwarded {token : Str} {recv : Model.Identity.Headers} {ctx : Model.Identity.Identity} (f : Front env s r b)
    (hid : Model.Identity.serveWith token r.lines (some b.requestor) (env.authz (some b.p) b.requestor) false =
      .forwarded recv ctx) :
    ctx = b.ctxUser ∧ Model.Identity.checkImpersonationValues ctx = true ∧
      identityEntries recv = Model.Identity.sendOver false (KG.Spec.Identity.gatewayHeaders token false ctx) := by
  obtain ⟨u', hk, hv, hu, hex, hF⟩ := KG.Lemmas.Identity.serve_forwarded _ _ _ _ _ _ _ hid
  cases hu
  rw [expected_bound hv f] at hex
  injection hex with hex
  exact ⟨hex.symm, hk, hF⟩

/-! ## `arrive`, outcome by outcome -/

/-- what holds of a request handed to an upstream (`up`: C04's upstream request; `(n, g)`: the endpoint `Pop` picked) -/
structure Forwards (env : Env) (s : State) (r : Request) (x : Dispatched) (up : Model.Forward.UpReq) (n : Str) (g : Nat) : Prop
    extends Done env s r x where
  accepted : Model.Identity.parse r.lines ≠ none
  request : Model.Forward.forwardRequest r.toForward = some up
  dispatched : dispatch env s r = .done x
  admitted : x.acq.admitted = true
  picked : x.pop.1 = .picked n g
  valuesOK : Model.Identity.checkImpersonationValues x.b.ctxUser = true
  chain : Model.Forward.serve (scenario env s r) = .forward

/-- the form C03 / C14 are applied to -/
theorem Forwards.pick {up : Model.Forward.UpReq} {n : Str} {g : Nat} (w : Forwards env s r x up n g)
    {pol : Model.Match.PolicyCfg} (hpol : x.b.cl.cfg.policies[x.pk.policy]? = some pol) :
    Model.Endpoints.pop x.b.cl.ep.eps x.b.cl.ep.lb
      (if pol.upstreamSubset = [] then allEndpoints x.b.cl r else pol.upstreamSubset) = (.picked n g, x.pop.2) := by
  obtain ⟨pol', hpol', _, _, _, hups⟩ := route_some w.routed
  cases hpol'.symm.trans hpol
  rw [← hups, ← w.popped w.admitted, ← w.picked]

/-- the one place where `arrive` is unfolded -/
theorem arrive_cases {o : Outcome} (h : (arrive env s r).2 = o) :
    match (generalizing := false) o with
    | .forwarded f => ∃ x up n g,
        f = { cluster := x.b.p, policy := x.pk.policy, schema := schemaNameOf x.b.cl x.pk, endpoint := (n, g),
              handle := x.acq.handle, ctxUser := x.b.ctxUser, up := endToEnd up,
              identity := Model.Identity.sendOver false (KG.Spec.Identity.gatewayHeaders x.b.cl.cfg.token false x.b.ctxUser),
              closeWhenIdle := x.b.cl.cfg.closeWhenIdle } ∧
        Forwards env s r x up n g ∧ (arrive env s r).1 = stateAfterDispatch s x
    | .terminated a => Model.Forward.serve (scenario env s r) = .terminated a ∧
        (arrive env s r).1 = (match dispatch env s r with
          | .done x => if x.acq.admitted then finish (stateAfterDispatch s x) x.acq.handle else stateAfterDispatch s x
          | _ => s)
    | .proxyError => ∃ x, dispatch env s r = .done x ∧ x.acq.admitted = true ∧
        (arrive env s r).1 = finish (stateAfterDispatch s x) x.acq.handle ∧ Model.Forward.serve (scenario env s r) = .forward
    | .notProxied => (arrive env s r).1 = s ∧ Model.Forward.serve (scenario env s r) = .notProxied
    | .badRequest => (arrive env s r).1 = s ∧
        (Model.Identity.parse r.lines = none ∨ Model.Forward.forwardRequest r.toForward = none)
    | .panic _ => (arrive env s r).1 = s ∧ ¬ Inv s := by
  subst h
  generalize ha : arrive env s r = a
  unfold arrive at ha
  split at ha
  · rename_i hdr up hparse hfwd
    split at ha
    · rename_i e he
      subst ha
      exact ⟨rfl, fun hinv => dispatch_never_panics hinv r e he⟩
    · rename_i d hnp
      split at ha
      · rename_i hserve
        subst ha
        exact ⟨rfl, hserve⟩
      · rename_i a' hserve
        split at ha
        · rename_i x hx
          subst ha
          exact ⟨hserve, by rw [hx]⟩
        · rename_i hnd
          subst ha
          refine ⟨hserve, ?_⟩
          cases hd : dispatch env s r with
          | done x => exact absurd hd (hnd x)
          | panic e => exact absurd hd (hnp e)
          | notReached => rfl
          | noPolicy b => rfl
      · rename_i hserve
        split at ha
        · rename_i x hx
          obtain ⟨hadm, n', g', hpk⟩ := forward_done hserve hx
          split at ha
          · rename_i n g hpop
            split at ha
            · rename_i recv ctx hid
              subst ha
              obtain ⟨rfl, hk, hF⟩ := identity_forwarded (done_of_dispatch hx).toFront hid
              exact ⟨x, up, n, g, by rw [hF], { done_of_dispatch hx with
                accepted := by rw [hparse]; exact Option.some_ne_none _, request := hfwd, dispatched := hx, admitted := hadm,
                picked := hpop, valuesOK := hk, chain := hserve }, rfl⟩
            · subst ha
              exact ⟨x, hx, hadm, rfl, hserve⟩
          · rename_i hnpick
            exact absurd hpk (hnpick n' g')
        · rename_i hnd
          subst ha
          exact ⟨rfl, fun hinv => (forward_dispatch hinv hserve).elim fun x hx => hnd x hx⟩
  · rename_i hnot
    subst ha
    refine ⟨rfl, ?_⟩
    cases hp : Model.Identity.parse r.lines with
    | none => exact .inl rfl
    | some hdr =>
      cases hf : Model.Forward.forwardRequest r.toForward with
      | none => exact .inr rfl
      | some up => exact (hnot hdr up hp hf).elim

theorem arrive_badRequest (h : Model.Identity.parse r.lines = none ∨ Model.Forward.forwardRequest r.toForward = none) :
    arrive env s r = (s, .badRequest) := by
  unfold arrive
  split
  · rename_i h1 h2
    rcases h with h | h
    · rw [h] at h1; cases h1
    · rw [h] at h2; cases h2
  · rfl

/-- a state the request has left without holding a slot -/
def Settled (env : Env) (s : State) (r : Request) (s' : State) : Prop :=
  s' = s ∨ ∃ x, dispatch env s r = .done x ∧
    ((s' = stateAfterDispatch s x ∧ x.acq.admitted = false) ∨
     (s' = finish (stateAfterDispatch s x) x.acq.handle ∧ x.acq.admitted = true))

/-- only a request that is with its upstream holds a slot -/
theorem arrive_state_cases (env : Env) (s : State) (r : Request) :
    (∃ x f, dispatch env s r = .done x ∧ x.acq.admitted = true ∧ (arrive env s r).2 = .forwarded f ∧
      f.handle = x.acq.handle ∧ (arrive env s r).1 = stateAfterDispatch s x) ∨
    ((∀ f, (arrive env s r).2 ≠ .forwarded f) ∧ Settled env s r (arrive env s r).1) := by
  cases ho : (arrive env s r).2 <;> have h := arrive_cases ho
  case forwarded f =>
    obtain ⟨x, _, _, _, rfl, w, hst⟩ := h
    exact .inl ⟨x, _, w.dispatched, w.admitted, rfl, rfl, hst⟩
  case proxyError =>
    obtain ⟨x, hx, ha, hst, _⟩ := h
    exact .inr ⟨nofun, .inr ⟨x, hx, .inr ⟨hst, ha⟩⟩⟩
  case terminated a =>
    obtain ⟨_, hst⟩ := h
    refine .inr ⟨nofun, ?_⟩
    cases hd : dispatch env s r with
    | done x =>
      cases ha : x.acq.admitted with
      | true => exact .inr ⟨x, hd, .inr ⟨by simp only [hst, hd, ha, if_true], ha⟩⟩
      | false => exact .inr ⟨x, hd, .inl ⟨by simp only [hst, hd, ha, Bool.false_eq_true, if_false], ha⟩⟩
    | _ => exact .inl (by rw [hst, hd])
  all_goals exact .inr ⟨nofun, .inl (And.left h)⟩

theorem arrive_state (env : Env) (s : State) (r : Request) :
    (arrive env s r).1 = s ∨
    ∃ x, dispatch env s r = .done x ∧
      ((arrive env s r).1 = stateAfterDispatch s x ∨ (arrive env s r).1 = finish (stateAfterDispatch s x) x.acq.handle) := by
  rcases arrive_state_cases env s r with ⟨x, _, hx, _, _, _, h⟩ | ⟨_, h | ⟨x, hx, ⟨h, _⟩ | ⟨h, _⟩⟩⟩
  · exact .inr ⟨x, hx, .inl h⟩
  · exact .inl h
  · exact .inr ⟨x, hx, .inl h⟩
  · exact .inr ⟨x, hx, .inr h⟩

theorem serveRequest_state (env : Env) (s : State) (r : Request) : Settled env s r (serveRequest env s r).1 := by
  unfold serveRequest
  dsimp only
  rcases arrive_state_cases env s r with ⟨x, f, hx, ha, hf, hh, hst⟩ | ⟨hnf, hs⟩
  · simp only [hf, hst, hh]
    exact .inr ⟨x, hx, .inr ⟨rfl, ha⟩⟩
  · split
    · exact absurd ‹_› (hnf _)
    · exact hs

theorem serveRequest_outcome (env : Env) (s : State) (r : Request) : (serveRequest env s r).2 = (arrive env s r).2 := by
  unfold serveRequest
  dsimp only
  split <;> rfl

theorem step_request_out (env : Env) (x : Run) (r : Request) (hold : Bool) :
    (step env x (.request r hold)).2 = .served (arrive env x.s r).2 := by
  cases hold with
  | false => exact congrArg Out.served (serveRequest_outcome env x.s r)
  | true =>
    simp only [step, if_true]
    split <;> rfl

/-! ## what the dispatcher's steps and the deferred `Release` leave alone -/

theorem setCursor_get (cs : List Cluster) (p : Nat) (lb : List (Model.Endpoints.Key × Nat)) (q : Nat) :
    (setCursor cs p lb)[q]? =
      (if q = p then (cs[p]?).map (fun cl => { cl with ep := { cl.ep with lb := lb } }) else cs[q]?) := by
  unfold setCursor
  by_cases hq : q = p
  · subst hq
    cases hp : cs[q]? with
    | none => simp [hp]
    | some cl => simp [(List.getElem?_eq_some_iff.1 hp).1]
  · cases cs[p]? with
    | none => simp [hq]
    | some cl => simp [hq, Ne.symm hq]

theorem setCursor_length (cs : List Cluster) (p : Nat) (lb : List (Model.Endpoints.Key × Nat)) :
    (setCursor cs p lb).length = cs.length := by
  unfold setCursor; split <;> simp

theorem setCursor_map {α : Type} (g : Cluster → α)
    (hg : ∀ (cl : Cluster) (lb : List (Model.Endpoints.Key × Nat)), g { cl with ep := { cl.ep with lb := lb } } = g cl)
    (cs : List Cluster) (p : Nat) (lb : List (Model.Endpoints.Key × Nat)) :
    (setCursor cs p lb).map g = cs.map g := by
  apply List.ext_getElem?
  intro q
  rw [List.getElem?_map, List.getElem?_map, setCursor_get]
  by_cases hq : q = p
  · subst hq; cases cs[q]? <;> simp [hg]
  · simp [hq]

theorem setCursor_self (cs : List Cluster) (p : Nat) (cl : Cluster) (h : cs[p]? = some cl) : setCursor cs p cl.ep.lb = cs := by
  apply List.ext_getElem?
  intro q
  rw [setCursor_get]
  by_cases hq : q = p
  · subst hq; simp [h]
  · simp [hq]

theorem stateAfterDispatch_mgr (s : State) (x : Dispatched) : (stateAfterDispatch s x).mgr = s.mgr := rfl
theorem finish_mgr (s : State) (h : Nat) : (finish s h).mgr = s.mgr := rfl
theorem finish_clusters (s : State) (h : Nat) : (finish s h).clusters = s.clusters := rfl
theorem finish_buckets (s : State) (h : Nat) : (finish s h).buckets = s.buckets := rfl
theorem stateAfterDispatch_clusters (s : State) (x : Dispatched) :
    (stateAfterDispatch s x).clusters = setCursor s.clusters x.b.p x.pop.2 := rfl

theorem stateAfterDispatch_unpicked (hx : dispatch env s r = .done x)
    (h : ∀ n g, x.pop.1 ≠ .picked n g) : (stateAfterDispatch s x).clusters = s.clusters := by
  have hlb : x.pop.2 = x.b.cl.ep.lb := by
    rw [(done_of_dispatch hx).pop] at h ⊢
    split
    · rcases KG.Lemmas.Endpoints.pop_cases x.b.cl.ep.eps x.b.cl.ep.lb x.pk.upstreams with ⟨_, hn⟩ | ⟨e, _, hp⟩
      · rw [KG.Lemmas.Endpoints.pop_none _ _ _ hn]
      · rw [if_pos ‹_›] at h
        exact absurd hp (h _ _)
    · rfl
  rw [stateAfterDispatch_clusters, hlb]
  exact setCursor_self _ _ _ (done_of_dispatch hx).cluster

/-- `TryAcquire` comes before `Pop` -/
theorem stateAfterDispatch_refused (hx : dispatch env s r = .done x)
    (ha : x.acq.admitted = false) : (stateAfterDispatch s x).clusters = s.clusters := by
  refine stateAfterDispatch_unpicked hx ?_
  rw [(done_of_dispatch hx).pop, ha]
  nofun

/-! ## induction over `install` and over a sequence of operations -/

/-- `hadd`: registering a cluster — names by C10's handler, limiters by C05's `sync`, a fresh endpoint map by C03's `sync` -/
theorem install_induction {P : State → Prop} (h0 : P State.init)
    (hadd : ∀ (s : State) (cfg : ClusterCfg) (w : Model.LocalLimiter.World), P s →
      Model.LocalLimiter.sync s.lim (lower cfg.name) cfg.schemas = .ok w →
      P { s with
          mgr := (Model.Names.syncUpstreamCluster lower s.mgr cfg.name
            (some { aliases := cfg.aliases, cert := none, ca := none, bad := false })).1,
          clusters := s.clusters ++
            [{ cfg := { cfg with name := lower cfg.name },
               ep := Model.Endpoints.sync Model.Endpoints.init cfg.servers (cfg.policies.map (·.upstreamSubset)) }],
          lim := w })
    (cfgs : List ClusterCfg) : P (install cfgs) := by
  unfold install
  generalize State.init = s at h0
  induction cfgs generalizing s with
  | nil => exact h0
  | cons cfg rest ih =>
    refine ih _ ?_
    unfold addCluster
    dsimp only
    split
    · split
      · exact h0
      · exact hadd s cfg _ h0 ‹_›
    · exact h0
    · exact h0

/-- the state moves by three kinds of steps only: the dispatcher's work for a request, a deferred `Release`, a health report -/
theorem step_preserves {env : Env} {P : State → Prop}
    (hd : ∀ s r x, dispatch env s r = .done x → P s → P (stateAfterDispatch s x))
    (hf : ∀ s i, P s → P (finish s i)) (hh : ∀ s p ep healthy, P s → P (setHealth s p ep healthy))
    {x : Run} (h : P x.s) (op : Op) : P (step env x op).1.s := by
  have ha : ∀ r, P (arrive env x.s r).1 := fun r => by
    rcases arrive_state env x.s r with h1 | ⟨d, hx, h1 | h1⟩
    · rw [h1]; exact h
    · rw [h1]; exact hd _ r d hx h
    · rw [h1]; exact hf _ _ (hd _ r d hx h)
  cases op with
  | request r hold =>
    cases hold with
    | true =>
      simp only [step, if_true]
      split <;> exact ha r
    | false =>
      simp only [step, serveRequest, Bool.false_eq_true, if_false]
      split
      · exact hf _ _ (ha r)
      · exact ha r
  | finish k =>
    simp only [step]
    split
    · exact h
    · exact hf _ _ h
  | setHealth p ep healthy => exact hh _ p ep healthy h

theorem run_preserves {env : Env} {P : State → Prop}
    (hd : ∀ s r x, dispatch env s r = .done x → P s → P (stateAfterDispatch s x))
    (hf : ∀ s i, P s → P (finish s i)) (hh : ∀ s p ep healthy, P s → P (setHealth s p ep healthy))
    (x : Run) (h : P x.s) (ops : List Op) : P (run env x ops).1.s := by
  induction ops generalizing x with
  | nil => exact h
  | cons op ops ih => exact ih _ (step_preserves hd hf hh h op)

/-! ## the limiter invariant is carried through the composed steps -/

theorem inv_done (s : State) (r : Request) (x : Dispatched) (hx : dispatch env s r = .done x) (h : Inv s) :
    Inv (stateAfterDispatch s x) :=
  h.elim fun _ hr => ⟨_, done_rel hr hx⟩

theorem inv_finish (s : State) (i : Nat) (h : Inv s) : Inv (finish s i) :=
  h.elim fun _ hr => ⟨_, KG.Lemmas.LocalLimiter.release_step hr i⟩

theorem inv_setHealth (s : State) (p : Nat) (ep : Str) (healthy : Bool) (h : Inv s) : Inv (setHealth s p ep healthy) := by
  unfold setHealth
  split <;> exact h

theorem inv_step {env : Env} {x : Run} (h : Inv x.s) (op : Op) : Inv (step env x op).1.s :=
  step_preserves inv_done inv_finish inv_setHealth h op

/-! ## well-formed clusters -/

/-- the endpoint map of a `ClusterInfo` is in C03's simulation with a history whose last Sync wrote the cluster's
    configuration (server list and subsets) -/
def ClusterWF (cl : Cluster) : Prop :=
  ∃ a : KG.Spec.Endpoints.Abs, KG.Lemmas.Endpoints.Sim cl.ep a ∧ a.servers = cl.cfg.servers ∧
    a.policies = cl.cfg.policies.map (·.upstreamSubset)

/-- the endpoint map `addCluster` builds: one Sync of the cluster's own configuration -/
theorem clusterWF_sync (cfg : ClusterCfg) :
    ClusterWF { cfg := cfg, ep := Model.Endpoints.sync Model.Endpoints.init cfg.servers (cfg.policies.map (·.upstreamSubset)) } := by
  have hs := (KG.Lemmas.Endpoints.sim_step KG.Lemmas.Endpoints.sim_init
    (.sync cfg.servers (cfg.policies.map (·.upstreamSubset)))).2
  exact ⟨_, hs, rfl, rfl⟩

/-- C03's simulation does not read the cursors -/
theorem clusterWF_cursor {cl : Cluster} (h : ClusterWF cl) (lb : List (Model.Endpoints.Key × Nat)) :
    ClusterWF { cl with ep := { cl.ep with lb := lb } } :=
  have ⟨a, hs, h1, h2⟩ := h
  ⟨a, KG.Lemmas.Endpoints.sim_lb hs lb, h1, h2⟩

/-- a health report is a step of C03's model, which leaves servers and subsets -/
theorem clusterWF_health {cl : Cluster} (h : ClusterWF cl) (ep : Str) (healthy : Bool) :
    ClusterWF { cl with ep := (Model.Endpoints.step cl.ep (.updateStatus ep healthy)).1 } := by
  obtain ⟨a, hsim, hsrv, hpol⟩ := h
  refine ⟨_, (KG.Lemmas.Endpoints.sim_step hsim (.updateStatus ep healthy)).2, ?_, ?_⟩
  · simp only [KG.Spec.Endpoints.absStep]; split <;> exact hsrv
  · simp only [KG.Spec.Endpoints.absStep]; split <;> exact hpol

/-! ## the specification's view of the stages agrees with the model's -/

section Judge
open KG.Spec.Gateway KG.Lemmas.Forward

/-- C04's table looks at a flag only when every earlier gate let the request pass: hence the shape of `hlate` -/
theorem table_congr (a b : Model.Forward.Scenario)
    (h1 : a.requestInfoOK = b.requestInfoOK) (h2 : a.hostIsIP = b.hostIsIP) (h3 : a.clusterKnown = b.clusterKnown)
    (h4 : a.denyAll = b.denyAll) (h5 : a.authOK = b.authOK) (h6 : a.imp = b.imp) (h10 : a.resource = b.resource)
    (hlate : reaches a = true →
      a.policyMatches = b.policyMatches ∧ (a.policyMatches = true → a.acquireOK = b.acquireOK) ∧
      (a.policyMatches = true → a.acquireOK = true → a.popOK = b.popOK)) :
    KG.Spec.Forward.table a = KG.Spec.Forward.table b := by
  rw [← KG.Props.C04.c04_decision_table, ← KG.Props.C04.c04_decision_table, serve_eq, serve_eq, ← h1, ← h2, ← h3, ← h4, ← h5,
    ← h6]
  refine gate_congr rfl fun f1 => gate_congr rfl fun f2 => gate_congr rfl fun f3 => gate_congr rfl fun f4 =>
    gate_congr rfl fun f5 => gate_congr rfl fun f6 => ?_
  cases hip : a.hostIsIP
  · obtain ⟨e7, e8, e9⟩ := hlate (by rw [reaches_eq_gates, f1, f2, f3, f4, f5, f6, hip]; rfl)
    rw [dispatcher_eq, dispatcher_eq, ← h10, ← e7]
    refine gate_congr rfl fun f7 => ?_
    have h7 := (Bool.not_eq_false' _).mp f7
    rw [← e8 h7]
    refine gate_congr rfl fun f8 => ?_
    rw [← e9 h7 ((Bool.not_eq_false' _).mp f8)]
  · rfl

theorem expectId_eq {env : Env} {p : Option Nat} {r : Request} (hv : KG.Lemmas.Identity.rawValid r.lines = true) :
    expectId env p r = (match authenticate env p r with
      | none => .answered 401
      | some u => KG.Spec.Identity.expected r.lines u (env.authz p u)) := by
  rw [expectId, KG.Lemmas.Identity.expectedFor_eq, if_pos hv]
  cases authenticate env p r <;> rfl

theorem expectId_bound (hv : KG.Lemmas.Identity.rawValid r.lines = true) (f : Front env s r b) :
    expectId env (some b.p) r = .forward b.ctxUser := by
  rw [expectId_eq hv, f.authn]
  exact expected_bound hv f

theorem firstPolicy_route (cl : Cluster) (r : Request) (ri : ReqInfo) (u : Model.Identity.Identity) :
    firstPolicy cl ri u = (route cl r ri u).map (·.policy) := by
  unfold route Model.Match.matchAttributes firstPolicy policies
  rw [← KG.Props.C01.c01_first_match]
  cases hm : Model.Match.matchPolicies (attrsOf ri u) (cl.cfg.policies.map (·.rules)) with
  | none => rfl
  | some i =>
    obtain ⟨⟨q, hq, _⟩, _⟩ := KG.Props.C01.c01_first_match_sound _ _ i hm
    rw [List.getElem?_map] at hq
    cases hp : cl.cfg.policies[i]? with
    | none => rw [hp] at hq; cases hq
    | some p => simp only [hp, Option.map_some]

/-- the judge's `eligible`, in the three parts of C03's `Lemmas.Endpoints.eligible_iff` -/
theorem specEligible_iff {cl : Cluster} {n : Str} :
    eligible cl n = true ↔ n ∈ Model.Endpoints.serverNames cl.cfg.servers ∧
      KG.Spec.Endpoints.specDisabled cl.cfg.servers n = false ∧
      ∃ e, Model.Endpoints.load cl.ep.eps n = some e ∧ e.healthy = true := by
  rw [eligible, Bool.and_eq_true, Bool.and_eq_true, Bool.not_eq_true', List.contains_iff_mem, and_assoc]
  refine and_congr_right fun _ => and_congr_right fun _ => ?_
  cases Model.Endpoints.load cl.ep.eps n <;> simp

theorem ready_iff_eligible {cl : Cluster} (hwf : ClusterWF cl) (n : Str) :
    (∃ e, Model.Endpoints.load cl.ep.eps n = some e ∧ e.isReady = true) ↔ eligible cl n = true := by
  obtain ⟨a, hsim, hsrv, _⟩ := hwf
  rw [← KG.Lemmas.Endpoints.sim_eligible_iff hsim, KG.Lemmas.Endpoints.eligible_iff, hsrv, specEligible_iff]
  refine and_congr_right fun hin => and_congr_right fun _ => ?_
  -- the health the endpoint object records is the last report's
  have hdom := hsim.dom n
  rw [KG.Spec.Endpoints.Abs.inServers, hsrv, List.contains_iff_mem.2 hin] at hdom
  obtain ⟨e, he⟩ := Option.isSome_iff_exists.1 hdom
  rw [he, ← (hsim.ep n e he).2.1]
  exact ⟨fun hh => ⟨e, rfl, hh⟩, fun ⟨_, he', hh⟩ => Option.some.inj he' ▸ hh⟩

theorem picked_iff (eps : List Model.Endpoints.EP) (lb : List (Model.Endpoints.Key × Nat)) (us : List Str) :
    (match (Model.Endpoints.pop eps lb us).1 with | .picked _ _ => true | _ => false) = true ↔
      ∃ n, n ∈ us ∧ ∃ e, Model.Endpoints.load eps n = some e ∧ e.isReady = true := by
  rcases KG.Lemmas.Endpoints.pop_cases eps lb us with ⟨h1, _⟩ | ⟨e, _, h1⟩
  · rw [h1]
    simp only [Bool.false_eq_true, false_iff]
    rintro ⟨n, hn, e, hl, hr⟩
    rw [KG.Lemmas.Endpoints.pop_noReady h1 n hn e hl] at hr
    cases hr
  · rw [h1]
    simp only [true_iff]
    obtain ⟨e', hl, _, hn, hr⟩ := KG.Lemmas.Endpoints.pop_sound h1
    exact ⟨_, hn, e', hl, hr⟩

theorem mem_allEndpoints (cl : Cluster) (r : Request) (n : Str) :
    n ∈ allEndpoints cl r ↔ n ∈ cl.ep.eps.map (·.name) := by
  unfold allEndpoints
  simp only
  split
  · rename_i hp
    exact (List.isPerm_iff.mp hp).mem_iff
  · rfl

theorem upstreamsOf_some {cl : Cluster} {i : Nat} {p : Model.Match.PolicyCfg} (hp : cl.cfg.policies[i]? = some p) :
    upstreamsOf cl i = if p.upstreamSubset = [] then Model.Endpoints.dedup (Model.Endpoints.serverNames cl.cfg.servers)
      else p.upstreamSubset := by
  rw [upstreamsOf, hp]

/-- the endpoint map holds exactly the current servers, in whatever order the environment enumerates them -/
theorem upstream_mem_iff {cl : Cluster} (hwf : ClusterWF cl) (r : Request) {p : Model.Match.PolicyCfg} {i : Nat}
    (hp : cl.cfg.policies[i]? = some p) (n : Str) :
    n ∈ (if p.upstreamSubset = [] then allEndpoints cl r else p.upstreamSubset) ↔ n ∈ upstreamsOf cl i := by
  obtain ⟨a, hsim, hsrv, _⟩ := hwf
  rw [upstreamsOf_some hp]
  split
  · rw [mem_allEndpoints, (KG.Lemmas.Endpoints.sim_names_perm hsim).mem_iff, hsrv]
  · rfl

theorem popOK_eq {cl : Cluster} (hwf : ClusterWF cl) (r : Request) (p : Model.Match.PolicyCfg) (i : Nat)
    (hp : cl.cfg.policies[i]? = some p) (lb : List (Model.Endpoints.Key × Nat)) :
    (match (Model.Endpoints.pop cl.ep.eps lb (if p.upstreamSubset = [] then allEndpoints cl r else p.upstreamSubset)).1 with
      | .picked _ _ => true | _ => false) = (upstreamsOf cl i).any (eligible cl) := by
  rw [Bool.eq_iff_iff, picked_iff, List.any_eq_true]
  simp only [ready_iff_eligible hwf]
  exact exists_congr fun n => and_congr_left fun _ => upstream_mem_iff hwf r hp n

theorem picked_eligible {cl : Cluster} (hwf : ClusterWF cl) (r : Request) {p : Model.Match.PolicyCfg} {i : Nat}
    (hp : cl.cfg.policies[i]? = some p) {lb : List (Model.Endpoints.Key × Nat)} {n : Str} {g : Nat}
    (h : (Model.Endpoints.pop cl.ep.eps lb (if p.upstreamSubset = [] then allEndpoints cl r else p.upstreamSubset)).1 =
      .picked n g) :
    eligible cl n = true ∧ n ∈ upstreamsOf cl i := by
  obtain ⟨e, he, _, hmem, hrdy⟩ := KG.Lemmas.Endpoints.pop_sound h
  exact ⟨(ready_iff_eligible hwf n).1 ⟨e, he, hrdy⟩, (upstream_mem_iff hwf r hp n).1 hmem⟩

theorem spec_auth_flags {σ : KG.Spec.LocalLimiter.SState} (hv : KG.Lemmas.Identity.rawValid r.lines = true) :
    (specScenario env s σ r).authOK = (scenario env s r).authOK ∧ (specScenario env s σ r).imp = (scenario env s r).imp := by
  simp only [specScenario, scenario, expectId_eq hv]
  generalize (if r.hostIsIP = true then none else Option.map (fun x => x.fst) (resolveCluster s r)) = p
  cases authenticate env p r with
  | none => exact ⟨rfl, rfl⟩
  | some u =>
    simp only [imp_expected hv]
    cases impersonation env p r u with
    | pass h1 id =>
      refine ⟨by simp, ?_⟩
      simp only [impKind, headersOf_eq hv, KG.Lemmas.Identity.build_nil_iff r.lines hv]
      cases KG.Spec.Identity.impersonationRequested r.lines <;> rfl
    | internalError => exact ⟨by simp, rfl⟩
    | forbidden => exact ⟨by simp, rfl⟩

/-- the third flag only under `acquireOK = true`: `Pop` runs for an admitted request only -/
theorem spec_late_flags {σ : KG.Spec.LocalLimiter.SState} (hrel : KG.Lemmas.LocalLimiter.Rel s.lim σ) (hwf : ClusterWF b.cl)
    (hv : KG.Lemmas.Identity.rawValid r.lines = true) (hb : bound? env s r = some b) :
    (scenario env s r).policyMatches = (specScenario env s σ r).policyMatches ∧
    ((scenario env s r).policyMatches = true → (scenario env s r).acquireOK = (specScenario env s σ r).acquireOK) ∧
    ((scenario env s r).policyMatches = true → (scenario env s r).acquireOK = true →
      (scenario env s r).popOK = (specScenario env s σ r).popOK) := by
  have f := front_of_bound hb
  simp only [specScenario, f.info, f.resolved, f.proxied, Bool.false_eq_true, if_false, Option.map_some, expectId_bound hv f,
    firstPolicy_route b.cl r]
  cases hroute : route b.cl r b.ri b.ctxUser with
  | none =>
    have hd : dispatch env s r = .noPolicy b := by simp only [dispatch, hb, hroute]
    rw [(scenario_noPolicy hd).1]
    exact ⟨rfl, fun h => Bool.noConfusion h, fun h => Bool.noConfusion h⟩
  | some pk =>
    obtain ⟨acq, hacq⟩ := tryAcquire_never_panics ⟨σ, hrel⟩ b.cl.cfg.name (schemaNameOf b.cl pk) r.now
    have hd : dispatch env s r = .done ⟨b, pk, acq,
        if acq.admitted then Model.Endpoints.pop b.cl.ep.eps b.cl.ep.lb pk.upstreams else (.noReady, b.cl.ep.lb)⟩ := by
      simp only [dispatch, hb, hroute, hacq]
    obtain ⟨e7, e8, e9⟩ := scenario_done hd
    obtain ⟨pol, hpol, _, _, _, hups⟩ := route_some hroute
    rw [e7, e8, e9]
    refine ⟨rfl, fun _ => KG.Lemmas.LocalLimiter.acquire_answer hrel (tryAcquire_ok hacq).1, fun _ hq => ?_⟩
    dsimp only at hq ⊢
    rw [if_pos hq, hups]
    exact popOK_eq hwf r pol pk.policy hpol b.cl.ep.lb

theorem table_spec_eq {env : Env} {s : State} {σ : KG.Spec.LocalLimiter.SState} {r : Request}
    (hrel : KG.Lemmas.LocalLimiter.Rel s.lim σ) (hwf : ∀ cl ∈ s.clusters, ClusterWF cl)
    (hp : Model.Identity.parse r.lines ≠ none) :
    KG.Spec.Forward.table (specScenario env s σ r) = KG.Spec.Forward.table (scenario env s r) := by
  have hv := KG.Lemmas.Identity.rawValid_of_parse hp
  obtain ⟨h5, h6⟩ := spec_auth_flags (env := env) (s := s) (σ := σ) hv
  refine (table_congr (scenario env s r) (specScenario env s σ r) rfl rfl rfl rfl h5.symm h6.symm rfl fun hr => ?_).symm
  rw [reaches_scenario] at hr
  obtain ⟨b, hb⟩ := Option.isSome_iff_exists.1 hr
  exact spec_late_flags hrel (hwf _ (List.mem_of_getElem? (front_of_bound hb).cluster)) hv hb

end Judge

/-! ## the property's own demand on Retry-After holds of every row of the table -/

section RetryAfter
open KG.Spec.Forward Model.Forward KG.Lemmas.Forward

theorem demanded_of_none {a : Answer} {fc : Bool} {res : Str} (hra : a.retryAfter = none) (h503 : a.httpCode ≠ 503)
    (h429 : a.httpCode = 429 → fc = false ∨ res = Gen.C04.rateLimitExemptResource) :
    retryAfterDemanded (obsOfAnswer a) fc res = true := by
  refine (if_neg ?_).trans (by rw [obsOfAnswer, hra]; rfl)
  rintro (h | ⟨h, hfc, hres⟩)
  · exact h503 h
  · rcases h429 h with h' | h'
    · rw [h'] at hfc; cases hfc
    · exact hres h'

theorem demanded_of_some {a : Answer} {fc : Bool} {res : Str} {n : Nat} (hra : a.retryAfter = some n) (hn : 0 < n)
    (h : a.httpCode = 503 ∨ (a.httpCode = 429 ∧ fc = true ∧ res ≠ Gen.C04.rateLimitExemptResource)) :
    retryAfterDemanded (obsOfAnswer a) fc res = true := by
  refine (if_pos h).trans ?_
  rw [obsOfAnswer, hra]
  exact decide_eq_true hn

/-- the property's own demand on Retry-After holds of the answer of every gate of the chain (constants ≥ 1): "flow
    controlled" is "the request reached the dispatcher, a policy matched and `TryAcquire` refused" -/
theorem table_retryAfter (sc : Model.Forward.Scenario) (a : Model.Forward.Answer) (h : KG.Spec.Forward.table sc = .terminated a) :
    KG.Spec.Forward.retryAfterDemanded (KG.Spec.Forward.obsOfAnswer a)
      (reaches sc && sc.policyMatches && !sc.acquireOK) sc.resource = true := by
  rw [← KG.Props.C04.c04_decision_table, serve_eq, dispatcher_eq] at h
  -- gate by gate: one that answers gives its row, one that passes leaves the rest
  rcases gate_cases h with ⟨_, rfl⟩ | ⟨f1, h⟩
  · exact demanded_of_none rfl (by decide) (fun h => nomatch h)
  rcases gate_cases h with ⟨_, rfl⟩ | ⟨f2, h⟩
  · exact demanded_of_some rfl KG.Props.C04.unavailableRetryAfter_pos (.inl rfl)
  rcases gate_cases h with ⟨f3, rfl⟩ | ⟨f3, h⟩
  · -- the DenyAllRequests breaker: a 429 that is no flow-control refusal
    refine demanded_of_none rfl (by decide) (fun _ => .inl ?_)
    rw [reaches_eq_gates, f3]; simp
  rcases gate_cases h with ⟨_, rfl⟩ | ⟨f4, h⟩
  · exact demanded_of_none rfl (by decide) (fun h => nomatch h)
  rcases gate_cases h with ⟨_, rfl⟩ | ⟨f5, h⟩
  · exact demanded_of_none rfl (by decide) (fun h => nomatch h)
  rcases gate_cases h with ⟨_, rfl⟩ | ⟨f6, h⟩
  · exact demanded_of_none rfl (by decide) (fun h => nomatch h)
  cases hip : sc.hostIsIP
  · rw [hip] at h
    have hr : reaches sc = true := by rw [reaches_eq_gates, f1, f2, f3, f4, f5, f6, hip]; rfl
    rcases gate_cases h with ⟨_, rfl⟩ | ⟨f7, h⟩
    · exact demanded_of_none rfl (by decide) (fun h => nomatch h)
    rcases gate_cases h with ⟨f8, rfl⟩ | ⟨f8, h⟩
    · have hfc : (reaches sc && sc.policyMatches && !sc.acquireOK) = true := by
        rw [hr, f8, (Bool.not_eq_false' _).mp f7]; rfl
      by_cases hres : sc.resource = Gen.C04.rateLimitExemptResource
      · rw [if_neg (not_not_intro hres)]
        exact demanded_of_none rfl (by decide) (fun _ => .inr hres)
      · rw [if_pos hres]
        exact demanded_of_some rfl KG.Props.C04.retryAfter_pos (.inr ⟨rfl, hfc, hres⟩)
    rcases gate_cases h with ⟨_, rfl⟩ | ⟨_, h⟩
    · exact demanded_of_some rfl KG.Props.C04.unavailableRetryAfter_pos (.inl rfl)
    · cases h
  · rw [hip] at h; cases h

end RetryAfter

/-! ## the token buckets -/

theorem lookup_setBucket (bs : List (Nat × Model.TokenBucket.Bucket)) (id id' : Nat) (b : Model.TokenBucket.Bucket) :
    (setBucket bs id b).lookup id' = if id' = id then some b else bs.lookup id' := by
  simp only [eq_comm (a := id')]
  induction bs with
  | nil => exact lookup_cons_ite ..
  | cons x rest ih =>
    obtain ⟨i, b'⟩ := x
    rw [setBucket]
    split
    · subst i
      rw [lookup_cons_ite, lookup_cons_ite]
      split <;> rfl
    · rename_i hi
      rw [lookup_cons_ite, lookup_cons_ite, ih]
      by_cases h : i = id'
      · subst h; rw [if_pos rfl, if_neg (Ne.symm hi), if_pos rfl]
      · rw [if_neg h, if_neg h]

end KG.Lemmas.Gateway
