import KG.Spec.Forward
import KG.Lemmas.Bytes
/-!
Lemmas for C04. Path: `Encodes P e` is what every stage from `setPath` to `RequestURI()` keeps byte for byte, and
`escapeInvalidPathBytes` makes any accepted path such an `e` (`pathPipeline_exact`). Query: what `Values.Encode` wrote parses back
to `regroup` of the pairs (`parseQuery_encodeQuery`). Headers: every mutation of a header map and the steps of `outHeaders` are read
per name, as equations for `get?` (for `values` where only those are asked for: `xffStep`, `copyHeader`); the equation of
`stripHopByHop` stands in `Props/C04`, behind `c04_hop_list`. Chain: every filter is a `gate`, so `serve` is a nest of gates (`serve_eq`).
-/
namespace KG.Lemmas.Forward
open KG KG.Model.Forward KG.Spec.Forward

/-! ## bytes -/
theorem hexTriplet : ∀ c : UInt8, ishex (upperhex (c >>> 4)) = true ∧ ishex (upperhex (c &&& 15)) = true ∧
    ((unhex (upperhex (c >>> 4)) <<< 4) ||| unhex (upperhex (c &&& 15))) = c :=
  byte_forall (by decide +kernel)

theorem ishex_unreserved : ∀ c : UInt8, ishex c = true → isUnreserved c = true :=
  byte_forall (by decide +kernel)

theorem of_memB {P : UInt8 → Prop} {l : List UInt8} {c : UInt8} (h : memB c l = true) (hl : ∀ x ∈ l, P x) : P c := by
  obtain ⟨x, hx, hc⟩ := List.any_eq_true.1 h
  exact of_decide_eq_true hc ▸ hl x hx

theorem unreserved_noEscape (m : Mode) {c : UInt8} (h : isUnreserved c = true) : shouldEscape c m = false := by
  unfold shouldEscape
  split
  · rfl
  · -- not a letter or digit, so one of `- . _ ~`: the table `shouldEscape` looks up next (in another order)
    rw [isUnreserved, Bool.or_eq_true] at h
    rw [if_pos (of_memB (P := fun x => memB x [45, 95, 46, 126] = true) (h.resolve_left ‹_›) (by decide))]

/-- `%` is escaped in both modes, and so are `+`, `&`, `=`, `;` in a query -/
theorem noEscape {m : Mode} {c : UInt8} (h : shouldEscape c m = false) :
    c ≠ 37 ∧ (m = .query → c ≠ 43 ∧ c ≠ 38 ∧ c ≠ 61 ∧ c ≠ 59) := by
  cases m
  · exact ⟨by rintro rfl; exact absurd h (by decide), nofun⟩
  · refine ⟨?_, fun _ => ⟨?_, ?_, ?_, ?_⟩⟩ <;> rintro rfl <;> exact absurd h (by decide)

theorem valid_of_noEscape {c : UInt8} (h : shouldEscape c .path = false) : validEncodedByte c = true := by
  rw [validEncodedByte, h, Bool.not_false, Bool.or_true]

theorem valid_of_unreserved {c : UInt8} (h : isUnreserved c = true) : validEncodedByte c = true :=
  valid_of_noEscape (unreserved_noEscape .path h)

theorem valid_of_ishex {c : UInt8} (h : ishex c = true) : validEncodedByte c = true :=
  valid_of_unreserved (ishex_unreserved c h)

/-- Both tests accept letters and digits and otherwise look the byte up in tables, so it is enough that the entries of each
    side's tables pass the other side's test (`?` apart, which `shouldEscape` lists and then escapes in a path): some fifty
    evaluations, not a sweep over 256 bytes. -/
theorem pathByteValid_eq (c : UInt8) : pathByteValid c = validEncodedByte c := by
  rw [Bool.eq_iff_iff]
  constructor
  · intro h
    rcases Bool.or_eq_true_iff.1 h with h | h
    · exact valid_of_unreserved (by rw [isUnreserved, h]; rfl)
    · exact of_memB (P := fun x => validEncodedByte x = true) h (by decide +kernel)
  · intro h
    cases ha : isAlnum c
    · rw [validEncodedByte, shouldEscape, ha, if_neg Bool.false_ne_true] at h
      rcases Bool.or_eq_true_iff.1 h with h | h
      · exact of_memB (P := fun x => pathByteValid x = true) h (by decide +kernel)
      · split at h
        · exact of_memB (P := fun x => pathByteValid x = true) ‹_› (by decide +kernel)
        · split at h
          · exact of_memB (P := fun x => (!decide (x = 63)) = true → pathByteValid x = true) ‹_› (by decide +kernel) h
          · cases h
    · rw [pathByteValid, ha]; rfl

/-! ## unescape ∘ escape -/
theorem unescape_pct (m : Mode) {a b : UInt8} (r : Str) (h : (ishex a && ishex b) = true) :
    unescape m (37 :: a :: b :: r) = (unescape m r).map (((unhex a <<< 4) ||| unhex b) :: ·) := by
  rw [unescape, if_pos rfl, if_pos h]

theorem unescape_ne (m : Mode) {c : UInt8} (r : Str) (h : c ≠ 37) :
    unescape m (c :: r) = (unescape m r).map ((if c = 43 ∧ m = .query then 32 else c) :: ·) := by
  rw [unescape.eq_def]; exact if_neg h

theorem unescape_triplet (m : Mode) (c : UInt8) (r : Str) :
    unescape m (37 :: upperhex (c >>> 4) :: upperhex (c &&& 15) :: r) = (unescape m r).map (c :: ·) := by
  have ⟨h1, h2, h3⟩ := hexTriplet c
  rw [unescape_pct m r (by rw [h1, h2]; rfl), h3]

theorem unescape_escape (m : Mode) (s : Str) : unescape m (escape m s) = some s := by
  fun_induction escape m s with
  | case1 => rfl
  | case2 c rest _ hs ih => rw [unescape_ne m _ (by decide), ih, hs.1, if_pos ⟨rfl, hs.2⟩]; rfl
  | case3 c rest _ _ ih => rw [unescape_triplet, ih]; rfl
  | case4 c rest he ih =>
    obtain ⟨h37, hq⟩ := noEscape (show shouldEscape c m = false by simpa using he)
    rw [unescape_ne m _ h37, ih, if_neg (fun h => (hq h.2).1 h.1)]; rfl

theorem unescape_nil_iff (m : Mode) (p : Str) (h : unescape m p = some []) : p = [] := by
  revert h
  fun_cases unescape m p <;> simp

theorem mem_escape {m : Mode} {s : Str} {b : UInt8} (hb : b ∈ escape m s) :
    b = 37 ∨ (b = 43 ∧ m = .query) ∨ shouldEscape b m = false := by
  have hex : ∀ {x}, ishex x = true → shouldEscape x m = false := fun hx => unreserved_noEscape m (ishex_unreserved _ hx)
  fun_induction escape m s with
  | case1 => cases hb
  | case2 c rest _ hs ih =>
    rcases List.mem_cons.1 hb with rfl | hb
    · exact .inr (.inl ⟨rfl, hs.2⟩)
    · exact ih hb
  | case3 c rest _ _ ih =>
    simp only [List.mem_cons] at hb
    rcases hb with rfl | rfl | rfl | hb
    · exact .inl rfl
    · exact .inr (.inr (hex (hexTriplet c).1))
    · exact .inr (.inr (hex (hexTriplet c).2.1))
    · exact ih hb
  | case4 c rest he ih =>
    rcases List.mem_cons.1 hb with rfl | hb
    · exact .inr (.inr (by simpa using he))
    · exact ih hb

theorem escape_valid (P : Str) : validEncoded (escape .path P) = true := by
  refine List.all_eq_true.2 fun b hb => ?_
  rcases mem_escape hb with rfl | h | h
  · rfl
  · cases h.2
  · exact valid_of_noEscape h

/-! ## EscapedPath -/

theorem unescape_escapedPath (u : URLPath) : unescape .path (escapedPath u) = some u.path := by
  unfold escapedPath
  split
  · rename_i h; exact h.2.2
  · split
    · rename_i h; rw [h]; decide
    · exact unescape_escape _ _

theorem prefixSlash_iff {p : Str} : hasPrefixSlash p = true ↔ ∃ r, p = 47 :: r := by
  cases p <;> simp [hasPrefixSlash]

theorem ne_nil_of_prefixSlash {p : Str} (hp : hasPrefixSlash p = true) : p ≠ [] := by
  rintro rfl; cases hp

/-- `e` is an escaped form of the path `P` that net/url keeps as it is -/
structure Encodes (P e : Str) : Prop where
  slash : hasPrefixSlash e = true
  valid : validEncoded e = true
  decodes : unescape .path e = some P

theorem Encodes.path_slash {P e : Str} (h : Encodes P e) : hasPrefixSlash P = true := by
  obtain ⟨r, rfl⟩ := prefixSlash_iff.1 h.slash
  have hd := h.decodes
  rw [unescape_ne _ _ (by decide)] at hd
  cases hr : unescape .path r with
  | none => simp [hr] at hd
  | some R => simp [hr] at hd; subst hd; rfl

theorem escapedPath_encodes {P e : Str} (h : Encodes P e) : escapedPath ⟨P, e⟩ = e :=
  if_pos ⟨ne_nil_of_prefixSlash h.slash, h.valid, h.decodes⟩

theorem escapedPath_nil {P : Str} (hP : hasPrefixSlash P = true) : escapedPath ⟨P, []⟩ = escape .path P := by
  obtain ⟨r, rfl⟩ := prefixSlash_iff.1 hP
  rw [escapedPath, if_neg (fun h => h.1 rfl), if_neg (by simp [kStar])]

theorem escapedPath_setPath {P e : Str} (h : Encodes P e) : escapedPath ⟨P, if e = escape .path P then [] else e⟩ = e := by
  split
  · rename_i he; rw [escapedPath_nil h.path_slash, he]
  · exact escapedPath_encodes h

theorem setPath_path (p P : Str) (h : unescape .path p = some P) :
    setPath p = some ⟨P, if p = escape .path P then [] else p⟩ := by
  unfold setPath; rw [h]

/-! ## the path pipeline -/

theorem requestURIPath_join (u : URLPath) (h : Encodes u.path (escapedPath u)) :
    requestURIPath (joinURLPath ⟨[], []⟩ u) = escapedPath u := by
  have hne := ne_nil_of_prefixSlash h.slash
  obtain ⟨P, q⟩ := u
  unfold joinURLPath
  by_cases h0 : q = []
  · subst h0
    have : singleJoiningSlash [] P = P := by
      rw [singleJoiningSlash, if_neg (fun hc => nomatch hc.1), if_neg (fun hc => hc.2 h.path_slash)]; rfl
    rw [if_pos ⟨rfl, rfl⟩, this, requestURIPath, if_neg hne]
  · have hb : hasPrefixSlash (escapedPath ⟨P, q⟩) = true := h.slash
    rw [if_neg (fun hc => h0 hc.2), if_neg (fun hc => nomatch hc.1), if_neg (fun hc => hc.2 hb)]
    show requestURIPath ⟨P, escapedPath ⟨P, q⟩⟩ = _
    rw [requestURIPath, escapedPath_encodes h, if_neg hne]

theorem pathFromLocation_of_encodes (u : URLPath) (h : Encodes u.path (escapedPath u)) :
    pathFromLocation u = some (escapedPath u) := by
  have hls : locationStringPath u = escapedPath u := by
    rw [locationStringPath]; exact if_neg (fun hc => hc.2 h.slash)
  rw [pathFromLocation, hls, setPath_path _ _ h.decodes]
  -- the trailing-slash rule cannot fire: the re-parsed `Path` is `u.path` itself
  simp only [if_neg (fun hc : ¬ hasSuffixSlash u.path = true ∧ hasSuffixSlash u.path = true => hc.1 hc.2)]
  have hs := escapedPath_setPath h
  rw [requestURIPath_join _ (by rw [hs]; exact h), hs]

/-! ## `escapeInvalidPathBytes` (85b204e) -/

theorem escapeInvalid_nil : escapeInvalidPathBytes [] = [] := rfl

/-- the model's equation, with the regenerated table replaced by net/url's own test (`pathByteValid_eq`) -/
theorem escapeInvalid_cons (c : UInt8) (r : Str) :
    escapeInvalidPathBytes (c :: r) = if validEncodedByte c then c :: escapeInvalidPathBytes r
      else 37 :: upperhex (c >>> 4) :: upperhex (c &&& 15) :: escapeInvalidPathBytes r := by
  rw [escapeInvalidPathBytes, pathByteValid_eq]

theorem escapeInvalid_valid (p : Str) : validEncoded (escapeInvalidPathBytes p) = true := by
  unfold validEncoded
  induction p with
  | nil => rfl
  | cons c rest ih =>
    rw [escapeInvalid_cons]
    split
    · rw [List.all_cons, ih, ‹validEncodedByte c = true›]; rfl
    · simp only [List.all_cons, ih, valid_of_ishex (hexTriplet c).1, valid_of_ishex (hexTriplet c).2.1]; rfl

theorem escapeInvalid_id (p : Str) (hv : validEncoded p = true) : escapeInvalidPathBytes p = p := by
  unfold validEncoded at hv
  induction p with
  | nil => rfl
  | cons c rest ih =>
    rw [List.all_cons, Bool.and_eq_true] at hv
    rw [escapeInvalid_cons, if_pos hv.1, ih hv.2]

theorem escapeInvalid_pct {a b : UInt8} (r : Str) (h : (ishex a && ishex b) = true) :
    escapeInvalidPathBytes (37 :: a :: b :: r) = 37 :: a :: b :: escapeInvalidPathBytes r := by
  rw [Bool.and_eq_true] at h
  rw [escapeInvalid_cons, if_pos (by decide), escapeInvalid_cons, if_pos (valid_of_ishex h.1),
    escapeInvalid_cons, if_pos (valid_of_ishex h.2)]

theorem unescape_escapeInvalid {p P : Str} (h : unescape .path p = some P) :
    unescape .path (escapeInvalidPathBytes p) = some P := by
  revert P
  fun_induction unescape .path p with
  | case1 => exact fun h => h
  | case2 a b r hh ih =>
    intro P h
    obtain ⟨R, hR, rfl⟩ := Option.map_eq_some_iff.1 h
    rw [escapeInvalid_pct r hh, unescape_pct _ _ hh, ih hR]; rfl
  | case3 | case4 => exact fun h => nomatch h
  | case5 c r hc ih =>
    intro P h
    obtain ⟨R, hR, rfl⟩ := Option.map_eq_some_iff.1 h
    rw [escapeInvalid_cons]
    split
    · rw [unescape_ne _ _ hc, ih hR]; rfl
    · rw [unescape_triplet, ih hR, if_neg (fun hq => nomatch hq.2)]; rfl

theorem encodes_escapeInvalid {p P : Str} (hp : hasPrefixSlash p = true) (h : unescape .path p = some P) :
    Encodes P (escapeInvalidPathBytes p) := by
  refine ⟨?_, escapeInvalid_valid p, unescape_escapeInvalid h⟩
  obtain ⟨r, rfl⟩ := prefixSlash_iff.1 hp
  rfl

/-- `hp`, `h`: every path the server accepts -/
theorem pathPipeline_exact (p P : Str) (hp : hasPrefixSlash p = true) (h : unescape .path p = some P) :
    pathPipeline p = some (escapeInvalidPathBytes p) := by
  have he := encodes_escapeInvalid hp h
  -- if `setPath` cleared `RawPath`, `p` is net/url's own encoding of `P`, hence valid and left alone by `escapeInvalidPathBytes`
  have hloc : escapedPath ⟨P, escapeInvalidPathBytes (if p = escape .path P then [] else p)⟩ = escapeInvalidPathBytes p := by
    split
    · rename_i hpe
      rw [escapeInvalid_nil, escapedPath_nil he.path_slash, escapeInvalid_id p (hpe ▸ escape_valid P), ← hpe]
    · exact escapedPath_encodes he
  rw [pathPipeline, setPath_path p P h]
  show pathFromLocation ⟨P, _⟩ = _
  rw [pathFromLocation_of_encodes _ (by rw [hloc]; exact he), hloc]

theorem rfcNorm_pct {a b : UInt8} (r : Str) (h : (ishex a && ishex b) = true) :
    rfcNorm (37 :: a :: b :: r) =
      if isUnreserved ((unhex a <<< 4) ||| unhex b) then ((unhex a <<< 4) ||| unhex b) :: rfcNorm r
      else 37 :: upperhex (((unhex a <<< 4) ||| unhex b) >>> 4) :: upperhex (((unhex a <<< 4) ||| unhex b) &&& 15) :: rfcNorm r := by
  rw [rfcNorm, if_pos rfl, if_pos h]

theorem rfcNorm_ne {c : UInt8} (r : Str) (h : c ≠ 37) :
    rfcNorm (c :: r) = if validEncodedByte c then c :: rfcNorm r
      else 37 :: upperhex (c >>> 4) :: upperhex (c &&& 15) :: rfcNorm r := by
  rw [rfcNorm.eq_def]; exact if_neg h

/-- escaping a byte that may not appear raw is what the RFC 3986 normal form does itself -/
theorem rfcNorm_escapeInvalid {p P : Str} (h : unescape .path p = some P) :
    rfcNorm (escapeInvalidPathBytes p) = rfcNorm p := by
  revert P
  fun_induction unescape .path p with
  | case1 => exact fun _ => rfl
  | case2 a b r hh ih =>
    intro P h
    obtain ⟨R, hR, -⟩ := Option.map_eq_some_iff.1 h
    rw [escapeInvalid_pct r hh, rfcNorm_pct _ hh, rfcNorm_pct _ hh, ih hR]
  | case3 | case4 => exact fun h => nomatch h
  | case5 c r hc ih =>
    intro P h
    obtain ⟨R, hR, -⟩ := Option.map_eq_some_iff.1 h
    have ⟨h1, h2, h3⟩ := hexTriplet c
    rw [escapeInvalid_cons, rfcNorm_ne r hc]
    split
    · rw [rfcNorm_ne _ hc, if_pos ‹_›, ih hR]
    · rw [rfcNorm_pct _ (by rw [h1, h2]; rfl), h3, if_neg (fun hu => ‹¬ _› (valid_of_unreserved hu)), ih hR]

/-! ## query -/
theorem escape_query_safe {s : Str} {b : UInt8} (hb : b ∈ escape .query s) : b ≠ 38 ∧ b ≠ 61 ∧ b ≠ 59 := by
  rcases mem_escape hb with rfl | h | h
  · decide
  · rw [h.1]; decide
  · exact ((noEscape h).2 rfl).2

theorem splitOn_cons_eq (sep : UInt8) (r : Str) : splitOn sep (sep :: r) = [] :: splitOn sep r := by
  rw [splitOn, if_pos rfl]

theorem splitOn_cons_ne (sep c : UInt8) (r s : Str) (ss : List Str) (h : c ≠ sep) (hs : splitOn sep r = s :: ss) :
    splitOn sep (c :: r) = (c :: s) :: ss := by
  rw [splitOn, if_neg h, hs]

theorem splitOn_append (sep : UInt8) (a t s : Str) (ss : List Str) (h : sep ∉ a) (hs : splitOn sep t = s :: ss) :
    splitOn sep (a ++ t) = (a ++ s) :: ss := by
  induction a with
  | nil => exact hs
  | cons c a ih =>
    rw [List.mem_cons, not_or] at h
    exact splitOn_cons_ne sep c _ _ _ (Ne.symm h.1) (ih h.2)

theorem splitOn_joinWith (sep : UInt8) (segs : List Str) (hne : segs ≠ []) (h : ∀ s ∈ segs, sep ∉ s) :
    splitOn sep (joinWith [sep] segs) = segs := by
  induction segs with
  | nil => exact absurd rfl hne
  | cons x rest ih =>
    cases rest with
    | nil => simpa [joinWith] using splitOn_append sep x [] [] [] (h x (by simp)) rfl
    | cons y rest' =>
      rw [joinWith, List.append_assoc, List.singleton_append,
        splitOn_append sep x _ [] _ (h x (by simp)) (splitOn_cons_eq sep _), List.append_nil,
        ih (by simp) (fun s hs => h s (List.mem_cons_of_mem _ hs))]

theorem cut_append (sep : UInt8) (a t : Str) (h : sep ∉ a) : cut sep (a ++ t) = (a ++ (cut sep t).1, (cut sep t).2) := by
  induction a with
  | nil => rfl
  | cons c a ih =>
    rw [List.mem_cons, not_or] at h
    rw [List.cons_append, cut, if_neg (Ne.symm h.1), ih h.2]; rfl

theorem mem_encPair {k v : Str} {b : UInt8} (hb : b ∈ encPair k v) : b ≠ 38 ∧ b ≠ 59 := by
  simp only [encPair, List.mem_append, List.mem_singleton] at hb
  rcases hb with (hb | rfl) | hb
  · have ⟨h38, _, h59⟩ := escape_query_safe hb
    exact ⟨h38, h59⟩
  · decide
  · have ⟨h38, _, h59⟩ := escape_query_safe hb
    exact ⟨h38, h59⟩

theorem parsePair_encPair (k v : Str) : parsePair (encPair k v) = some (k, v) := by
  have h59 : memB 59 (encPair k v) = false := by
    rw [memB, List.any_eq_false]
    exact fun b hb => by simpa using (mem_encPair hb).2
  have hcut : cut 61 (encPair k v) = (escape .query k, escape .query v) := by
    rw [encPair, List.append_assoc, List.singleton_append, cut_append 61 _ _ (fun hm => (escape_query_safe hm).2.1 rfl),
      cut, if_pos rfl, List.append_nil]
  rw [parsePair, if_neg (by simp [h59]), if_neg (by simp [encPair]), hcut]
  simp only [unescape_escape]

/-- the pairs of a map in the order `Encode` writes them: by sorted key, each key's values in order -/
def regroup (ps : List (Str × Str)) : List (Str × Str) :=
  (sortedKeys ps).flatMap fun k => (valuesOf k ps).map fun v => (k, v)

theorem parseQuery_encodeQuery (ps : List (Str × Str)) : parseQuery (encodeQuery ps) = regroup ps := by
  have hback : ∀ l : List (Str × Str), (l.map fun e => encPair e.1 e.2).filterMap parsePair = l := by
    intro l; induction l <;> simp_all [parsePair_encPair]
  have henc : encodeQuery ps = joinWith [38] ((regroup ps).map fun e => encPair e.1 e.2) := by
    simp [encodeQuery, regroup, List.map_flatMap, Function.comp_def]
  rw [henc, parseQuery]
  by_cases hnil : regroup ps = []
  · rw [hnil]; rfl
  · rw [splitOn_joinWith 38 _ (by simpa using hnil), hback]
    intro s hs
    obtain ⟨e, _, rfl⟩ := List.mem_map.1 hs
    exact fun hm => (mem_encPair hm).1 rfl

theorem insSorted_perm (k : Str) (l : List Str) : (insSorted k l).Perm (k :: l) := by
  induction l with
  | nil => exact .refl _
  | cons y ys ih =>
    rw [insSorted]
    split
    · exact .refl _
    · exact (ih.cons y).trans (.swap k y ys)

theorem mem_insertKey (k x : Str) (l : List Str) : x ∈ insertKey k l ↔ x = k ∨ x ∈ l := by
  rw [insertKey]
  split
  · exact ⟨.inr, fun h => h.elim (· ▸ ‹k ∈ l›) id⟩
  · rw [(insSorted_perm k l).mem_iff, List.mem_cons]

theorem nodup_insertKey (k : Str) (l : List Str) (hl : l.Nodup) : (insertKey k l).Nodup := by
  rw [insertKey]
  split
  · exact hl
  · exact (insSorted_perm k l).nodup_iff.2 (List.nodup_cons.2 ⟨‹_›, hl⟩)

theorem mem_sortedKeys (k : Str) (ps : List (Str × Str)) : k ∈ sortedKeys ps ↔ k ∈ ps.map (·.1) := by
  induction ps with
  | nil => rfl
  | cons e ps ih => rw [sortedKeys, List.foldr_cons, mem_insertKey, ← sortedKeys, ih, List.map_cons, List.mem_cons]

theorem nodup_sortedKeys (ps : List (Str × Str)) : (sortedKeys ps).Nodup := by
  induction ps with
  | nil => exact .nil
  | cons e ps ih => exact nodup_insertKey _ _ ih

theorem valuesOf_append (k : Str) (a b : List (Str × Str)) : valuesOf k (a ++ b) = valuesOf k a ++ valuesOf k b := by
  simp [valuesOf]

theorem valuesOf_map_pair (k x : Str) (vs : List Str) : valuesOf k (vs.map fun v => (x, v)) = if x = k then vs else [] := by
  split <;> simp_all [valuesOf, List.filter_map, Function.comp_def]

theorem valuesOf_flatMap (k : Str) (vals : Str → List Str) (ks : List Str) (hks : ks.Nodup) :
    valuesOf k (ks.flatMap fun k' => (vals k').map fun v => (k', v)) = if k ∈ ks then vals k else [] := by
  induction ks with
  | nil => rfl
  | cons x xs ih =>
    rw [List.nodup_cons] at hks
    rw [List.flatMap_cons, valuesOf_append, valuesOf_map_pair, ih hks.2]
    by_cases hkx : x = k
    · subst hkx; simp [hks.1]
    · simp [hkx, Ne.symm hkx]

theorem valuesOf_regroup (k : Str) (ps : List (Str × Str)) : valuesOf k (regroup ps) = valuesOf k ps := by
  rw [regroup, valuesOf_flatMap k (fun k' => valuesOf k' ps) _ (nodup_sortedKeys ps)]
  split
  · rfl
  · rename_i h
    rw [mem_sortedKeys, List.mem_map] at h
    symm
    simp only [valuesOf, List.map_eq_nil_iff, List.filter_eq_nil_iff, decide_eq_true_eq]
    exact fun e he hk => h ⟨e, he, hk⟩

/-! ## header maps -/
/-- `Hdr.get?` tests `k' = k`; turned round here, once, so that the equations below read `if k = k'` as the judges do -/
theorem get?_cons (k' : Str) (vv : List Str) (rest : Hdr) (k : Str) :
    Hdr.get? ((k', vv) :: rest) k = if k = k' then some vv else Hdr.get? rest k := by
  rw [Hdr.get?]; exact ite_congr (propext eq_comm) (fun _ => rfl) (fun _ => rfl)

theorem get?_nil (k : Str) : Hdr.get? [] k = none := by rw [Hdr.get?]

theorem values_eq (h : Hdr) (k : Str) : h.values k = (h.get? k).getD [] := rfl

theorem get?_filter (q : Str → Bool) (h : Hdr) (k : Str) :
    Hdr.get? (h.filter fun e => q e.1) k = if q k then h.get? k else none := by
  induction h with
  | nil => rw [List.filter_nil, get?_nil, ite_self]
  | cons e rest ih =>
    obtain ⟨x, vv⟩ := e
    rw [List.filter_cons, get?_cons]
    by_cases hk : k = x
    · subst hk
      cases hq : q k
      · rw [if_neg Bool.false_ne_true, ih, hq]; rfl
      · rw [if_pos rfl, get?_cons, if_pos rfl, if_pos rfl, if_pos rfl]
    · rw [if_neg hk, ← ih]
      split
      · rw [get?_cons, if_neg hk]
      · rfl

theorem get?_del (h : Hdr) (k k' : Str) : (h.del k').get? k = if k = k' then none else h.get? k := by
  rw [Hdr.del, get?_filter (fun x => decide (x ≠ k'))]
  by_cases hk : k = k' <;> simp [hk]

theorem get?_append (h1 h2 : Hdr) (k : Str) : (h1 ++ h2).get? k = (h1.get? k).or (h2.get? k) := by
  induction h1 with
  | nil => rw [List.nil_append, get?_nil, Option.none_or]
  | cons e rest ih =>
    rw [List.cons_append, get?_cons, get?_cons, ih]
    split <;> rfl

theorem get?_set (h : Hdr) (k k' v : Str) : (h.set k' v).get? k = if k = k' then some [v] else h.get? k := by
  rw [Hdr.set, get?_append, get?_del, get?_cons, get?_nil]
  split
  · rfl
  · exact Option.or_none

theorem get?_delAll (ks : List Str) (h : Hdr) (k : Str) : (delAll ks h).get? k = if k ∈ ks then none else h.get? k := by
  induction ks generalizing h with
  | nil => simp [delAll]
  | cons x xs ih =>
    show (delAll xs (h.del x)).get? k = _
    rw [ih, get?_del]
    by_cases hx : k = x
    · simp [hx]
    · by_cases hxs : k ∈ xs <;> simp [hx, hxs]

theorem get?_add (h : Hdr) (k k' v : Str) :
    (h.add k' v).get? k = if k = k' then some (h.values k ++ [v]) else h.get? k := by
  fun_induction Hdr.add h k' v with
  | case1 => rw [get?_cons, get?_nil]; rfl
  | case2 k' vv rest v =>
    rw [get?_cons, values_eq, get?_cons]
    split <;> rfl
  | case3 x vv rest k' v hx ih =>
    rw [get?_cons, ih, values_eq, values_eq, get?_cons]
    by_cases hk : k = x
    · simp only [if_pos hk, if_neg (hk ▸ hx : ¬k = k')]
    · simp only [if_neg hk]

theorem values_add (h : Hdr) (k k' v : Str) :
    (h.add k' v).values k = if k = k' then h.values k ++ [v] else h.values k := by
  rw [values_eq, get?_add]
  split <;> rfl

theorem keys_add (h : Hdr) (k v : Str) : (h.add k v).keys = if k ∈ h.keys then h.keys else h.keys ++ [k] := by
  fun_induction Hdr.add h k v with
  | case1 => rfl
  | case2 k vv rest v => exact (if_pos (List.mem_cons_self ..)).symm
  | case3 x vv rest k v hx ih =>
    show x :: (Hdr.add rest k v).keys = if k ∈ x :: Hdr.keys rest then x :: Hdr.keys rest else x :: Hdr.keys rest ++ [k]
    rw [ih]
    by_cases hk : k ∈ Hdr.keys rest
    · rw [if_pos hk, if_pos (List.mem_cons_of_mem x hk)]
    · rw [if_neg hk, if_neg (fun hm => (List.mem_cons.1 hm).elim (Ne.symm hx) hk)]; rfl

theorem nodup_keys_add (h : Hdr) (k v : Str) (hn : h.keys.Nodup) : (h.add k v).keys.Nodup := by
  rw [keys_add]
  split
  · exact hn
  · rename_i hk
    refine List.nodup_append.2 ⟨hn, by simp, fun a ha b hb => ?_⟩
    rw [List.mem_singleton.1 hb]
    rintro rfl
    exact hk ha

theorem parseHeaders_induction {P : Hdr → Prop} (h0 : P []) (hadd : ∀ h k v, P h → P (h.add k v))
    (lines : List (Str × Str)) : P (parseHeaders lines) := by
  suffices ∀ h, P h → P (lines.foldl (fun h l => h.add (canonKey l.1) l.2) h) from this [] h0
  induction lines with
  | nil => exact fun _ hp => hp
  | cons l ls ih => exact fun h hp => ih _ (hadd h _ _ hp)

theorem nodup_keys_parseHeaders (lines : List (Str × Str)) : (parseHeaders lines).keys.Nodup :=
  parseHeaders_induction .nil nodup_keys_add lines

theorem nodup_keys_del (h : Hdr) (k : Str) (hn : h.keys.Nodup) : (h.del k).keys.Nodup :=
  List.Nodup.sublist (List.Sublist.map _ List.filter_sublist) hn

theorem nodup_keys_delAll (ks : List Str) (h : Hdr) (hn : h.keys.Nodup) : (delAll ks h).keys.Nodup := by
  induction ks generalizing h with
  | nil => exact hn
  | cons x xs ih => exact ih _ (nodup_keys_del h x hn)

theorem nodup_upstreamResponseHeaders (lines : List (Str × Str)) : (upstreamResponseHeaders lines).keys.Nodup := by
  unfold upstreamResponseHeaders transportResponseHeaders
  split
  · exact nodup_keys_del _ _ (nodup_keys_parseHeaders lines)
  · exact nodup_keys_parseHeaders lines

/-- every key of a well-formed header map has at least one value -/
def WF (h : Hdr) : Prop := ∀ k, h.get? k ≠ some []

theorem wf_add (h : Hdr) (k v : Str) (hw : WF h) : WF (h.add k v) := by
  intro x
  rw [get?_add]
  split
  · simp
  · exact hw x

theorem wf_parseHeaders (lines : List (Str × Str)) : WF (parseHeaders lines) :=
  parseHeaders_induction (fun k => by rw [get?_nil]; exact nofun) wf_add lines

theorem wf_del (h : Hdr) (k : Str) (hw : WF h) : WF (h.del k) := by
  intro x
  rw [get?_del]
  split
  · exact nofun
  · exact hw x

theorem get?_none_of_not_key (h : Hdr) (k : Str) (hk : k ∉ h.keys) : h.get? k = none := by
  induction h with
  | nil => exact get?_nil k
  | cons e rest ih =>
    rw [Hdr.keys, List.map_cons, List.mem_cons, not_or] at hk
    rw [get?_cons, if_neg hk.1, ih hk.2]

theorem values_foldl_add (x : Str) (vv : List Str) (d : Hdr) (k : Str) :
    (vv.foldl (fun d v => d.add x v) d).values k = if k = x then d.values k ++ vv else d.values k := by
  induction vv generalizing d with
  | nil => simp
  | cons v vs ih =>
    rw [List.foldl_cons, ih, values_add]
    split <;> simp

theorem values_copyHeader (dst src : Hdr) (k : Str) (hn : src.keys.Nodup) :
    (copyHeader dst src).values k = dst.values k ++ src.values k := by
  unfold copyHeader
  induction src generalizing dst with
  | nil => simp [values_eq, get?_nil]
  | cons e rest ih =>
    obtain ⟨x, vv⟩ := e
    rw [Hdr.keys, List.map_cons, List.nodup_cons] at hn
    rw [List.foldl_cons, ih _ hn.2, values_foldl_add, values_eq ((x, vv) :: rest), get?_cons]
    by_cases hk : k = x
    · subst hk
      rw [if_pos rfl, if_pos rfl, values_eq rest, get?_none_of_not_key rest k hn.1, List.append_assoc]; simp
    · rw [if_neg hk, if_neg hk]; rfl

/-! ## the steps of `outHeaders` -/
theorem get?_director (h : Hdr) (k : Str) :
    (director h).get? k = if k = kUserAgent ∧ h.get? kUserAgent = none then some [[]] else h.get? k := by
  rw [director]
  cases hu : h.get? kUserAgent with
  | none => rw [Option.isSome_none, if_neg nofun, get?_set]; simp
  | some v => rw [Option.isSome_some, if_pos rfl, if_neg (fun hc => nomatch hc.2)]

theorem values_director_connection (h : Hdr) : (director h).values kConnection = h.values kConnection := by
  rw [values_eq, get?_director, if_neg (fun hc => absurd hc.1 (by decide))]; rfl

theorem get?_teStep (h out : Hdr) (k : Str) :
    (teStep h out).get? k =
      if k = kTe ∧ headerValuesContainsToken (h.values kTe) kTrailers = true then some [kTrailers] else out.get? k := by
  rw [teStep]
  split
  · rw [get?_set]; simp [*]
  · simp [*]

theorem values_xffStep (m : Hdr) (ip : Option Str) (k : Str) (hw : m.get? kXFF ≠ some []) :
    (xffStep m ip).values k =
      if k = kXFF then
        match ip with
        | none => m.values kXFF
        | some ip =>
          match m.values kXFF with
          | [] => [ip]
          | p :: ps => [joinWith kCommaSpace (p :: ps) ++ kCommaSpace ++ ip]
      else m.values k := by
  cases ip with
  | none => split <;> simp [xffStep, *]
  | some ip =>
    rw [xffStep, values_eq m]
    cases hv : m.get? kXFF with
    | none => simp only [values_eq, get?_set]; split <;> simp [*]
    | some vs =>
      cases vs with
      | nil => exact absurd hv hw
      | cons p ps => simp only [values_eq, get?_set]; split <;> simp [*]

/-! ## upgrade requests -/
theorem isPrefixOfB_append (sub t : Str) : isPrefixOfB sub (sub ++ t) = true := by
  induction sub with
  | nil => simp [isPrefixOfB]
  | cons a as ih => simp [isPrefixOfB, ih]

theorem containsSub_of_infix (sub l : Str) (h : sub <:+: l) : containsSub sub l = true := by
  obtain ⟨s, t, rfl⟩ := h
  induction s with
  | nil =>
    rw [List.nil_append]
    cases hl : sub ++ t with
    | nil => rw [containsSub, ← hl, isPrefixOfB_append]
    | cons c r => rw [containsSub, ← hl, isPrefixOfB_append, Bool.true_or]
  | cons c s ih => rw [List.cons_append, List.cons_append, containsSub, ih, Bool.or_true]

theorem splitOn_pieces (sep : UInt8) (v : Str) :
    ∃ s ss, splitOn sep v = s :: ss ∧ s <+: v ∧ ∀ p ∈ ss, p <:+: v := by
  induction v with
  | nil => exact ⟨[], [], rfl, List.prefix_refl _, nofun⟩
  | cons c r ih =>
    obtain ⟨s, ss, hs, hpre, hin⟩ := ih
    have hr : ∀ p ∈ s :: ss, p <:+: c :: r := fun p hp =>
      ((List.mem_cons.1 hp).elim (· ▸ hpre.isInfix) (hin p)).trans (List.suffix_cons c r).isInfix
    by_cases hc : c = sep
    · exact ⟨[], s :: ss, by rw [hc, splitOn_cons_eq, hs], List.nil_prefix, hr⟩
    · exact ⟨c :: s, ss, splitOn_cons_ne sep c r s ss hc hs, List.cons_prefix_cons.2 ⟨rfl, hpre⟩,
        fun p hp => hr p (List.mem_cons_of_mem _ hp)⟩

theorem splitOn_mem_infix (sep : UInt8) (v part : Str) (h : part ∈ splitOn sep v) : part <:+: v := by
  obtain ⟨s, ss, hs, hpre, hin⟩ := splitOn_pieces sep v
  rw [hs] at h
  exact (List.mem_cons.1 h).elim (· ▸ hpre.isInfix) (hin part)

theorem trimOWS_infix (s : Str) : trimOWS s <:+: s := by
  have h2 : ((s.dropWhile isOWS).reverse.dropWhile isOWS) <:+ (s.dropWhile isOWS).reverse := List.dropWhile_suffix _
  have h3 : trimOWS s <+: s.dropWhile isOWS := by simpa [trimOWS] using List.reverse_prefix.mpr h2
  exact h3.isInfix.trans (List.dropWhile_suffix _).isInfix

theorem tokenEqual_lowerStr (t1 t2 : Str) (h : tokenEqual t1 t2 = true) : lowerStr t1 = lowerStr t2 := by
  rw [tokenEqual, Bool.and_eq_true, decide_eq_true_eq] at h
  obtain ⟨hl, hz⟩ := h
  induction t1 generalizing t2 with
  | nil => cases t2 with | nil => rfl | cons => cases hl
  | cons a as ih =>
    cases t2 with
    | nil => cases hl
    | cons b bs =>
      simp only [List.zip_cons_cons, List.all_cons, Bool.and_eq_true, decide_eq_true_eq] at hz
      show lowerB a :: lowerStr as = lowerB b :: lowerStr bs
      rw [hz.1.2, ih bs (Nat.succ.inj hl) hz.2]

/-- a `Connection` token equal to `Upgrade` up to case is, lower-cased, an infix of the lower-cased value — which is all
    `httpstream.IsUpgradeRequest` looks for -/
theorem no_upgrade_token_of_not_upgrade (h : Hdr) (hu : isUpgradeRequest h = false) :
    headerValuesContainsToken (h.values kConnection) kUpgrade = false := by
  rw [isUpgradeRequest, List.any_eq_false] at hu
  rw [headerValuesContainsToken, List.any_eq_false]
  intro v hv hc
  obtain ⟨part, hp, ht⟩ := List.any_eq_true.1 hc
  have h1 : trimOWS part <:+: v := (trimOWS_infix part).trans (splitOn_mem_infix 44 v part hp)
  have h2 : lowerStr (trimOWS part) <:+: lowerStr v := List.IsInfix.map _ h1
  rw [tokenEqual_lowerStr _ _ ht] at h2
  exact hu v hv (containsSub_of_infix _ _ h2)

/-! ## the filter chain -/

/-- what every filter of the chain is made of, in the form the Go code, the model and the table of `KG.Spec.Forward` have -/
def gate (fail : Bool) (a : Answer) (next : Outcome) : Outcome := if fail then .terminated a else next

theorem gate_eq_iff {fail : Bool} {a : Answer} {next o : Outcome} (ho : ∀ a, o ≠ .terminated a) :
    gate fail a next = o ↔ fail = false ∧ next = o := by
  cases fail
  · exact ⟨fun h => ⟨rfl, h⟩, fun h => h.2⟩
  · exact ⟨fun h => absurd h.symm (ho _), fun h => nomatch h.1⟩

theorem gate_cases {fail : Bool} {a b : Answer} {next : Outcome} (h : gate fail a next = .terminated b) :
    (fail = true ∧ b = a) ∨ (fail = false ∧ next = .terminated b) := by
  cases fail
  · exact .inr ⟨rfl, h⟩
  · exact .inl ⟨rfl, (Outcome.terminated.inj h).symm⟩

theorem gate_congr {fail fail' : Bool} {a : Answer} {next next' : Outcome} (hf : fail = fail')
    (hn : fail = false → next = next') : gate fail a next = gate fail' a next' := by
  subst hf
  cases fail
  · exact hn rfl
  · rfl

theorem withRequestInfo_eq (s : Scenario) (next : Outcome) :
    withRequestInfo s next = gate (!s.requestInfoOK) (errorNegotiated newInternalError none) next := rfl

theorem withUpstreamInfo_eq (s : Scenario) (next : Outcome) :
    withUpstreamInfo s next = gate (!s.hostIsIP && !s.clusterKnown) (terminateWithError newServiceUnavailable)
      (gate (!s.hostIsIP && s.denyAll) (terminateWithError (newTooManyRequests 0)) next) := by
  rw [withUpstreamInfo]; cases s.hostIsIP <;> rfl

theorem withAuthentication_eq (s : Scenario) (next : Outcome) :
    withAuthentication s next = gate (!s.authOK) (errorNegotiated newUnauthorized none) next := by
  rw [withAuthentication]; cases s.authOK <;> rfl

theorem withImpersonation_eq (s : Scenario) (next : Outcome) :
    withImpersonation s next = gate (s.imp == .malformed) (errorNegotiated newInternalError none)
      (gate (s.imp == .refused) (errorNegotiated newForbidden none) next) := by
  rw [withImpersonation]; cases s.imp <;> rfl

theorem dispatcher_eq (s : Scenario) :
    dispatcher s = gate (!s.policyMatches) (terminateWithError newInternalError)
      (gate (!s.acquireOK) (terminateWithError (newTooManyRequests
          (if s.resource ≠ Gen.C04.rateLimitExemptResource then Gen.C04.retryAfter else 0)))
        (gate (!s.popOK) (terminateWithError newServiceUnavailable) .forward)) := rfl

theorem serve_eq (s : Scenario) :
    serve s = gate (!s.requestInfoOK) (errorNegotiated newInternalError none)
      (gate (!s.hostIsIP && !s.clusterKnown) (terminateWithError newServiceUnavailable)
      (gate (!s.hostIsIP && s.denyAll) (terminateWithError (newTooManyRequests 0))
      (gate (!s.authOK) (errorNegotiated newUnauthorized none)
      (gate (s.imp == .malformed) (errorNegotiated newInternalError none)
      (gate (s.imp == .refused) (errorNegotiated newForbidden none)
      (if s.hostIsIP then .notProxied else dispatcher s)))))) := by
  rw [serve, withRequestInfo_eq, withUpstreamInfo_eq, withAuthentication_eq, withImpersonation_eq, withDispatcher]

end KG.Lemmas.Forward
