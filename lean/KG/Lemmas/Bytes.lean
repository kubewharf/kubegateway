/-! Facts about single bytes are finite: they are checked on the 256 numerals. -/
namespace KG.Lemmas

/-- The hypothesis is a closed `Bool` computation, so `byte_forall (by decide +kernel)` evaluates it once, in the kernel; plain
    `decide` would first evaluate the 256 `Decidable` instances in the elaborator, which costs several times as much and needs a
    raised recursion limit. -/
theorem byte_forall {P : UInt8 → Prop} [DecidablePred P]
    (h : (List.range 256).all (fun n => decide (P (UInt8.ofNat n))) = true) : ∀ c, P c := by
  intro c
  have := List.all_eq_true.1 h c.toNat (List.mem_range.2 c.toNat_lt)
  simpa using this

end KG.Lemmas
