import KG.Spec.AuthCache
/-!
# Lemmas for C12

`Inv env s`: every cache entry is what the oracle of `cid.inst`, the cluster instance its cache object was created for,
said at `storedAt`, kept for that answer's TTL; a request in flight only holds a cache object of its own `(host, inst)`.
Every step function is analysed once (`*_advances`, `*Begin_good`): its result is `Good`, i.e. the new state is `Later`
(which keeps `Inv`) and every answer is `OutOK`; hence `run_outOK` for every run. `Advances` also says that the step meant
for a request's stage brings it forward, so an uninterrupted request is answered exactly once (`Chain.run`).
-/
namespace KG.Lemmas.AuthCache
open KG KG.Model.AuthCache KG.Spec.AuthCache

/-! ## facts read from the source -/

theorem cacheErrs_false : cacheErrs = false := by decide

theorem decisionOnError_deny : decisionOnError = .deny := by decide

/-! ## invariant -/

def TokEntryOK (env : Env) (clock : Time) (x : CacheId × Str × TokEntry) : Prop :=
  x.2.2.ans = env.tokO x.1.inst x.2.1 x.2.2.storedAt ∧ x.2.2.storedAt ≤ clock ∧
    x.2.2.expiry = x.2.2.storedAt + tokTTL env.cfg x.2.2.ans ∧ (x.2.2.ans = .err → cacheErrs = true)

def SarEntryOK (env : Env) (clock : Time) (x : CacheId × Spec × SarEntry) : Prop :=
  env.sarO x.1.inst x.2.1 x.2.2.storedAt = .status x.2.2.st ∧ x.2.2.storedAt ≤ clock ∧
    x.2.2.expiry = x.2.2.storedAt + sarTTL env.cfg x.2.2.st

def tokCid? : TokStage → Option CacheId
  | .resolved => none
  | .haveCache c => some c
  | .missed c => c
  | .inFlight c _ _ => c

def sarCid? : SarStage → Option CacheId
  | .resolved => none
  | .haveCache c => some c
  | .inFlight c => some c

/-- the id is below `nextRid`, so a request that begins with a fresh id is none of the pending ones; the cache object held is
    one of the request's own `(host, inst)` -/
def TokPendOK (n : Rid) (p : TokPend) : Prop :=
  p.rid < n ∧ ∀ cid, tokCid? p.stage = some cid → cid.host = p.host ∧ cid.inst = p.inst

def SarPendOK (n : Rid) (p : SarPend) : Prop :=
  p.rid < n ∧ ∀ cid, sarCid? p.stage = some cid → cid.host = p.host ∧ cid.inst = p.inst

structure Inv (env : Env) (s : State) : Prop where
  tokE : ∀ x ∈ s.tokEntries, TokEntryOK env s.clock x
  sarE : ∀ x ∈ s.sarEntries, SarEntryOK env s.clock x
  tokP : ∀ p ∈ s.tokPend, TokPendOK s.nextRid p
  sarP : ∀ p ∈ s.sarPend, SarPendOK s.nextRid p

theorem TokEntryOK.mono {env : Env} {c c' : Time} {x} (h : c ≤ c') (hx : TokEntryOK env c x) : TokEntryOK env c' x :=
  ⟨hx.1, Nat.le_trans hx.2.1 h, hx.2.2⟩

/-- errors are not cached (`cacheErrs` is read from the source) -/
theorem TokEntryOK.ne_err {env : Env} {c : Time} {x} (hx : TokEntryOK env c x) : x.2.2.ans ≠ .err :=
  fun herr => Bool.noConfusion ((hx.2.2.2 herr).symm.trans cacheErrs_false)

/-- what the judge demands of an answer given without a review (`tokCachedAt`) -/
theorem TokEntryOK.cachedAt {env : Env} {clock : Time} {cid : CacheId} {tok : Str} {e : TokEntry}
    (hx : TokEntryOK env clock (cid, tok, e)) (hlive : clock < e.expiry) {own : Option Inst} {ready reviewed : Bool} :
    tokCachedAt env cid.inst ⟨own, ready, tok, e.ans.res, clock, reviewed⟩ e.storedAt := by
  refine ⟨hx.2.1, hx.1 ▸ hx.ne_err, congrArg TokAns.res hx.1, ?_⟩
  rw [← hx.1, ← hx.2.2.1]
  exact hlive

theorem SarEntryOK.cachedAt {env : Env} {clock : Time} {cid : CacheId} {attrs : Attrs} {e : SarEntry}
    (hx : SarEntryOK env clock (cid, specOf attrs, e)) (hlive : clock ≤ e.expiry) {own : Option Inst} {ready reviewed : Bool} :
    sarCachedAt env cid.inst ⟨own, ready, attrs, decideStatus e.st, clock, reviewed⟩ e.storedAt :=
  ⟨hx.2.1, e.st, hx.1, rfl, hx.2.2 ▸ hlive⟩

theorem SarEntryOK.mono {env : Env} {c c' : Time} {x} (h : c ≤ c') (hx : SarEntryOK env c x) : SarEntryOK env c' x :=
  ⟨hx.1, Nat.le_trans hx.2.1 h, hx.2.2⟩

theorem TokPendOK.mono {n n' : Rid} {p} (h : n ≤ n') (hp : TokPendOK n p) : TokPendOK n' p :=
  ⟨Nat.lt_of_lt_of_le hp.1 h, hp.2⟩

theorem SarPendOK.mono {n n' : Rid} {p} (h : n ≤ n') (hp : SarPendOK n p) : SarPendOK n' p :=
  ⟨Nat.lt_of_lt_of_le hp.1 h, hp.2⟩

theorem inv_init (env : Env) : Inv env init where
  tokE _ h := by cases h
  sarE _ h := by cases h
  tokP _ h := by cases h
  sarP _ h := by cases h

/-! ## the pending requests and the cache entries, as lists -/

theorem mem_of_mem_filter {α} {p : α → Bool} {l : List α} {x : α} (h : x ∈ l.filter p) : x ∈ l :=
  (List.mem_filter.1 h).1

theorem mem_put {α} {p : α → Bool} {l : List α} {a x : α} (h : x ∈ a :: l.filter p) : x = a ∨ x ∈ l :=
  (List.mem_cons.1 h).imp_right mem_of_mem_filter

/- the four lists `Inv` speaks of change by a put (`a :: l.filter p`) or a drop (`l.filter p`) only -/

theorem forall_put {α} {Q : α → Prop} {p : α → Bool} {l : List α} {a : α} (ha : Q a) (hl : ∀ x ∈ l, Q x) :
    ∀ x ∈ a :: l.filter p, Q x :=
  fun x hx => (mem_put hx).elim (· ▸ ha) (hl x)

theorem forall_filter {α} {Q : α → Prop} {p : α → Bool} {l : List α} (hl : ∀ x ∈ l, Q x) : ∀ x ∈ l.filter p, Q x :=
  fun x hx => hl x (mem_of_mem_filter hx)

theorem findTok_some {s : State} {rid : Rid} {p : TokPend} (h : findTok s rid = some p) : p ∈ s.tokPend ∧ p.rid = rid := by
  unfold findTok at h
  exact ⟨List.mem_of_find?_eq_some h, by simpa using List.find?_some h⟩

theorem findSar_some {s : State} {rid : Rid} {p : SarPend} (h : findSar s rid = some p) : p ∈ s.sarPend ∧ p.rid = rid := by
  unfold findSar at h
  exact ⟨List.mem_of_find?_eq_some h, by simpa using List.find?_some h⟩

theorem findTok_setTok (s : State) (p : TokPend) : findTok (setTok s p) p.rid = some p := by
  unfold findTok setTok
  simp

theorem findSar_setSar (s : State) (p : SarPend) : findSar (setSar s p) p.rid = some p := by
  unfold findSar setSar
  simp

theorem findTok_delTok (s : State) (rid : Rid) : findTok (delTok s rid) rid = none := by
  unfold findTok delTok
  simp [List.find?_eq_none]

theorem findSar_delSar (s : State) (rid : Rid) : findSar (delSar s rid) rid = none := by
  unfold findSar delSar
  simp [List.find?_eq_none]

theorem findTok_none_of {s : State} {rid : Rid} (h : ∀ p ∈ s.tokPend, p.rid ≠ rid) : findTok s rid = none := by
  unfold findTok
  simp only [List.find?_eq_none, decide_eq_true_eq]
  exact h

theorem findSar_none_of {s : State} {rid : Rid} (h : ∀ p ∈ s.sarPend, p.rid ≠ rid) : findSar s rid = none := by
  unfold findSar
  simp only [List.find?_eq_none, decide_eq_true_eq]
  exact h

theorem mem_of_find_key {α β γ} [DecidableEq α] [DecidableEq β] {l : List (α × β × γ)} {a : α} {b : β} {c : γ}
    (h : (l.find? (fun x => decide (x.1 = a) && decide (x.2.1 = b))).map (·.2.2) = some c) : (a, b, c) ∈ l := by
  obtain ⟨⟨a', b', c'⟩, hf, hc⟩ := Option.map_eq_some_iff.1 h
  have hk := List.find?_some hf
  simp only [Bool.and_eq_true, decide_eq_true_eq] at hk hc
  rw [← hk.1, ← hk.2, ← hc]
  exact List.mem_of_find?_eq_some hf

theorem tokGet_mem {s : State} {cid : CacheId} {tok : Str} {e : TokEntry} (h : tokGet s cid tok = some e) :
    (cid, tok, e) ∈ s.tokEntries := mem_of_find_key h

theorem sarGet_mem {s : State} {cid : CacheId} {spec : Spec} {e : SarEntry} (h : sarGet s cid spec = some e) :
    (cid, spec, e) ∈ s.sarEntries := mem_of_find_key h

/-! ## ClientFor -/

theorem pickOne_mem {s : State} {c : Inst} {ch : Nat} {e : Endpoint} (h : pickOne s c ch = some e) : e ∈ readyOf s c := by
  unfold pickOne at h
  simp only at h
  split at h
  · cases h
  · exact List.mem_of_getElem? h

theorem pickOne_none {s : State} {c : Inst} {ch : Nat} (h : pickOne s c ch = none) : readyOf s c = [] := by
  unfold pickOne at h
  simp only at h
  split at h
  · rename_i he
    simpa using he
  · rename_i he
    have hne : readyOf s c ≠ [] := by simpa using he
    have hpos : 0 < (readyOf s c).length := List.length_pos_iff.2 hne
    have hlt : ch % (readyOf s c).length < (readyOf s c).length := Nat.mod_lt _ hpos
    rw [List.getElem?_eq_getElem hlt] at h
    cases h

theorem clientFor_nextRid (s : State) (n : Rid) (host : Str) (ch : Nat) :
    clientFor { s with nextRid := n } host ch = clientFor s host ch := rfl

/- `ClientFor` in the judges' terms: the cluster of the host (`mgrGet`) and whether it has a ready endpoint (`ownReady`). -/

theorem clientFor_ok {s : State} {host : Str} {ch : Nat} {c : Inst} {e : Endpoint} (h : clientFor s host ch = .ok (c, e)) :
    mgrGet s.mgr host = some c ∧ ownReady s host = true ∧ e ∈ readyOf s c := by
  unfold clientFor at h
  split at h
  · cases h
  · rename_i c' hg
    split at h
    · cases h
    · rename_i e' hp
      cases h
      have hm := pickOne_mem hp
      refine ⟨hg, ?_, hm⟩
      unfold ownReady
      rw [hg]
      cases hr : readyOf s c with
      | nil => rw [hr] at hm; cases hm
      | cons _ _ => simp [hr]

theorem clientFor_err {s : State} {host : Str} {ch : Nat} {k : ErrKind} (h : clientFor s host ch = .error k) :
    ownReady s host = false ∧ ((k = .notFound ∧ mgrGet s.mgr host = none) ∨ (k = .noReady ∧ ∃ c, mgrGet s.mgr host = some c)) := by
  unfold clientFor at h
  unfold ownReady
  split at h
  · rename_i hg
    cases h
    rw [hg]
    exact ⟨rfl, .inl ⟨rfl, rfl⟩⟩
  · rename_i c hg
    split at h
    · rename_i hp
      cases h
      rw [hg]
      exact ⟨congrArg (!List.isEmpty ·) (pickOne_none hp), .inr ⟨rfl, c, rfl⟩⟩
    · cases h

theorem clientFor_err_ne_upstream {s : State} {host : Str} {ch : Nat} {k : ErrKind} (h : clientFor s host ch = .error k) :
    k ≠ .upstream := by
  cases (clientFor_err h).2 with
  | inl hx =>
    rw [hx.1]
    nofun
  | inr hx =>
    rw [hx.1]
    nofun

theorem mem_readyOf {s : State} {c : Inst} {e : Endpoint} (h : e ∈ readyOf s c) :
    (c, e) ∈ s.eps ∧ e.isReady = true := by
  unfold readyOf at h
  obtain ⟨h1, h2⟩ := List.mem_filter.1 h
  unfold epsOf at h1
  obtain ⟨x, hx, hxe⟩ := List.mem_map.1 h1
  obtain ⟨hx1, hx2⟩ := List.mem_filter.1 hx
  simp only [decide_eq_true_eq] at hx2
  obtain ⟨a, b⟩ := x
  simp only at hx2 hxe
  subst hx2; subst hxe
  exact ⟨hx1, h2⟩

/-! ## how a request begins -/

theorem boundElsewhere_false {u c : Inst} (h : boundElsewhere true (some u) c = false) : c = u := by
  unfold boundElsewhere at h
  simp only [Bool.true_and, Option.isSome_some, ne_eq, Option.some.injEq, decide_not, Bool.not_eq_false',
    decide_eq_true_eq] at h
  exact h.symm

/-- how `AuthenticateToken` and `Authorize` both begin: `ClientFor(host)`, then the binding check -/
def enter (s : State) (host : Str) (ch : Nat) (bind : Bool) (up : Option Inst) : Except (Option Inst × ErrKind) (Inst × Endpoint) :=
  match clientFor s host ch with
  | .error k => .error (mgrGet s.mgr host, k)
  | .ok (c, e) => if boundElsewhere bind up c then .error (some c, .moved) else .ok (c, e)

theorem tokBegin_eq (env : Env) {s : State} {rid : Rid} (hn : s.nextRid ≤ rid) (host tok : Str) (ch : Nat) (up : Option Inst) :
    tokBegin env s rid host tok ch up =
      match enter s host ch env.cfg.bindTok up with
      | .error (i, k) => ({ s with nextRid := rid + 1 }, [.tok ⟨rid, host, tok, i, up, .error k, s.clock, .none, none, []⟩])
      | .ok (c, _) => (setTok { s with nextRid := rid + 1 } ⟨rid, host, tok, c, up, .resolved⟩, []) := by
  unfold tokBegin enter
  rw [if_neg (Nat.not_lt_of_le hn)]
  simp only [clientFor_nextRid]
  cases clientFor s host ch with
  | error k => rfl
  | ok ce => cases hbe : boundElsewhere env.cfg.bindTok up ce.1 <;> simp only [hbe, if_true, Bool.false_eq_true, if_false] <;> rfl

theorem sarBegin_eq (env : Env) {s : State} {rid : Rid} (hn : s.nextRid ≤ rid) (host : Str) (attrs : Attrs) (ch : Nat)
    (up : Option Inst) :
    sarBegin env s rid host attrs ch up =
      match enter s host ch env.cfg.bindSar up with
      | .error (i, k) => ({ s with nextRid := rid + 1 }, [.sar ⟨rid, host, attrs, i, up, sarErr k, s.clock, .none, none, []⟩])
      | .ok (c, e) => (setSar { s with nextRid := rid + 1 } ⟨rid, host, attrs, c, up, e.name, readyNames s c, .resolved⟩, []) := by
  unfold sarBegin enter
  rw [if_neg (Nat.not_lt_of_le hn)]
  simp only [clientFor_nextRid]
  cases clientFor s host ch with
  | error k => rfl
  | ok ce => cases hbe : boundElsewhere env.cfg.bindSar up ce.1 <;> simp only [hbe, if_true, Bool.false_eq_true, if_false] <;> rfl

/-- the last conjunct has the shape of the judges' skeleton (`judge_cases`, no review), so that it yields `TokJudge` and
    `SarJudge` of the refusal alike -/
theorem enter_error {s : State} {host : Str} {ch : Nat} {bind : Bool} {up : Option Inst} {i : Option Inst} {k : ErrKind}
    (h : enter s host ch bind up = .error (i, k)) :
    i = mgrGet s.mgr host ∧ (k = .notFound ∨ k = .noReady ∨ k = .moved) ∧
      ∀ {A : Prop} {B C D : Inst → Prop}, (k = .notFound → A) → (∀ c, k = .noReady → B c) →
      (∀ c, k = .moved → D c) →
      match mgrGet s.mgr host with
      | none => A
      | some c => if ownReady s host = false then B c else if false = true then C c else D c := by
  unfold enter at h
  split at h
  · rename_i k' hcf
    cases h
    refine ⟨rfl, (clientFor_err hcf).2.imp (·.1) fun hx => .inl hx.1, fun hA hB _ => ?_⟩
    rw [(clientFor_err hcf).1]
    cases (clientFor_err hcf).2 with
    | inl hx =>
      rw [hx.2]
      exact hA hx.1
    | inr hx =>
      obtain ⟨hk, c, hg⟩ := hx
      rw [hg]
      exact hB c hk
  · rename_i c e hcf
    split at h
    · cases h
      obtain ⟨hg, hready, _⟩ := clientFor_ok hcf
      refine ⟨hg.symm, .inr (.inr rfl), fun _ _ hD => ?_⟩
      rw [hg, hready]
      exact hD c rfl
    · cases h

theorem enter_ok {s : State} {host : Str} {ch : Nat} {bind : Bool} {up : Option Inst} {c : Inst} {e : Endpoint}
    (h : enter s host ch bind up = .ok (c, e)) :
    mgrGet s.mgr host = some c ∧ ownReady s host = true ∧ e ∈ readyOf s c ∧ boundElsewhere bind up c = false := by
  unfold enter at h
  split at h
  · cases h
  · rename_i c' e' hcf
    split at h
    · cases h
    · rename_i hbe
      cases h
      exact ⟨(clientFor_ok hcf).1, (clientFor_ok hcf).2.1, (clientFor_ok hcf).2.2, by simpa using hbe⟩

/-! ## what a step may do to the state -/

/-- of a request pending before, only the stage changes (so `OutOK.earlier` finds the request an answer goes to) and
    `TokPendOK`/`SarPendOK` is kept (`Inv.later`) -/
structure Later (env : Env) (s s' : State) : Prop where
  clock : s.clock ≤ s'.clock
  nextRid : s.nextRid ≤ s'.nextRid
  tokE : ∀ x ∈ s'.tokEntries, x ∈ s.tokEntries ∨ TokEntryOK env s'.clock x
  sarE : ∀ x ∈ s'.sarEntries, x ∈ s.sarEntries ∨ SarEntryOK env s'.clock x
  tokP : ∀ p' ∈ s'.tokPend, (∃ p ∈ s.tokPend, (∃ st, p' = { p with stage := st }) ∧ ∀ n, TokPendOK n p → TokPendOK n p') ∨
    (s.nextRid ≤ p'.rid ∧ TokPendOK s'.nextRid p')
  sarP : ∀ p' ∈ s'.sarPend, (∃ p ∈ s.sarPend, (∃ st, p' = { p with stage := st }) ∧ ∀ n, SarPendOK n p → SarPendOK n p') ∨
    (s.nextRid ≤ p'.rid ∧ SarPendOK s'.nextRid p')

theorem Inv.later {env : Env} {s s' : State} (h : Inv env s) (hl : Later env s s') : Inv env s' where
  tokE x hx := (hl.tokE x hx).elim (fun h' => (h.tokE x h').mono hl.clock) id
  sarE x hx := (hl.sarE x hx).elim (fun h' => (h.sarE x h').mono hl.clock) id
  tokP p' hp' := (hl.tokP p' hp').elim (fun ⟨p, hp, _, hk⟩ => hk _ ((h.tokP p hp).mono hl.nextRid)) (·.2)
  sarP p' hp' := (hl.sarP p' hp').elim (fun ⟨p, hp, _, hk⟩ => hk _ ((h.sarP p hp).mono hl.nextRid)) (·.2)

theorem Later.grow {env : Env} {s : State} {c n : Nat} {m e st g tm sm} (hc : s.clock ≤ c) (hn : s.nextRid ≤ n) :
    Later env s { s with clock := c, nextRid := n, mgr := m, eps := e, stopped := st, nextGen := g, tokMap := tm, sarMap := sm } where
  clock := hc
  nextRid := hn
  tokE _ hx := .inl hx
  sarE _ hx := .inl hx
  tokP p hp := .inl ⟨p, hp, ⟨_, rfl⟩, fun _ h => h⟩
  sarP p hp := .inl ⟨p, hp, ⟨_, rfl⟩, fun _ h => h⟩

theorem Later.other {env : Env} {s : State} {m e st g tm sm} :
    Later env s { s with mgr := m, eps := e, stopped := st, nextGen := g, tokMap := tm, sarMap := sm } :=
  .grow (Nat.le_refl _) (Nat.le_refl _)

theorem Later.refl {env : Env} {s : State} : Later env s s := .other

theorem Later.newTok {env : Env} {s s1 : State} (hs : Later env s s1) {p : TokPend} (hr : s.nextRid ≤ p.rid)
    (hp : TokPendOK s1.nextRid p) : Later env s (setTok s1 p) :=
  { hs with tokP := forall_put (.inr ⟨hr, hp⟩) hs.tokP }

theorem Later.newSar {env : Env} {s s1 : State} (hs : Later env s s1) {p : SarPend} (hr : s.nextRid ≤ p.rid)
    (hp : SarPendOK s1.nextRid p) : Later env s (setSar s1 p) :=
  { hs with sarP := forall_put (.inr ⟨hr, hp⟩) hs.sarP }

theorem Later.doneTok {env : Env} {s s1 : State} (hs : Later env s s1) (rid : Rid) : Later env s (delTok s1 rid) :=
  { hs with tokP := forall_filter hs.tokP }

theorem Later.doneSar {env : Env} {s s1 : State} (hs : Later env s s1) (rid : Rid) : Later env s (delSar s1 rid) :=
  { hs with sarP := forall_filter hs.sarP }

theorem Later.storeTok {env : Env} {s s1 : State} (hs : Later env s s1) {cid : CacheId} {tok : Str} {e : TokEntry}
    (he : TokEntryOK env s1.clock (cid, tok, e)) : Later env s (tokPut s1 cid tok e) :=
  { hs with tokE := forall_put (.inr he) hs.tokE }

theorem Later.storeSar {env : Env} {s s1 : State} (hs : Later env s s1) {cid : CacheId} {spec : Spec} {e : SarEntry}
    (he : SarEntryOK env s1.clock (cid, spec, e)) : Later env s (sarPut s1 cid spec e) :=
  { hs with sarE := forall_put (.inr he) hs.sarE }

theorem evStep_later (env : Env) (s : State) (e : Ev) : Later env s (evStep s e) := by
  cases e with
  | tick dt => exact .grow (Nat.le_add_right _ _) (Nat.le_refl _)
  | evictTok cid tok => exact { (.refl : Later env s s) with tokE := forall_filter fun _ => .inl }
  | evictSar cid spec => exact { (.refl : Later env s s) with sarE := forall_filter fun _ => .inl }
  | deleteWithStop key =>
    simp only [evStep]
    split <;> exact .other
  | dropTok host c =>
    simp only [evStep]
    split <;> exact .other
  | dropSar host c =>
    simp only [evStep]
    split <;> exact .other
  | _ => exact .other

/-! ## errors deny -/

theorem sarErr_deny (k : ErrKind) : (sarErr k).decision = .deny := decisionOnError_deny

theorem decideStatus_err_deny (st : SarStatus) (h : (decideStatus st).err ≠ none) : (decideStatus st).decision = .deny := by
  unfold decideStatus at h ⊢
  split
  · rfl
  · split
    · rfl
    · split <;> simp_all

theorem sarAns_err_deny (a : SarAns) (h : a.res.err ≠ none) : a.res.decision = .deny := by
  cases a with
  | status st => exact decideStatus_err_deny st h
  | err => exact sarErr_deny _

/-! ## what a step may answer -/

/-- the answer carries an id not handed out in `s` (a request that begins later), or goes to a request pending in `s` and is
    what the judge allows for its cluster -/
def OutOK (env : Env) (s : State) : Out → Prop
  | .tok t => s.nextRid ≤ t.rid ∨ ∃ p ∈ s.tokPend, p.rid = t.rid ∧ t.host = p.host ∧ t.tok = p.tok ∧ t.inst = some p.inst ∧
      t.upstream = p.upstream ∧ TokJudge env ⟨some p.inst, true, p.tok, t.res, t.time, t.ep.isSome⟩
  | .sar t => s.nextRid ≤ t.rid ∨ ∃ p ∈ s.sarPend, p.rid = t.rid ∧ t.host = p.host ∧ t.attrs = p.attrs ∧ t.inst = some p.inst ∧
      t.upstream = p.upstream ∧ SarJudge env ⟨some p.inst, true, p.attrs, t.res, t.time, t.ep.isSome⟩
  | .disp _ => True

structure Good (env : Env) (s : State) (x : State × List Out) : Prop where
  later : Later env s x.1
  outs : ∀ o ∈ x.2, OutOK env s o

theorem Good.silent {env : Env} {s s' : State} (h : Later env s s') : Good env s (s', []) :=
  ⟨h, fun _ ho => nomatch ho⟩

theorem Good.one {env : Env} {s s' : State} {o : Out} (h : Later env s s') (ho : OutOK env s o) : Good env s (s', [o]) :=
  ⟨h, fun _ ho' => List.mem_singleton.1 ho' ▸ ho⟩

/-! ## how far a step takes a request -/

section
variable {P : Type} (find : State → Rid → Option P) (rank : P → Nat) (A : Out → Prop) (rid : Rid)

/-- request `rid` is pending, at most `k` steps from its answer -/
def Waits (k : Nat) (s : State) : Prop := ∃ p, find s rid = some p ∧ rank p ≤ k

/-- where the request stands after one of its steps: answered (`A o`) and gone, or silent and waiting -/
inductive Stands (k : Nat) : State × List Out → Prop
  | done {s o} : A o → find s rid = none → Stands k (s, [o])
  | wait {s} : Waits find rank rid k s → Stands k (s, [])

/-- `x` is the result of a step of request `rid`, the one meant for rank `k + 1`, taken in `s` -/
structure Advances (env : Env) (s : State) (k : Nat) (x : State × List Out) : Prop where
  good : Good env s x
  forward : Waits find rank rid (k + 1) s → Stands find rank A rid k x
  idle : find s rid = none → x = (s, [])

variable {find rank A rid} {env : Env} {s : State} {k : Nat}

theorem Advances.gone (h : find s rid = none) : Advances find rank A rid env s k (s, []) :=
  ⟨.silent .refl, fun ⟨_, hf, _⟩ => absurd (h.symm.trans hf) nofun, fun _ => rfl⟩

theorem Advances.other {p : P} (hf : find s rid = some p) (hne : rank p ≠ k + 1) : Advances find rank A rid env s k (s, []) :=
  ⟨.silent .refl, fun ⟨p', hf', hk⟩ => .wait ⟨p', hf', by cases hf.symm.trans hf'; omega⟩, fun _ => rfl⟩

theorem Advances.answer {p : P} (hf : find s rid = some p) {s' : State} {o : Out} (hl : Later env s s') (ho : OutOK env s o)
    (ha : A o) (hi : find s' rid = none) : Advances find rank A rid env s k (s', [o]) :=
  ⟨.one hl ho, fun _ => .done ha hi, fun hn => absurd (hf.symm.trans hn) nofun⟩

end

/-- the number of steps a token request at this stage is from its answer, at most -/
def tokRank (p : TokPend) : Nat :=
  match p.stage with
  | .resolved => 4
  | .haveCache _ => 3
  | .missed _ => 2
  | .inFlight .. => 1

def sarRank (p : SarPend) : Nat :=
  match p.stage with
  | .resolved => 3
  | .haveCache _ => 2
  | .inFlight _ => 1

def TokAnswerTo (rid : Rid) (o : Out) : Prop := ∃ t, o = .tok t ∧ t.rid = rid
def SarAnswerTo (rid : Rid) (o : Out) : Prop := ∃ t, o = .sar t ∧ t.rid = rid

abbrev TokAdvances (env : Env) (s : State) (rid : Rid) := Advances findTok tokRank (TokAnswerTo rid) rid env s
abbrev SarAdvances (env : Env) (s : State) (rid : Rid) := Advances findSar sarRank (SarAnswerTo rid) rid env s

/-- the request moves on to stage `st`, silently; `hst`: a cache object held there was held before or is the request's own -/
theorem tok_restaged {env : Env} {s s0 : State} {rid : Rid} {p : TokPend} (hl : Later env s s0) (hf : findTok s rid = some p)
    {st : TokStage} (hst : ∀ cid, tokCid? st = some cid → tokCid? p.stage = some cid ∨ (cid.host = p.host ∧ cid.inst = p.inst))
    {k : Nat} (hk : tokRank { p with stage := st } ≤ k) : TokAdvances env s rid k (setTok s0 { p with stage := st }, []) where
  good := .silent { hl with tokP := forall_put (.inl ⟨p, (findTok_some hf).1, ⟨st, rfl⟩, fun _ h =>
    ⟨h.1, fun cid hc => (hst cid hc).elim (h.2 cid) id⟩⟩) hl.tokP }
  forward _ := by
    cases (findTok_some hf).2
    exact .wait ⟨_, findTok_setTok s0 _, hk⟩
  idle hn := absurd (hf.symm.trans hn) nofun

theorem sar_restaged {env : Env} {s s0 : State} {rid : Rid} {p : SarPend} (hl : Later env s s0) (hf : findSar s rid = some p)
    {st : SarStage} (hst : ∀ cid, sarCid? st = some cid → sarCid? p.stage = some cid ∨ (cid.host = p.host ∧ cid.inst = p.inst))
    {k : Nat} (hk : sarRank { p with stage := st } ≤ k) : SarAdvances env s rid k (setSar s0 { p with stage := st }, []) where
  good := .silent { hl with sarP := forall_put (.inl ⟨p, (findSar_some hf).1, ⟨st, rfl⟩, fun _ h =>
    ⟨h.1, fun cid hc => (hst cid hc).elim (h.2 cid) id⟩⟩) hl.sarP }
  forward _ := by
    cases (findSar_some hf).2
    exact .wait ⟨_, findSar_setSar s0 _, hk⟩
  idle hn := absurd (hf.symm.trans hn) nofun

/-! ## the step functions, one by one -/

theorem tokBegin_good {env : Env} {s : State} (rid : Rid) (host tok : Str) (ch : Nat) (up : Option Inst) :
    Good env s (tokBegin env s rid host tok ch up) := by
  by_cases hlt : rid < s.nextRid
  · unfold tokBegin
    rw [if_pos hlt]
    exact .silent .refl
  · have hr : s.nextRid ≤ rid := Nat.le_of_not_lt hlt
    have hl : Later env s { s with nextRid := rid + 1 } := .grow (Nat.le_refl _) (Nat.le_succ_of_le hr)
    rw [tokBegin_eq env hr]
    cases enter s host ch env.cfg.bindTok up with
    | error ik => exact .one hl (Or.inl hr)
    | ok ce => exact .silent (hl.newTok hr ⟨Nat.lt_succ_self _, nofun⟩)

theorem tokCache_advances {env : Env} {s : State} (rid : Rid) : TokAdvances env s rid 3 (tokCache env s rid) := by
  unfold tokCache
  split
  · rename_i p hf
    cases hst : p.stage with
    | resolved =>
      simp only []
      split
      · exact tok_restaged (st := .missed none) .refl hf nofun (Nat.le_succ 2)
      · split
        · exact tok_restaged .refl hf (fun _ hc => .inr (by cases hc; exact ⟨rfl, rfl⟩)) (Nat.le_refl 3)
        · exact tok_restaged .other hf (fun _ hc => .inr (by cases hc; exact ⟨rfl, rfl⟩)) (Nat.le_refl 3)
    | _ => exact .other hf (by simp [tokRank, hst])
  · exact .gone ‹_›

theorem tokLookup_advances {env : Env} {s : State} (h : Inv env s) (rid : Rid) : TokAdvances env s rid 2 (tokLookup s rid) := by
  unfold tokLookup
  split
  · rename_i p hf
    obtain ⟨hp, hr⟩ := findTok_some hf
    cases hst : p.stage with
    | haveCache cid =>
      simp only []
      have hmiss : TokAdvances env s rid 2 (setTok s { p with stage := .missed (some cid) }, []) :=
        tok_restaged .refl hf (fun _ hc => .inl (by rw [hst]; exact hc)) (Nat.le_refl 2)
      split
      · rename_i e hg
        split
        · rename_i hlive
          -- the object is the request's own (`Inv.tokP`), so its entry is the own cluster's earlier answer
          have hown := ((h.tokP p hp).2 cid (by rw [hst]; rfl)).2
          exact .answer hf (Later.refl.doneTok rid) (Or.inr ⟨p, hp, hr, rfl, rfl, rfl, rfl,
            Or.inr ⟨e.storedAt, hown ▸ (h.tokE _ (tokGet_mem hg)).cachedAt hlive⟩⟩) ⟨_, rfl, rfl⟩ (findTok_delTok s rid)
        · exact hmiss
      · exact hmiss
    | _ => exact .other hf (by simp [tokRank, hst])
  · exact .gone ‹_›

theorem tokReview_advances {env : Env} {s : State} (rid : Rid) (ch : Nat) : TokAdvances env s rid 1 (tokReview s rid ch) := by
  unfold tokReview
  split
  · rename_i p hf
    obtain ⟨hp, hr⟩ := findTok_some hf
    have hrefuse : ∀ k, k ≠ .upstream →
        TokAdvances env s rid 1 (delTok s rid, [tokOutErr s rid p.host p.tok (some p.inst) p.upstream k]) := fun k hk =>
      .answer hf (Later.refl.doneTok rid) (Or.inr ⟨p, hp, hr, rfl, rfl, rfl, rfl, Or.inl ⟨rfl, fun e => hk (TokRes.error.inj e)⟩⟩)
        ⟨_, rfl, rfl⟩ (findTok_delTok s rid)
    cases hst : p.stage with
    | missed cid =>
      simp only []
      split
      · rename_i k hk
        exact hrefuse k (clientFor_err_ne_upstream hk)
      · split
        · exact hrefuse .moved nofun
        · exact tok_restaged .refl hf (fun _ hc => .inl (by rw [hst]; exact hc)) (Nat.le_refl 1)
    | _ => exact .other hf (by simp [tokRank, hst])
  · exact .gone ‹_›

theorem tokFinish_advances {env : Env} {s : State} (h : Inv env s) (rid : Rid) : TokAdvances env s rid 0 (tokFinish env s rid) := by
  unfold tokFinish
  split
  · rename_i p hf
    obtain ⟨hp, hr⟩ := findTok_some hf
    cases hst : p.stage with
    | inFlight cid ep ready =>
      have hout : OutOK env s (.tok ⟨rid, p.host, p.tok, some p.inst, p.upstream, (env.tokO p.inst p.tok s.clock).res,
          s.clock, .fresh, some ep, ready⟩) := Or.inr ⟨p, hp, hr, rfl, rfl, rfl, rfl, rfl⟩
      have hdone : Later env s (delTok s rid) := Later.refl.doneTok rid
      have hgone := findTok_delTok s rid
      have hplain : TokAdvances env s rid 0 (delTok s rid, [_]) := .answer hf hdone hout ⟨_, rfl, rfl⟩ hgone
      simp only []
      split
      · exact hplain
      · rename_i c
        split
        · exact hplain
        · rename_i hne
          split
          · refine .answer hf (hdone.storeTok ⟨?_, Nat.le_refl _, rfl, fun herr => ?_⟩) hout ⟨_, rfl, rfl⟩ hgone
            · exact congrArg (env.tokO · p.tok s.clock) ((h.tokP p hp).2 c (by rw [hst]; rfl)).2.symm
            · cases hce : cacheErrs
              · exact absurd ⟨herr, hce⟩ hne
              · rfl
          · exact hplain
    | _ => exact .other hf (by simp [tokRank, hst])
  · exact .gone ‹_›

theorem sarBegin_good {env : Env} {s : State} (rid : Rid) (host : Str) (attrs : Attrs) (ch : Nat) (up : Option Inst) :
    Good env s (sarBegin env s rid host attrs ch up) := by
  by_cases hlt : rid < s.nextRid
  · unfold sarBegin
    rw [if_pos hlt]
    exact .silent .refl
  · have hr : s.nextRid ≤ rid := Nat.le_of_not_lt hlt
    have hl : Later env s { s with nextRid := rid + 1 } := .grow (Nat.le_refl _) (Nat.le_succ_of_le hr)
    rw [sarBegin_eq env hr]
    cases enter s host ch env.cfg.bindSar up with
    | error ik => exact .one hl (Or.inl hr)
    | ok ce => exact .silent (hl.newSar hr ⟨Nat.lt_succ_self _, nofun⟩)

theorem sarCache_advances {env : Env} {s : State} (rid : Rid) : SarAdvances env s rid 2 (sarCache s rid) := by
  unfold sarCache
  split
  · rename_i p hf
    cases hst : p.stage with
    | resolved =>
      simp only []
      split
      · exact sar_restaged .refl hf (fun _ hc => .inr (by cases hc; exact ⟨rfl, rfl⟩)) (Nat.le_refl 2)
      · exact sar_restaged .other hf (fun _ hc => .inr (by cases hc; exact ⟨rfl, rfl⟩)) (Nat.le_refl 2)
    | _ => exact .other hf (by simp [sarRank, hst])
  · exact .gone ‹_›

theorem sarLookup_advances {env : Env} {s : State} (h : Inv env s) (rid : Rid) : SarAdvances env s rid 1 (sarLookup s rid) := by
  unfold sarLookup
  split
  · rename_i p hf
    obtain ⟨hp, hr⟩ := findSar_some hf
    cases hst : p.stage with
    | haveCache cid =>
      simp only []
      have hmiss : SarAdvances env s rid 1 (setSar s { p with stage := .inFlight cid }, []) :=
        sar_restaged .refl hf (fun _ hc => .inl (by rw [hst]; exact hc)) (Nat.le_refl 1)
      split
      · rename_i e hg
        split
        · rename_i hlive
          have hown := ((h.sarP p hp).2 cid (by rw [hst]; rfl)).2
          exact .answer hf (Later.refl.doneSar rid) (Or.inr ⟨p, hp, hr, rfl, rfl, rfl, rfl, decideStatus_err_deny e.st,
            Or.inr ⟨e.storedAt, hown ▸ (h.sarE _ (sarGet_mem hg)).cachedAt hlive⟩⟩) ⟨_, rfl, rfl⟩ (findSar_delSar s rid)
        · exact hmiss
      · exact hmiss
    | _ => exact .other hf (by simp [sarRank, hst])
  · exact .gone ‹_›

theorem sarFinish_advances {env : Env} {s : State} (h : Inv env s) (rid : Rid) : SarAdvances env s rid 0 (sarFinish env s rid) := by
  unfold sarFinish
  split
  · rename_i p hf
    obtain ⟨hp, hr⟩ := findSar_some hf
    cases hst : p.stage with
    | inFlight cid =>
      have hout : OutOK env s (.sar ⟨rid, p.host, p.attrs, some p.inst, p.upstream,
          (env.sarO p.inst (specOf p.attrs) s.clock).res, s.clock, .fresh, some p.ep, p.ready⟩) :=
        Or.inr ⟨p, hp, hr, rfl, rfl, rfl, rfl, sarAns_err_deny _, rfl⟩
      have hdone : Later env s (delSar s rid) := Later.refl.doneSar rid
      have hgone := findSar_delSar s rid
      have hplain : SarAdvances env s rid 0 (delSar s rid, [_]) := .answer hf hdone hout ⟨_, rfl, rfl⟩ hgone
      simp only []
      split
      · exact hplain
      · rename_i st hans
        split
        · refine .answer hf (hdone.storeSar ⟨?_, Nat.le_refl _, rfl⟩) hout ⟨_, rfl, rfl⟩ hgone
          exact ((h.sarP p hp).2 cid (by rw [hst]; rfl)).2 ▸ hans
        · exact hplain
    | _ => exact .other hf (by simp [sarRank, hst])
  · exact .gone ‹_›

/-! ## every step, every run -/

theorem step_good {env : Env} {s : State} (h : Inv env s) (st : Step) : Good env s (step env s st) := by
  cases st with
  | ev e => exact .silent (evStep_later env s e)
  | tokBegin rid host tok ch up => exact tokBegin_good rid host tok ch up
  | tokCache rid => exact (tokCache_advances rid).good
  | tokLookup rid => exact (tokLookup_advances h rid).good
  | tokReview rid ch => exact (tokReview_advances rid ch).good
  | tokFinish rid => exact (tokFinish_advances h rid).good
  | sarBegin rid host attrs ch up => exact sarBegin_good rid host attrs ch up
  | sarCache rid => exact (sarCache_advances rid).good
  | sarLookup rid => exact (sarLookup_advances h rid).good
  | sarFinish rid => exact (sarFinish_advances h rid).good
  | dispatch host up ch => exact .one .refl trivial

theorem inv_step {env : Env} {s : State} (h : Inv env s) (st : Step) : Inv env (step env s st).1 :=
  h.later (step_good h st).later

theorem inv_runSteps {env : Env} : ∀ (steps : List Step) {s : State}, Inv env s → Inv env (runSteps env s steps).1
  | [], _, h => h
  | st :: rest, _, h => inv_runSteps rest (inv_step h st)

/-! ## every run: answers go to the requests pending at its start, or to ids handed out later -/

theorem OutOK.earlier {env : Env} {s s' : State} {o : Out} (hl : Later env s s') (h : OutOK env s' o) : OutOK env s o := by
  cases o with
  | disp d => trivial
  | tok t =>
    refine h.elim (fun hf => .inl (Nat.le_trans hl.nextRid hf)) fun ⟨p', hp', hx⟩ => ?_
    refine (hl.tokP p' hp').elim (fun ⟨p, hp, ⟨st, e⟩, _⟩ => .inr ⟨p, hp, ?_⟩) fun hn => .inl (hx.1 ▸ hn.1)
    subst e
    exact hx
  | sar t =>
    refine h.elim (fun hf => .inl (Nat.le_trans hl.nextRid hf)) fun ⟨p', hp', hx⟩ => ?_
    refine (hl.sarP p' hp').elim (fun ⟨p, hp, ⟨st, e⟩, _⟩ => .inr ⟨p, hp, ?_⟩) fun hn => .inl (hx.1 ▸ hn.1)
    subst e
    exact hx

theorem run_outOK {env : Env} : ∀ (steps : List Step) {s : State}, Inv env s → ∀ o ∈ (runSteps env s steps).2, OutOK env s o
  | [], _, _, _, ho => nomatch ho
  | st :: rest, _, h, o, ho =>
    have hg := step_good h st
    (List.mem_append.1 ho).elim (hg.outs o) fun ho' => (run_outOK rest (inv_step h st) o ho').earlier hg.later

/-! ## the scheduled requests driven by the harness are small-step runs -/

theorem runSteps_append (env : Env) (s : State) (a b : List Step) :
    runSteps env s (a ++ b) =
      ((runSteps env (runSteps env s a).1 b).1, (runSteps env s a).2 ++ (runSteps env (runSteps env s a).1 b).2) := by
  induction a generalizing s with
  | nil => simp [runSteps]
  | cons x xs ih =>
    simp only [List.cons_append, runSteps]
    rw [ih]
    simp [List.append_assoc]

/-- the run record is faithful: its state and answers are those of running its step list from `init` -/
def RunOK (env : Env) (r : Run) : Prop := runSteps env init r.steps = (r.s, r.outs)

theorem runOK_init (env : Env) : RunOK env ⟨init, [], []⟩ := rfl

theorem RunOK.app {env : Env} {r : Run} (h : RunOK env r) (st : Step) : RunOK env (r.app env st) := by
  unfold RunOK Run.app at *
  simp only []
  rw [runSteps_append, h]
  simp [runSteps]

/-- a gate of the filter chain: the request stops at `a` or goes on to `b`, which extends `a` -/
theorem RunOK.ite {env : Env} {c : Prop} [Decidable c] {a b : Run} (ha : RunOK env a) (hb : RunOK env a → RunOK env b) :
    RunOK env (if c then a else b) := by
  split
  · exact ha
  · exact hb ha

/- the terms follow `runMacro` line by line: single steps (`RunOK.app`), nested requests (recursion), gates (`RunOK.ite`) -/
mutual
  theorem runOK_macro (env : Env) : ∀ (m : Macro) (r : Run), RunOK env r → RunOK env (runMacro env r m)
    | .ev e, r, h => by
      unfold runMacro
      exact h.app _
    | .tok hostport tok ch1 ch2 bound mid0 mid1 mid2, r, h => by
      unfold runMacro
      exact h.ite fun h =>
        (((((runOK_macros env mid0 _ h).app _).app _).app _).app _).ite fun h =>
        ((runOK_macros env mid1 _ h).app _).ite fun h =>
        (runOK_macros env mid2 _ h).app _
    | .sar hostport attrs ch bound mid0 mid, r, h => by
      unfold runMacro
      exact h.ite fun h =>
        (((((runOK_macros env mid0 _ h).app _).app _).app _).app _).ite fun h =>
        (runOK_macros env mid _ h).app _
    | .pipe hostport tok target mid0 mid1 mid2 midA mid midD, r, h => by
      unfold runMacro
      refine h.ite fun h =>
        ((((((runOK_macros env mid0 _ h).app _).app _).app _).app _).ite fun h =>
          ((runOK_macros env mid1 _ h).app _).ite fun h =>
          (runOK_macros env mid2 _ h).app _).ite fun h => ?_
      have hA := runOK_macros env midA _ h
      cases target with
      | none => exact (runOK_macros env midD _ hA).app _
      | some tg =>
        exact (((((hA.app _).app _).app _).app _).ite fun h => (runOK_macros env mid _ h).app _).ite fun h =>
          (runOK_macros env midD _ h).app _
  theorem runOK_macros (env : Env) : ∀ (ms : List Macro) (r : Run), RunOK env r → RunOK env (runMacros env r ms)
    | [], r, h => by
      unfold runMacros
      exact h
    | m :: ms, r, h => by
      unfold runMacros
      exact runOK_macros env ms _ (runOK_macro env m r h)
end

/-! ## an uninterrupted request is answered exactly once -/

section
variable {P : Type} (find : State → Rid → Option P) (rank : P → Nat) (A : Out → Prop) (rid : Rid)

/-- the last steps of a request that nothing interrupts: the first of `k` remaining steps is the one meant for rank `k` -/
inductive Chain (env : Env) : List Step → Prop
  | nil : Chain env []
  | cons {st rest} : (∀ s, Inv env s → Advances find rank A rid env s rest.length (step env s st)) → Chain env rest →
      Chain env (st :: rest)

variable {find rank A rid}

/-- `h0`: a waiting request has positive rank, so at the end of the chain it has been answered -/
theorem Chain.run {env : Env} (h0 : ∀ p, 0 < rank p) {steps : List Step} (hc : Chain find rank A rid env steps) :
    ∀ {x : State × List Out}, Inv env x.1 → Stands find rank A rid steps.length x →
      ∃ o, x.2 ++ (runSteps env x.1 steps).2 = [o] ∧ A o := by
  induction hc with
  | nil =>
    intro x _ hx
    cases hx with
    | done ha _ => exact ⟨_, rfl, ha⟩
    | wait hw =>
      obtain ⟨p, _, hp⟩ := hw
      exact absurd hp (Nat.not_le_of_lt (h0 p))
  | @cons st _ hstep _ ih =>
    intro x hinv hx
    cases hx with
    | done ha hi =>
      simp only [runSteps, (hstep _ hinv).idle hi, List.nil_append]
      exact ih hinv (.done ha hi)
    | wait hw =>
      have := ih (inv_step hinv st) ((hstep _ hinv).forward hw)
      simp only [runSteps, List.nil_append] at this ⊢
      exact this

end

theorem tokBegin_at {env : Env} {s : State} (h : Inv env s) {rid : Rid} (hfresh : s.nextRid ≤ rid) (host tok : Str)
    (ch : Nat) (up : Option Inst) : Stands findTok tokRank (TokAnswerTo rid) rid 4 (tokBegin env s rid host tok ch up) := by
  rw [tokBegin_eq env hfresh]
  cases enter s host ch env.cfg.bindTok up with
  | error ik => exact .done ⟨_, rfl, rfl⟩ (findTok_none_of fun p hp e => Nat.not_lt_of_le hfresh (e ▸ (h.tokP p hp).1))
  | ok ce => exact .wait ⟨_, findTok_setTok _ ⟨rid, host, tok, ce.1, up, .resolved⟩, Nat.le_refl 4⟩

theorem tok_answered_once {env : Env} {s : State} (h : Inv env s) {rid : Rid} (hfresh : s.nextRid ≤ rid) (host tok : Str)
    (ch1 ch2 : Nat) (up : Option Inst) :
    ∃ t, (runSteps env s (tokSteps rid host tok ch1 ch2 up)).2 = [.tok t] ∧ t.rid = rid := by
  have hc : Chain findTok tokRank (TokAnswerTo rid) rid env [.tokCache rid, .tokLookup rid, .tokReview rid ch2, .tokFinish rid] :=
    .cons (fun _ _ => tokCache_advances rid) <| .cons (fun _ hi => tokLookup_advances hi rid) <|
    .cons (fun _ _ => tokReview_advances rid ch2) <| .cons (fun _ hi => tokFinish_advances hi rid) .nil
  obtain ⟨_, ho, t, rfl, ht⟩ := hc.run (fun p => by unfold tokRank; split <;> decide)
    (inv_step h (.tokBegin rid host tok ch1 up)) (tokBegin_at h hfresh host tok ch1 up)
  exact ⟨t, ho, ht⟩

theorem sarBegin_at {env : Env} {s : State} (h : Inv env s) {rid : Rid} (hfresh : s.nextRid ≤ rid) (host : Str) (attrs : Attrs)
    (ch : Nat) (up : Option Inst) : Stands findSar sarRank (SarAnswerTo rid) rid 3 (sarBegin env s rid host attrs ch up) := by
  rw [sarBegin_eq env hfresh]
  cases enter s host ch env.cfg.bindSar up with
  | error ik => exact .done ⟨_, rfl, rfl⟩ (findSar_none_of fun p hp e => Nat.not_lt_of_le hfresh (e ▸ (h.sarP p hp).1))
  | ok ce => exact .wait ⟨_, findSar_setSar _ ⟨rid, host, attrs, ce.1, up, ce.2.name, readyNames s ce.1, .resolved⟩, Nat.le_refl 3⟩

theorem sar_answered_once {env : Env} {s : State} (h : Inv env s) {rid : Rid} (hfresh : s.nextRid ≤ rid) (host : Str)
    (attrs : Attrs) (ch : Nat) (up : Option Inst) :
    ∃ t, (runSteps env s (sarSteps rid host attrs ch up)).2 = [.sar t] ∧ t.rid = rid := by
  have hc : Chain findSar sarRank (SarAnswerTo rid) rid env [.sarCache rid, .sarLookup rid, .sarFinish rid] :=
    .cons (fun _ _ => sarCache_advances rid) <| .cons (fun _ hi => sarLookup_advances hi rid) <|
    .cons (fun _ hi => sarFinish_advances hi rid) .nil
  obtain ⟨_, ho, t, rfl, ht⟩ := hc.run (fun p => by unfold sarRank; split <;> decide)
    (inv_step h (.sarBegin rid host attrs ch up)) (sarBegin_at h hfresh host attrs ch up)
  exact ⟨t, ho, ht⟩

end KG.Lemmas.AuthCache
